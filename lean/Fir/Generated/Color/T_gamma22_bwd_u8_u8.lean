/-
  GENERATED by /verif/tools/extract_tables.py from the tables of the running implementation - do not edit.
-/
import Fir.Proofs.ColorLemmas
namespace Fir.Gen.Color

/-- table `gamma22_bwd_u8_u8` (256 entries of 8 bits), packed 256 entries per numeral -/
def gamma22_bwd_u8_u8 : List Nat := [
  0xfffffefefdfdfcfcfbfbfafaf9f9f9f8f8f7f7f6f6f5f5f4f4f3f3f2f2f1f1f0f0efefeeeeededececebebeaeae9e9e8e8e7e7e6e6e5e5e4e4e3e3e2e2e1e1e0e0dfdfdedddddcdcdbdbdadad9d9d8d7d7d6d6d5d5d4d4d3d2d2d1d1d0cfcfcececdcdcccbcbcacac9c8c8c7c7c6c5c5c4c3c3c2c2c1c0c0bfbebebdbcbcbbbabab9b8b8b7b6b6b5b4b4b3b2b2b1b0afafaeadadacabaaaaa9a8a7a7a6a5a4a4a3a2a1a0a09f9e9d9c9c9b9a9998979796959493929190908f8e8d8c8b8a898887868584838281807f7e7d7c7b7a78777675747372706f6e6d6b6a696766656362605f5d5c5a5957555452504e4c4a48464442403d3b3835322e2b27221c1500]

/-- complete-domain check: end points fixed, every consecutive pair ordered -/
theorem gamma22_bwd_u8_u8_ok : Fir.tableOk 256 8 gamma22_bwd_u8_u8 = true :=
  Fir.Proofs.tableOk_of_tableAsc (by decide +kernel)

end Fir.Gen.Color
