/-
  GENERATED by /verif/tools/extract_tables.py from the tables of the running implementation - do not edit.
-/
import Fir.Proofs.ColorLemmas
namespace Fir.Gen.Color

/-- table `srgb_fwd_u16_u16` (65536 entries of 16 bits), packed 256 entries per numeral -/
def srgb_fwd_u16_u16 : List Nat := [
  0x14001400140014001300130013001300130013001300130013001300130013001200120012001200120012001200120012001200120012001200110011001100110011001100110011001100110011001100110010001000100010001000100010001000100010001000100010000f000f000f000f000f000f000f000f000f000f000f000f000f000e000e000e000e000e000e000e000e000e000e000e000e000e000d000d000d000d000d000d000d000d000d000d000d000d000d000c000c000c000c000c000c000c000c000c000c000c000c000c000b000b000b000b000b000b000b000b000b000b000b000b000b000a000a000a000a000a000a000a000a000a000a000a000a000a000900090009000900090009000900090009000900090009000900080008000800080008000800080008000800080008000800080007000700070007000700070007000700070007000700070007000600060006000600060006000600060006000600060006000500050005000500050005000500050005000500050005000500040004000400040004000400040004000400040004000400040003000300030003000300030003000300030003000300030003000200020002000200020002000200020002000200020002000200010001000100010001000100010001000100010001000100010000000000000000000000000000,
  0x2800270027002700270027002700270027002700270027002700270026002600260026002600260026002600260026002600260026002500250025002500250025002500250025002500250025002500240024002400240024002400240024002400240024002400240023002300230023002300230023002300230023002300230023002200220022002200220022002200220022002200220022002200210021002100210021002100210021002100210021002100210020002000200020002000200020002000200020002000200020001f001f001f001f001f001f001f001f001f001f001f001f001e001e001e001e001e001e001e001e001e001e001e001e001e001d001d001d001d001d001d001d001d001d001d001d001d001d001c001c001c001c001c001c001c001c001c001c001c001c001c001b001b001b001b001b001b001b001b001b001b001b001b001b001a001a001a001a001a001a001a001a001a001a001a001a001a00190019001900190019001900190019001900190019001900190018001800180018001800180018001800180018001800180018001700170017001700170017001700170017001700170017001700160016001600160016001600160016001600160016001600160015001500150015001500150015001500150015001500150015001400140014001400140014001400140014,
  0x3b003b003b003b003b003b003b003b003b003b003b003b003a003a003a003a003a003a003a003a003a003a003a003a003a003900390039003900390039003900390039003900390039003900380038003800380038003800380038003800380038003800370037003700370037003700370037003700370037003700370036003600360036003600360036003600360036003600360036003500350035003500350035003500350035003500350035003500340034003400340034003400340034003400340034003400340033003300330033003300330033003300330033003300330033003200320032003200320032003200320032003200320032003200310031003100310031003100310031003100310031003100310030003000300030003000300030003000300030003000300030002f002f002f002f002f002f002f002f002f002f002f002f002f002e002e002e002e002e002e002e002e002e002e002e002e002e002d002d002d002d002d002d002d002d002d002d002d002d002d002c002c002c002c002c002c002c002c002c002c002c002c002b002b002b002b002b002b002b002b002b002b002b002b002b002a002a002a002a002a002a002a002a002a002a002a002a002a0029002900290029002900290029002900290029002900290029002800280028002800280028002800280028002800280028,
  0x4f004f004f004f004f004f004f004f004f004e004e004e004e004e004e004e004e004e004e004e004e004e004d004d004d004d004d004d004d004d004d004d004d004d004d004c004c004c004c004c004c004c004c004c004c004c004c004c004b004b004b004b004b004b004b004b004b004b004b004b004b004a004a004a004a004a004a004a004a004a004a004a004a004a004900490049004900490049004900490049004900490049004900480048004800480048004800480048004800480048004800480047004700470047004700470047004700470047004700470047004600460046004600460046004600460046004600460046004600450045004500450045004500450045004500450045004500440044004400440044004400440044004400440044004400440043004300430043004300430043004300430043004300430043004200420042004200420042004200420042004200420042004200410041004100410041004100410041004100410041004100410040004000400040004000400040004000400040004000400040003f003f003f003f003f003f003f003f003f003f003f003f003f003e003e003e003e003e003e003e003e003e003e003e003e003e003d003d003d003d003d003d003d003d003d003d003d003d003d003c003c003c003c003c003c003c003c003c003c003c003c003c003b,
  0x63006300630063006300630063006200620062006200620062006200620062006200620062006200610061006100610061006100610061006100610061006100610060006000600060006000600060006000600060006000600060005f005f005f005f005f005f005f005f005f005f005f005f005f005e005e005e005e005e005e005e005e005e005e005e005e005d005d005d005d005d005d005d005d005d005d005d005d005d005c005c005c005c005c005c005c005c005c005c005c005c005c005b005b005b005b005b005b005b005b005b005b005b005b005b005a005a005a005a005a005a005a005a005a005a005a005a005a005900590059005900590059005900590059005900590059005900580058005800580058005800580058005800580058005800580057005700570057005700570057005700570057005700570057005600560056005600560056005600560056005600560056005600550055005500550055005500550055005500550055005500550054005400540054005400540054005400540054005400540054005300530053005300530053005300530053005300530053005300520052005200520052005200520052005200520052005200520051005100510051005100510051005100510051005100510050005000500050005000500050005000500050005000500050004f004f004f004f,
  0x770077007700770076007600760076007600760076007600760076007600760076007500750075007500750075007500750075007500750075007500740074007400740074007400740074007400740074007400740073007300730073007300730073007300730073007300730073007200720072007200720072007200720072007200720072007200710071007100710071007100710071007100710071007100710070007000700070007000700070007000700070007000700070006f006f006f006f006f006f006f006f006f006f006f006f006f006e006e006e006e006e006e006e006e006e006e006e006e006e006d006d006d006d006d006d006d006d006d006d006d006d006d006c006c006c006c006c006c006c006c006c006c006c006c006c006b006b006b006b006b006b006b006b006b006b006b006b006b006a006a006a006a006a006a006a006a006a006a006a006a006900690069006900690069006900690069006900690069006900680068006800680068006800680068006800680068006800680067006700670067006700670067006700670067006700670067006600660066006600660066006600660066006600660066006600650065006500650065006500650065006500650065006500650064006400640064006400640064006400640064006400640064006300630063006300630063,
  0x8b008b008a008a008a008a008a008a008a008a008a008a008a008a008a008900890089008900890089008900890089008900890089008900880088008800880088008800880088008800880088008800880087008700870087008700870087008700870087008700870087008600860086008600860086008600860086008600860086008600850085008500850085008500850085008500850085008500850084008400840084008400840084008400840084008400840084008300830083008300830083008300830083008300830083008200820082008200820082008200820082008200820082008200810081008100810081008100810081008100810081008100810080008000800080008000800080008000800080008000800080007f007f007f007f007f007f007f007f007f007f007f007f007f007e007e007e007e007e007e007e007e007e007e007e007e007e007d007d007d007d007d007d007d007d007d007d007d007d007d007c007c007c007c007c007c007c007c007c007c007c007c007c007b007b007b007b007b007b007b007b007b007b007b007b007b007a007a007a007a007a007a007a007a007a007a007a007a007a0079007900790079007900790079007900790079007900790079007800780078007800780078007800780078007800780078007800770077007700770077007700770077,
  0x9e009e009e009e009e009e009e009e009e009e009e009e009e009d009d009d009d009d009d009d009d009d009d009d009d009d009c009c009c009c009c009c009c009c009c009c009c009c009b009b009b009b009b009b009b009b009b009b009b009b009b009a009a009a009a009a009a009a009a009a009a009a009a009a009900990099009900990099009900990099009900990099009900980098009800980098009800980098009800980098009800980097009700970097009700970097009700970097009700970097009600960096009600960096009600960096009600960096009600950095009500950095009500950095009500950095009500950094009400940094009400940094009400940094009400940094009300930093009300930093009300930093009300930093009300920092009200920092009200920092009200920092009200920091009100910091009100910091009100910091009100910091009000900090009000900090009000900090009000900090008f008f008f008f008f008f008f008f008f008f008f008f008f008e008e008e008e008e008e008e008e008e008e008e008e008e008d008d008d008d008d008d008d008d008d008d008d008d008d008c008c008c008c008c008c008c008c008c008c008c008c008c008b008b008b008b008b008b008b008b008b008b008b,
  0xb200b200b200b200b200b200b200b200b200b200b100b100b100b100b100b100b100b100b100b100b100b100b100b000b000b000b000b000b000b000b000b000b000b000b000b000af00af00af00af00af00af00af00af00af00af00af00af00af00ae00ae00ae00ae00ae00ae00ae00ae00ae00ae00ae00ae00ae00ad00ad00ad00ad00ad00ad00ad00ad00ad00ad00ad00ad00ad00ac00ac00ac00ac00ac00ac00ac00ac00ac00ac00ac00ac00ac00ab00ab00ab00ab00ab00ab00ab00ab00ab00ab00ab00ab00ab00aa00aa00aa00aa00aa00aa00aa00aa00aa00aa00aa00aa00aa00a900a900a900a900a900a900a900a900a900a900a900a900a800a800a800a800a800a800a800a800a800a800a800a800a800a700a700a700a700a700a700a700a700a700a700a700a700a700a600a600a600a600a600a600a600a600a600a600a600a600a600a500a500a500a500a500a500a500a500a500a500a500a500a500a400a400a400a400a400a400a400a400a400a400a400a400a400a300a300a300a300a300a300a300a300a300a300a300a300a300a200a200a200a200a200a200a200a200a200a200a200a200a200a100a100a100a100a100a100a100a100a100a100a100a100a100a000a000a000a000a000a000a000a000a000a000a000a000a0009f009f009f009f009f009f009f009f009f009f009f009f009f,
  0xc600c600c600c600c600c600c600c600c500c500c500c500c500c500c500c500c500c500c500c500c500c400c400c400c400c400c400c400c400c400c400c400c400c400c300c300c300c300c300c300c300c300c300c300c300c300c300c200c200c200c200c200c200c200c200c200c200c200c200c100c100c100c100c100c100c100c100c100c100c100c100c100c000c000c000c000c000c000c000c000c000c000c000c000c000bf00bf00bf00bf00bf00bf00bf00bf00bf00bf00bf00bf00bf00be00be00be00be00be00be00be00be00be00be00be00be00be00bd00bd00bd00bd00bd00bd00bd00bd00bd00bd00bd00bd00bd00bc00bc00bc00bc00bc00bc00bc00bc00bc00bc00bc00bc00bc00bb00bb00bb00bb00bb00bb00bb00bb00bb00bb00bb00bb00bb00ba00ba00ba00ba00ba00ba00ba00ba00ba00ba00ba00ba00ba00b900b900b900b900b900b900b900b900b900b900b900b900b900b800b800b800b800b800b800b800b800b800b800b800b800b800b700b700b700b700b700b700b700b700b700b700b700b700b700b600b600b600b600b600b600b600b600b600b600b600b600b600b500b500b500b500b500b500b500b500b500b500b500b500b400b400b400b400b400b400b400b400b400b400b400b400b400b300b300b300b300b300b300b300b300b300b300b300b300b300b200b200b2,
  0xda00da00da00da00da00da00da00da00da00da00da00d900d900d900d900d900d900d900d900d900d900d900d900d800d800d800d800d800d800d800d800d800d800d800d800d700d700d700d700d700d700d700d700d700d700d700d700d700d600d600d600d600d600d600d600d600d600d600d600d600d500d500d500d500d500d500d500d500d500d500d500d500d500d400d400d400d400d400d400d400d400d400d400d400d400d300d300d300d300d300d300d300d300d300d300d300d300d300d200d200d200d200d200d200d200d200d200d200d200d200d100d100d100d100d100d100d100d100d100d100d100d100d100d000d000d000d000d000d000d000d000d000d000d000d000cf00cf00cf00cf00cf00cf00cf00cf00cf00cf00cf00cf00cf00ce00ce00ce00ce00ce00ce00ce00ce00ce00ce00ce00ce00ce00cd00cd00cd00cd00cd00cd00cd00cd00cd00cd00cd00cd00cc00cc00cc00cc00cc00cc00cc00cc00cc00cc00cc00cc00cc00cb00cb00cb00cb00cb00cb00cb00cb00cb00cb00cb00cb00cb00ca00ca00ca00ca00ca00ca00ca00ca00ca00ca00ca00ca00ca00c900c900c900c900c900c900c900c900c900c900c900c900c900c800c800c800c800c800c800c800c800c800c800c800c800c800c700c700c700c700c700c700c700c700c700c700c700c700c700c600c600c600c600c6,
  0xf000f000f000f000ef00ef00ef00ef00ef00ef00ef00ef00ef00ef00ef00ef00ee00ee00ee00ee00ee00ee00ee00ee00ee00ee00ee00ed00ed00ed00ed00ed00ed00ed00ed00ed00ed00ed00ed00ec00ec00ec00ec00ec00ec00ec00ec00ec00ec00ec00ec00eb00eb00eb00eb00eb00eb00eb00eb00eb00eb00eb00eb00ea00ea00ea00ea00ea00ea00ea00ea00ea00ea00ea00e900e900e900e900e900e900e900e900e900e900e900e900e800e800e800e800e800e800e800e800e800e800e800e800e700e700e700e700e700e700e700e700e700e700e700e700e600e600e600e600e600e600e600e600e600e600e600e600e500e500e500e500e500e500e500e500e500e500e500e500e400e400e400e400e400e400e400e400e400e400e400e400e300e300e300e300e300e300e300e300e300e300e300e300e200e200e200e200e200e200e200e200e200e200e200e200e100e100e100e100e100e100e100e100e100e100e100e100e000e000e000e000e000e000e000e000e000e000e000e000df00df00df00df00df00df00df00df00df00df00df00df00de00de00de00de00de00de00de00de00de00de00de00de00dd00dd00dd00dd00dd00dd00dd00dd00dd00dd00dd00dd00dc00dc00dc00dc00dc00dc00dc00dc00dc00dc00dc00dc00db00db00db00db00db00db00db00db00db00db00db00db00da00da,
  0x1060106010601060106010601060106010601060106010501050105010501050105010501050105010501050104010401040104010401040104010401040104010401030103010301030103010301030103010301030103010301020102010201020102010201020102010201020102010101010101010101010101010101010101010101010100010001000100010001000100010001000100010000ff00ff00ff00ff00ff00ff00ff00ff00ff00ff00ff00fe00fe00fe00fe00fe00fe00fe00fe00fe00fe00fe00fd00fd00fd00fd00fd00fd00fd00fd00fd00fd00fd00fd00fc00fc00fc00fc00fc00fc00fc00fc00fc00fc00fc00fb00fb00fb00fb00fb00fb00fb00fb00fb00fb00fb00fa00fa00fa00fa00fa00fa00fa00fa00fa00fa00fa00f900f900f900f900f900f900f900f900f900f900f900f900f800f800f800f800f800f800f800f800f800f800f800f700f700f700f700f700f700f700f700f700f700f700f700f600f600f600f600f600f600f600f600f600f600f600f500f500f500f500f500f500f500f500f500f500f500f400f400f400f400f400f400f400f400f400f400f400f400f300f300f300f300f300f300f300f300f300f300f300f200f200f200f200f200f200f200f200f200f200f200f200f100f100f100f100f100f100f100f100f100f100f100f100f000f000f000f000f000f000f0,
  0x11e011e011e011e011e011e011e011e011e011d011d011d011d011d011d011d011d011d011d011d011c011c011c011c011c011c011c011c011c011c011b011b011b011b011b011b011b011b011b011b011b011a011a011a011a011a011a011a011a011a011a011a0119011901190119011901190119011901190119011801180118011801180118011801180118011801180117011701170117011701170117011701170117011601160116011601160116011601160116011601160115011501150115011501150115011501150115011501140114011401140114011401140114011401140113011301130113011301130113011301130113011301120112011201120112011201120112011201120112011101110111011101110111011101110111011101110110011001100110011001100110011001100110010f010f010f010f010f010f010f010f010f010f010f010e010e010e010e010e010e010e010e010e010e010e010d010d010d010d010d010d010d010d010d010d010d010c010c010c010c010c010c010c010c010c010c010c010b010b010b010b010b010b010b010b010b010b010b010a010a010a010a010a010a010a010a010a010a010901090109010901090109010901090109010901090108010801080108010801080108010801080108010801070107010701070107010701070107010701070107,
  0x1370137013701370137013701370137013701370136013601360136013601360136013601360136013501350135013501350135013501350135013501340134013401340134013401340134013401340133013301330133013301330133013301330133013201320132013201320132013201320132013201310131013101310131013101310131013101310130013001300130013001300130013001300130012f012f012f012f012f012f012f012f012f012f012e012e012e012e012e012e012e012e012e012e012e012d012d012d012d012d012d012d012d012d012d012c012c012c012c012c012c012c012c012c012c012b012b012b012b012b012b012b012b012b012b012a012a012a012a012a012a012a012a012a012a01290129012901290129012901290129012901290128012801280128012801280128012801280128012801270127012701270127012701270127012701270126012601260126012601260126012601260126012501250125012501250125012501250125012501250124012401240124012401240124012401240124012301230123012301230123012301230123012301220122012201220122012201220122012201220122012101210121012101210121012101210121012101200120012001200120012001200120012001200120011f011f011f011f011f011f011f011f011f011f011e,
  0x152015201520151015101510151015101510151015101510151015001500150015001500150015001500150014f014f014f014f014f014f014f014f014f014f014e014e014e014e014e014e014e014e014e014d014d014d014d014d014d014d014d014d014d014c014c014c014c014c014c014c014c014c014b014b014b014b014b014b014b014b014b014b014a014a014a014a014a014a014a014a014a014a0149014901490149014901490149014901490148014801480148014801480148014801480148014701470147014701470147014701470147014701460146014601460146014601460146014601450145014501450145014501450145014501450144014401440144014401440144014401440144014301430143014301430143014301430143014301420142014201420142014201420142014201410141014101410141014101410141014101410140014001400140014001400140014001400140013f013f013f013f013f013f013f013f013f013f013e013e013e013e013e013e013e013e013e013e013d013d013d013d013d013d013d013d013d013c013c013c013c013c013c013c013c013c013c013b013b013b013b013b013b013b013b013b013b013a013a013a013a013a013a013a013a013a013a01390139013901390139013901390139013901390138013801380138013801380138013801380138,
  0x16d016d016d016d016d016d016d016d016c016c016c016c016c016c016c016c016c016b016b016b016b016b016b016b016b016b016b016a016a016a016a016a016a016a016a016a01690169016901690169016901690169016901680168016801680168016801680168016801670167016701670167016701670167016701660166016601660166016601660166016601650165016501650165016501650165016501640164016401640164016401640164016401640163016301630163016301630163016301630162016201620162016201620162016201620161016101610161016101610161016101610160016001600160016001600160016001600160015f015f015f015f015f015f015f015f015f015e015e015e015e015e015e015e015e015e015d015d015d015d015d015d015d015d015d015d015c015c015c015c015c015c015c015c015c015b015b015b015b015b015b015b015b015b015a015a015a015a015a015a015a015a015a015a015901590159015901590159015901590159015801580158015801580158015801580158015701570157015701570157015701570157015701560156015601560156015601560156015601550155015501550155015501550155015501550154015401540154015401540154015401540153015301530153015301530153015301530153015201520152015201520152,
  0x18a018a018a018a018a018a018a018901890189018901890189018901890188018801880188018801880188018801880187018701870187018701870187018701870186018601860186018601860186018601860185018501850185018501850185018501840184018401840184018401840184018401830183018301830183018301830183018301820182018201820182018201820182018201810181018101810181018101810181018001800180018001800180018001800180017f017f017f017f017f017f017f017f017f017e017e017e017e017e017e017e017e017e017d017d017d017d017d017d017d017d017d017c017c017c017c017c017c017c017c017c017b017b017b017b017b017b017b017b017b017a017a017a017a017a017a017a017a017901790179017901790179017901790179017801780178017801780178017801780178017701770177017701770177017701770177017601760176017601760176017601760176017501750175017501750175017501750175017401740174017401740174017401740174017301730173017301730173017301730173017201720172017201720172017201720172017101710171017101710171017101710171017001700170017001700170017001700170016f016f016f016f016f016f016f016f016f016e016e016e016e016e016e016e016e016e016d,
  0x1a801a801a801a801a801a801a801a801a701a701a701a701a701a701a701a701a601a601a601a601a601a601a601a601a501a501a501a501a501a501a501a501a501a401a401a401a401a401a401a401a401a301a301a301a301a301a301a301a301a201a201a201a201a201a201a201a201a201a101a101a101a101a101a101a101a101a001a001a001a001a001a001a001a001a0019f019f019f019f019f019f019f019f019e019e019e019e019e019e019e019e019d019d019d019d019d019d019d019d019d019c019c019c019c019c019c019c019c019b019b019b019b019b019b019b019b019b019a019a019a019a019a019a019a019a01990199019901990199019901990199019901980198019801980198019801980198019701970197019701970197019701970197019601960196019601960196019601960195019501950195019501950195019501950194019401940194019401940194019401930193019301930193019301930193019301920192019201920192019201920192019201910191019101910191019101910191019001900190019001900190019001900190018f018f018f018f018f018f018f018f018e018e018e018e018e018e018e018e018e018d018d018d018d018d018d018d018d018d018c018c018c018c018c018c018c018c018b018b018b018b018b018b018b018b018b018a018a,
  0x1c801c801c801c701c701c701c701c701c701c701c701c601c601c601c601c601c601c601c601c501c501c501c501c501c501c501c501c401c401c401c401c401c401c401c401c301c301c301c301c301c301c301c301c201c201c201c201c201c201c201c201c101c101c101c101c101c101c101c101c001c001c001c001c001c001c001c001bf01bf01bf01bf01bf01bf01bf01bf01be01be01be01be01be01be01be01be01bd01bd01bd01bd01bd01bd01bd01bd01bc01bc01bc01bc01bc01bc01bc01bc01bb01bb01bb01bb01bb01bb01bb01bb01bb01ba01ba01ba01ba01ba01ba01ba01ba01b901b901b901b901b901b901b901b901b801b801b801b801b801b801b801b801b701b701b701b701b701b701b701b701b601b601b601b601b601b601b601b601b501b501b501b501b501b501b501b501b401b401b401b401b401b401b401b401b401b301b301b301b301b301b301b301b301b201b201b201b201b201b201b201b201b101b101b101b101b101b101b101b101b001b001b001b001b001b001b001b001af01af01af01af01af01af01af01af01af01ae01ae01ae01ae01ae01ae01ae01ae01ad01ad01ad01ad01ad01ad01ad01ad01ac01ac01ac01ac01ac01ac01ac01ac01ab01ab01ab01ab01ab01ab01ab01ab01ab01aa01aa01aa01aa01aa01aa01aa01aa01a901a901a901a901a901a901a901a901a8,
  0x1e901e801e801e801e801e801e801e801e801e701e701e701e701e701e701e701e601e601e601e601e601e601e601e601e501e501e501e501e501e501e501e501e401e401e401e401e401e401e401e301e301e301e301e301e301e301e301e201e201e201e201e201e201e201e201e101e101e101e101e101e101e101e101e001e001e001e001e001e001e001df01df01df01df01df01df01df01df01de01de01de01de01de01de01de01de01dd01dd01dd01dd01dd01dd01dd01dd01dc01dc01dc01dc01dc01dc01dc01db01db01db01db01db01db01db01db01da01da01da01da01da01da01da01da01d901d901d901d901d901d901d901d901d801d801d801d801d801d801d801d801d701d701d701d701d701d701d701d601d601d601d601d601d601d601d601d501d501d501d501d501d501d501d501d401d401d401d401d401d401d401d401d301d301d301d301d301d301d301d301d201d201d201d201d201d201d201d201d101d101d101d101d101d101d101d101d001d001d001d001d001d001d001cf01cf01cf01cf01cf01cf01cf01cf01ce01ce01ce01ce01ce01ce01ce01ce01cd01cd01cd01cd01cd01cd01cd01cd01cc01cc01cc01cc01cc01cc01cc01cc01cb01cb01cb01cb01cb01cb01cb01cb01ca01ca01ca01ca01ca01ca01ca01ca01c901c901c901c901c901c901c901c901c801c801c801c801c8,
  0x20b020b020a020a020a020a020a020a020a0209020902090209020902090209020802080208020802080208020802080207020702070207020702070207020602060206020602060206020602060205020502050205020502050205020402040204020402040204020402040203020302030203020302030203020202020202020202020202020202010201020102010201020102010201020002000200020002000200020001ff01ff01ff01ff01ff01ff01ff01ff01fe01fe01fe01fe01fe01fe01fe01fd01fd01fd01fd01fd01fd01fd01fd01fc01fc01fc01fc01fc01fc01fc01fb01fb01fb01fb01fb01fb01fb01fb01fa01fa01fa01fa01fa01fa01fa01f901f901f901f901f901f901f901f901f801f801f801f801f801f801f801f701f701f701f701f701f701f701f701f601f601f601f601f601f601f601f501f501f501f501f501f501f501f501f401f401f401f401f401f401f401f301f301f301f301f301f301f301f301f201f201f201f201f201f201f201f101f101f101f101f101f101f101f101f001f001f001f001f001f001f001f001ef01ef01ef01ef01ef01ef01ef01ee01ee01ee01ee01ee01ee01ee01ee01ed01ed01ed01ed01ed01ed01ed01ec01ec01ec01ec01ec01ec01ec01ec01eb01eb01eb01eb01eb01eb01eb01eb01ea01ea01ea01ea01ea01ea01ea01e901e901e901e901e901e901e9,
  0x22e022e022e022e022e022d022d022d022d022d022d022d022c022c022c022c022c022c022c022b022b022b022b022b022b022b022a022a022a022a022a022a022a022902290229022902290229022902280228022802280228022802280228022702270227022702270227022702260226022602260226022602260225022502250225022502250225022402240224022402240224022402230223022302230223022302230222022202220222022202220222022202210221022102210221022102210220022002200220022002200220021f021f021f021f021f021f021f021e021e021e021e021e021e021e021d021d021d021d021d021d021d021d021c021c021c021c021c021c021c021b021b021b021b021b021b021b021a021a021a021a021a021a021a0219021902190219021902190219021802180218021802180218021802180217021702170217021702170217021602160216021602160216021602150215021502150215021502150215021402140214021402140214021402130213021302130213021302130212021202120212021202120212021102110211021102110211021102110210021002100210021002100210020f020f020f020f020f020f020f020e020e020e020e020e020e020e020e020d020d020d020d020d020d020d020c020c020c020c020c020c020c020b020b020b020b020b020b,
  0x25302530253025202520252025202520252025202510251025102510251025102510250025002500250025002500250024f024f024f024f024f024f024f024e024e024e024e024e024e024e024d024d024d024d024d024d024d024c024c024c024c024c024c024b024b024b024b024b024b024b024a024a024a024a024a024a024a024902490249024902490249024902480248024802480248024802480247024702470247024702470247024602460246024602460246024602450245024502450245024502450244024402440244024402440244024302430243024302430243024302420242024202420242024202420241024102410241024102410240024002400240024002400240023f023f023f023f023f023f023f023e023e023e023e023e023e023e023d023d023d023d023d023d023d023c023c023c023c023c023c023c023b023b023b023b023b023b023b023a023a023a023a023a023a023a02390239023902390239023902390238023802380238023802380238023702370237023702370237023702360236023602360236023602360235023502350235023502350235023402340234023402340234023402330233023302330233023302330233023202320232023202320232023202310231023102310231023102310230023002300230023002300230022f022f022f022f022f022f022f022e022e,
  0x279027902790279027902780278027802780278027802770277027702770277027702770276027602760276027602760275027502750275027502750275027402740274027402740274027402730273027302730273027302720272027202720272027202720271027102710271027102710270027002700270027002700270026f026f026f026f026f026f026f026e026e026e026e026e026e026d026d026d026d026d026d026d026c026c026c026c026c026c026c026b026b026b026b026b026b026a026a026a026a026a026a026a0269026902690269026902690269026802680268026802680268026702670267026702670267026702660266026602660266026602660265026502650265026502650265026402640264026402640264026302630263026302630263026302620262026202620262026202620261026102610261026102610260026002600260026002600260025f025f025f025f025f025f025f025e025e025e025e025e025e025e025d025d025d025d025d025d025c025c025c025c025c025c025c025b025b025b025b025b025b025b025a025a025a025a025a025a025a02590259025902590259025902590258025802580258025802580257025702570257025702570257025602560256025602560256025602550255025502550255025502550254025402540254025402540254025302530253,
  0x2a102a102a002a002a002a002a002a0029f029f029f029f029f029f029f029e029e029e029e029e029e029d029d029d029d029d029d029c029c029c029c029c029c029c029b029b029b029b029b029b029a029a029a029a029a029a02990299029902990299029902990298029802980298029802980297029702970297029702970297029602960296029602960296029502950295029502950295029402940294029402940294029402930293029302930293029302920292029202920292029202920291029102910291029102910290029002900290029002900290028f028f028f028f028f028f028e028e028e028e028e028e028e028d028d028d028d028d028d028c028c028c028c028c028c028c028b028b028b028b028b028b028a028a028a028a028a028a028902890289028902890289028902880288028802880288028802870287028702870287028702870286028602860286028602860285028502850285028502850285028402840284028402840284028402830283028302830283028302820282028202820282028202820281028102810281028102810280028002800280028002800280027f027f027f027f027f027f027e027e027e027e027e027e027e027d027d027d027d027d027d027c027c027c027c027c027c027c027b027b027b027b027b027b027a027a027a027a027a027a027a02790279,
  0x2ca02ca02c902c902c902c902c902c902c802c802c802c802c802c802c702c702c702c702c702c702c602c602c602c602c602c602c502c502c502c502c502c502c402c402c402c402c402c402c402c302c302c302c302c302c302c202c202c202c202c202c202c102c102c102c102c102c102c002c002c002c002c002c002bf02bf02bf02bf02bf02bf02bf02be02be02be02be02be02be02bd02bd02bd02bd02bd02bd02bc02bc02bc02bc02bc02bc02bb02bb02bb02bb02bb02bb02ba02ba02ba02ba02ba02ba02ba02b902b902b902b902b902b902b802b802b802b802b802b802b702b702b702b702b702b702b602b602b602b602b602b602b602b502b502b502b502b502b502b402b402b402b402b402b402b302b302b302b302b302b302b202b202b202b202b202b202b202b102b102b102b102b102b102b002b002b002b002b002b002af02af02af02af02af02af02ae02ae02ae02ae02ae02ae02ae02ad02ad02ad02ad02ad02ad02ac02ac02ac02ac02ac02ac02ab02ab02ab02ab02ab02ab02ab02aa02aa02aa02aa02aa02aa02a902a902a902a902a902a902a802a802a802a802a802a802a702a702a702a702a702a702a702a602a602a602a602a602a602a502a502a502a502a502a502a402a402a402a402a402a402a402a302a302a302a302a302a302a202a202a202a202a202a202a102a102a102a102a1,
  0x2f402f402f402f402f302f302f302f302f302f302f202f202f202f202f202f202f102f102f102f102f102f102f002f002f002f002f002f002ef02ef02ef02ef02ef02ef02ee02ee02ee02ee02ee02ee02ed02ed02ed02ed02ed02ed02ec02ec02ec02ec02ec02ec02eb02eb02eb02eb02eb02eb02ea02ea02ea02ea02ea02ea02e902e902e902e902e902e902e802e802e802e802e802e802e702e702e702e702e702e702e602e602e602e602e602e602e502e502e502e502e502e502e402e402e402e402e402e402e302e302e302e302e302e302e202e202e202e202e202e202e102e102e102e102e102e102e002e002e002e002e002e002df02df02df02df02df02df02de02de02de02de02de02de02dd02dd02dd02dd02dd02dd02dc02dc02dc02dc02dc02dc02db02db02db02db02db02db02da02da02da02da02da02da02d902d902d902d902d902d902d802d802d802d802d802d802d702d702d702d702d702d702d602d602d602d602d602d602d502d502d502d502d502d502d402d402d402d402d402d402d402d302d302d302d302d302d302d202d202d202d202d202d202d102d102d102d102d102d102d002d002d002d002d002d002cf02cf02cf02cf02cf02cf02ce02ce02ce02ce02ce02ce02cd02cd02cd02cd02cd02cd02cc02cc02cc02cc02cc02cc02cb02cb02cb02cb02cb02cb02cb02ca02ca02ca02ca,
  0x32003200320031f031f031f031f031f031f031e031e031e031e031e031e031d031d031d031d031d031c031c031c031c031c031c031b031b031b031b031b031b031a031a031a031a031a031a0319031903190319031903180318031803180318031803170317031703170317031703160316031603160316031603150315031503150315031503140314031403140314031303130313031303130313031203120312031203120312031103110311031103110311031003100310031003100310030f030f030f030f030f030e030e030e030e030e030e030d030d030d030d030d030d030c030c030c030c030c030c030b030b030b030b030b030b030a030a030a030a030a030a030903090309030903090308030803080308030803080307030703070307030703070306030603060306030603060305030503050305030503050304030403040304030403040303030303030303030303030302030203020302030203010301030103010301030103000300030003000300030002ff02ff02ff02ff02ff02ff02fe02fe02fe02fe02fe02fe02fd02fd02fd02fd02fd02fd02fc02fc02fc02fc02fc02fc02fb02fb02fb02fb02fb02fb02fa02fa02fa02fa02fa02fa02f902f902f902f902f902f902f802f802f802f802f802f702f702f702f702f702f702f602f602f602f602f602f602f502f502f502f502f502f502f402f4,
  0x34d034d034d034d034d034c034c034c034c034c034b034b034b034b034b034b034a034a034a034a034a03490349034903490349034903480348034803480348034803470347034703470347034603460346034603460346034503450345034503450344034403440344034403440343034303430343034303430342034203420342034203410341034103410341034103400340034003400340033f033f033f033f033f033f033e033e033e033e033e033e033d033d033d033d033d033c033c033c033c033c033c033b033b033b033b033b033b033a033a033a033a033a033903390339033903390339033803380338033803380337033703370337033703370336033603360336033603360335033503350335033503340334033403340334033403330333033303330333033303320332033203320332033103310331033103310331033003300330033003300330032f032f032f032f032f032e032e032e032e032e032e032d032d032d032d032d032d032c032c032c032c032c032c032b032b032b032b032b032a032a032a032a032a032a032903290329032903290329032803280328032803280327032703270327032703270326032603260326032603260325032503250325032503240324032403240324032403230323032303230323032303220322032203220322032203210321032103210321032003200320,
  0x37c037c037c037b037b037b037b037b037b037a037a037a037a037a037903790379037903790378037803780378037803780377037703770377037703760376037603760376037603750375037503750375037403740374037403740374037303730373037303730372037203720372037203710371037103710371037103700370037003700370036f036f036f036f036f036f036e036e036e036e036e036d036d036d036d036d036d036c036c036c036c036c036b036b036b036b036b036a036a036a036a036a036a0369036903690369036903680368036803680368036803670367036703670367036603660366036603660366036503650365036503650364036403640364036403640363036303630363036303620362036203620362036203610361036103610361036003600360036003600360035f035f035f035f035f035e035e035e035e035e035e035d035d035d035d035d035c035c035c035c035c035c035b035b035b035b035b035a035a035a035a035a035a0359035903590359035903580358035803580358035803570357035703570357035603560356035603560356035503550355035503550354035403540354035403540353035303530353035303520352035203520352035203510351035103510351035003500350035003500350034f034f034f034f034f034f034e034e034e034e034e034d,
  0x3ac03ac03ac03ac03ab03ab03ab03ab03ab03ab03aa03aa03aa03aa03aa03a903a903a903a903a903a803a803a803a803a803a703a703a703a703a703a703a603a603a603a603a603a503a503a503a503a503a403a403a403a403a403a303a303a303a303a303a303a203a203a203a203a203a103a103a103a103a103a003a003a003a003a0039f039f039f039f039f039f039e039e039e039e039e039d039d039d039d039d039c039c039c039c039c039c039b039b039b039b039b039a039a039a039a039a03990399039903990399039803980398039803980398039703970397039703970396039603960396039603950395039503950395039503940394039403940394039303930393039303930392039203920392039203920391039103910391039103900390039003900390038f038f038f038f038f038e038e038e038e038e038e038d038d038d038d038d038c038c038c038c038c038b038b038b038b038b038b038a038a038a038a038a038903890389038903890388038803880388038803880387038703870387038703860386038603860386038603850385038503850385038403840384038403840383038303830383038303830382038203820382038203810381038103810381038003800380038003800380037f037f037f037f037f037e037e037e037e037e037e037d037d037d037d037d037c037c,
  0x3de03de03de03dd03dd03dd03dd03dd03dc03dc03dc03dc03dc03db03db03db03db03db03da03da03da03da03da03d903d903d903d903d903d803d803d803d803d803d703d703d703d703d703d603d603d603d603d603d603d503d503d503d503d503d403d403d403d403d403d303d303d303d303d303d203d203d203d203d203d103d103d103d103d103d003d003d003d003d003cf03cf03cf03cf03cf03ce03ce03ce03ce03ce03cd03cd03cd03cd03cd03cd03cc03cc03cc03cc03cc03cb03cb03cb03cb03cb03ca03ca03ca03ca03ca03c903c903c903c903c903c803c803c803c803c803c703c703c703c703c703c603c603c603c603c603c603c503c503c503c503c503c403c403c403c403c403c303c303c303c303c303c203c203c203c203c203c103c103c103c103c103c003c003c003c003c003bf03bf03bf03bf03bf03bf03be03be03be03be03be03bd03bd03bd03bd03bd03bc03bc03bc03bc03bc03bb03bb03bb03bb03bb03ba03ba03ba03ba03ba03ba03b903b903b903b903b903b803b803b803b803b803b703b703b703b703b703b603b603b603b603b603b503b503b503b503b503b403b403b403b403b403b403b303b303b303b303b303b203b203b203b203b203b103b103b103b103b103b003b003b003b003b003b003af03af03af03af03af03ae03ae03ae03ae03ae03ad03ad03ad03ad03ad03ac,
  0x41104110411041104100410041004100410040f040f040f040f040f040e040e040e040e040e040d040d040d040d040d040c040c040c040c040c040b040b040b040b040b040a040a040a040a0409040904090409040904080408040804080408040704070407040704070406040604060406040604050405040504050405040404040404040404040403040304030403040304020402040204020402040104010401040104010400040004000400040003ff03ff03ff03ff03ff03fe03fe03fe03fe03fe03fd03fd03fd03fd03fd03fc03fc03fc03fc03fc03fb03fb03fb03fb03fb03fa03fa03fa03fa03fa03f903f903f903f903f903f803f803f803f803f803f703f703f703f703f703f603f603f603f603f603f503f503f503f503f503f403f403f403f403f403f303f303f303f303f303f203f203f203f203f203f103f103f103f103f103f003f003f003f003f003ef03ef03ef03ef03ef03ee03ee03ee03ee03ee03ed03ed03ed03ed03ed03ec03ec03ec03ec03ec03eb03eb03eb03eb03eb03ea03ea03ea03ea03ea03e903e903e903e903e903e803e803e803e803e803e703e703e703e703e703e603e603e603e603e603e503e503e503e503e503e403e403e403e403e403e403e303e303e303e303e303e203e203e203e203e203e103e103e103e103e103e003e003e003e003e003df03df03df03df03df03de03de,
  0x446044604460445044504450445044404440444044404440443044304430443044304420442044204420442044104410441044104410440044004400440043f043f043f043f043f043e043e043e043e043e043d043d043d043d043d043c043c043c043c043c043b043b043b043b043a043a043a043a043a043904390439043904390438043804380438043804370437043704370437043604360436043604350435043504350435043404340434043404340433043304330433043304320432043204320432043104310431043104310430043004300430042f042f042f042f042f042e042e042e042e042e042d042d042d042d042d042c042c042c042c042c042b042b042b042b042b042a042a042a042a042a042904290429042904280428042804280428042704270427042704270426042604260426042604250425042504250425042404240424042404240423042304230423042304220422042204220422042104210421042104200420042004200420041f041f041f041f041f041e041e041e041e041e041d041d041d041d041d041c041c041c041c041c041b041b041b041b041b041a041a041a041a041a0419041904190419041904180418041804180418041704170417041704160416041604160416041504150415041504150414041404140414041404130413041304130413041204120412041204120411,
  0x47c047c047c047c047b047b047b047b047a047a047a047a047a04790479047904790479047804780478047804770477047704770477047604760476047604760475047504750475047404740474047404740473047304730473047304720472047204720471047104710471047104700470047004700470046f046f046f046f046e046e046e046e046e046d046d046d046d046d046c046c046c046c046c046b046b046b046b046a046a046a046a046a04690469046904690469046804680468046804670467046704670467046604660466046604660465046504650465046404640464046404640463046304630463046304620462046204620462046104610461046104600460046004600460045f045f045f045f045f045e045e045e045e045d045d045d045d045d045c045c045c045c045c045b045b045b045b045b045a045a045a045a045904590459045904590458045804580458045804570457045704570457045604560456045604550455045504550455045404540454045404540453045304530453045304520452045204520451045104510451045104500450045004500450044f044f044f044f044f044e044e044e044e044d044d044d044d044d044c044c044c044c044c044b044b044b044b044b044a044a044a044a04490449044904490449044804480448044804480447044704470447044704460446,
  0x4b404b404b404b304b304b304b304b204b204b204b204b204b104b104b104b104b004b004b004b004b004af04af04af04af04ae04ae04ae04ae04ae04ad04ad04ad04ad04ac04ac04ac04ac04ac04ab04ab04ab04ab04ab04aa04aa04aa04aa04a904a904a904a904a904a804a804a804a804a704a704a704a704a704a604a604a604a604a504a504a504a504a504a404a404a404a404a304a304a304a304a304a204a204a204a204a204a104a104a104a104a004a004a004a004a0049f049f049f049f049e049e049e049e049e049d049d049d049d049c049c049c049c049c049b049b049b049b049b049a049a049a049a0499049904990499049904980498049804980497049704970497049704960496049604960496049504950495049504940494049404940494049304930493049304920492049204920492049104910491049104910490049004900490048f048f048f048f048f048e048e048e048e048d048d048d048d048d048c048c048c048c048c048b048b048b048b048a048a048a048a048a0489048904890489048804880488048804880487048704870487048704860486048604860485048504850485048504840484048404840484048304830483048304820482048204820482048104810481048104800480048004800480047f047f047f047f047f047e047e047e047e047d047d047d047d047d047c,
  0x4ed04ed04ed04ed04ec04ec04ec04ec04ec04eb04eb04eb04eb04ea04ea04ea04ea04e904e904e904e904e904e804e804e804e804e704e704e704e704e704e604e604e604e604e504e504e504e504e504e404e404e404e404e304e304e304e304e204e204e204e204e204e104e104e104e104e004e004e004e004e004df04df04df04df04de04de04de04de04de04dd04dd04dd04dd04dc04dc04dc04dc04db04db04db04db04db04da04da04da04da04d904d904d904d904d904d804d804d804d804d704d704d704d704d704d604d604d604d604d504d504d504d504d504d404d404d404d404d304d304d304d304d204d204d204d204d204d104d104d104d104d004d004d004d004d004cf04cf04cf04cf04ce04ce04ce04ce04ce04cd04cd04cd04cd04cc04cc04cc04cc04cc04cb04cb04cb04cb04ca04ca04ca04ca04ca04c904c904c904c904c804c804c804c804c804c704c704c704c704c604c604c604c604c604c504c504c504c504c404c404c404c404c404c304c304c304c304c204c204c204c204c204c104c104c104c104c004c004c004c004c004bf04bf04bf04bf04be04be04be04be04be04bd04bd04bd04bd04bc04bc04bc04bc04bc04bb04bb04bb04bb04ba04ba04ba04ba04ba04b904b904b904b904b804b804b804b804b804b704b704b704b704b604b604b604b604b604b504b504b504b504b404b4,
  0x5280528052805280527052705270527052605260526052605250525052505250525052405240524052405230523052305230522052205220522052205210521052105210520052005200520051f051f051f051f051e051e051e051e051e051d051d051d051d051c051c051c051c051b051b051b051b051b051a051a051a051a0519051905190519051805180518051805180517051705170517051605160516051605150515051505150515051405140514051405130513051305130512051205120512051205110511051105110510051005100510050f050f050f050f050f050e050e050e050e050d050d050d050d050c050c050c050c050c050b050b050b050b050a050a050a050a0509050905090509050905080508050805080507050705070507050605060506050605060505050505050505050405040504050405030503050305030503050205020502050205010501050105010501050005000500050004ff04ff04ff04ff04fe04fe04fe04fe04fe04fd04fd04fd04fd04fc04fc04fc04fc04fb04fb04fb04fb04fb04fa04fa04fa04fa04f904f904f904f904f904f804f804f804f804f704f704f704f704f604f604f604f604f604f504f504f504f504f404f404f404f404f304f304f304f304f304f204f204f204f204f104f104f104f104f104f004f004f004f004ef04ef04ef04ef04ee04ee04ee04ee04ee,
  0x565056505640564056405640563056305630563056205620562056205610561056105610560056005600560055f055f055f055f055f055e055e055e055e055d055d055d055d055c055c055c055c055b055b055b055b055a055a055a055a055a055905590559055905580558055805580557055705570557055605560556055605550555055505550555055405540554055405530553055305530552055205520552055105510551055105500550055005500550054f054f054f054f054e054e054e054e054d054d054d054d054c054c054c054c054c054b054b054b054b054a054a054a054a054905490549054905480548054805480547054705470547054705460546054605460545054505450545054405440544054405430543054305430543054205420542054205410541054105410540054005400540053f053f053f053f053f053e053e053e053e053d053d053d053d053c053c053c053c053b053b053b053b053b053a053a053a053a0539053905390539053805380538053805370537053705370537053605360536053605350535053505350534053405340534053305330533053305330532053205320532053105310531053105300530053005300530052f052f052f052f052e052e052e052e052d052d052d052d052c052c052c052c052c052b052b052b052b052a052a052a052a05290529052905290528,
  0x5a305a305a205a205a205a205a105a105a105a105a005a005a005a0059f059f059f059f059e059e059e059e059d059d059d059d059c059c059c059c059b059b059b059b059a059a059a059a059a05990599059905990598059805980598059705970597059705960596059605960595059505950595059405940594059405930593059305930592059205920592059105910591059105900590059005900590058f058f058f058f058e058e058e058e058d058d058d058d058c058c058c058c058b058b058b058b058a058a058a058a05890589058905890588058805880588058705870587058705870586058605860586058505850585058505840584058405840583058305830583058205820582058205810581058105810580058005800580057f057f057f057f057f057e057e057e057e057d057d057d057d057c057c057c057c057b057b057b057b057a057a057a057a057905790579057905780578057805780577057705770577057705760576057605760575057505750575057405740574057405730573057305730572057205720572057105710571057105710570057005700570056f056f056f056f056e056e056e056e056d056d056d056d056c056c056c056c056b056b056b056b056b056a056a056a056a0569056905690569056805680568056805670567056705670566056605660566056505650565,
  0x5e305e205e205e205e105e105e105e105e005e005e005e005df05df05df05df05de05de05de05de05dd05dd05dd05dd05dc05dc05dc05dc05db05db05db05db05da05da05da05da05d905d905d905d905d805d805d805d805d705d705d705d705d605d605d605d605d505d505d505d505d405d405d405d405d305d305d305d305d205d205d205d205d105d105d105d105d005d005d005d005cf05cf05cf05cf05ce05ce05ce05ce05cd05cd05cd05cd05cc05cc05cc05cc05cb05cb05cb05cb05ca05ca05ca05ca05c905c905c905c905c805c805c805c805c705c705c705c705c605c605c605c605c505c505c505c505c405c405c405c405c305c305c305c305c205c205c205c205c105c105c105c105c005c005c005c005bf05bf05bf05bf05be05be05be05be05bd05bd05bd05bd05bd05bc05bc05bc05bc05bb05bb05bb05bb05ba05ba05ba05ba05b905b905b905b905b805b805b805b805b705b705b705b705b605b605b605b605b505b505b505b505b405b405b405b405b305b305b305b305b205b205b205b205b105b105b105b105b005b005b005b005af05af05af05af05ae05ae05ae05ae05ad05ad05ad05ad05ac05ac05ac05ac05ab05ab05ab05ab05aa05aa05aa05aa05a905a905a905a905a805a805a805a805a705a705a705a705a705a605a605a605a605a505a505a505a505a405a405a405a405a305a3,
  0x6240624062306230623062206220622062206210621062106210620062006200620061f061f061f061f061e061e061e061e061d061d061d061d061c061c061c061c061b061b061b061b061a061a061a061906190619061906180618061806180617061706170617061606160616061606150615061506150614061406140614061306130613061306120612061206120611061106110610061006100610060f060f060f060f060e060e060e060e060d060d060d060d060c060c060c060c060b060b060b060b060a060a060a060a06090609060906090608060806080608060706070607060706060606060606050605060506050604060406040604060306030603060306020602060206020601060106010601060006000600060005ff05ff05ff05ff05fe05fe05fe05fe05fd05fd05fd05fd05fc05fc05fc05fc05fb05fb05fb05fb05fa05fa05fa05fa05f905f905f905f905f805f805f805f705f705f705f705f605f605f605f605f505f505f505f505f405f405f405f405f305f305f305f305f205f205f205f205f105f105f105f105f005f005f005f005ef05ef05ef05ef05ee05ee05ee05ee05ed05ed05ed05ed05ec05ec05ec05ec05eb05eb05eb05eb05ea05ea05ea05ea05e905e905e905e905e805e805e805e805e705e705e705e705e605e605e605e605e505e505e505e505e405e405e405e405e305e305e3,
  0x667066606660666066606650665066506650664066406640664066306630663066206620662066206610661066106610660066006600660065f065f065f065f065e065e065e065d065d065d065d065c065c065c065c065b065b065b065b065a065a065a065906590659065906580658065806580657065706570657065606560656065606550655065506540654065406540653065306530653065206520652065206510651065106510650065006500650064f064f064f064e064e064e064e064d064d064d064d064c064c064c064c064b064b064b064b064a064a064a064906490649064906480648064806480647064706470647064606460646064606450645064506450644064406440643064306430643064206420642064206410641064106410640064006400640063f063f063f063f063e063e063e063d063d063d063d063c063c063c063c063b063b063b063b063a063a063a063a06390639063906390638063806380637063706370637063606360636063606350635063506350634063406340634063306330633063306320632063206320631063106310630063006300630062f062f062f062f062e062e062e062e062d062d062d062d062c062c062c062c062b062b062b062b062a062a062a0629062906290629062806280628062806270627062706270626062606260626062506250625062506240624,
  0x6ab06ab06ab06aa06aa06aa06aa06a906a906a906a906a806a806a806a706a706a706a706a606a606a606a606a506a506a506a406a406a406a406a306a306a306a306a206a206a206a106a106a106a106a006a006a006a0069f069f069f069f069e069e069e069d069d069d069d069c069c069c069c069b069b069b069a069a069a069a0699069906990699069806980698069806970697069706960696069606960695069506950695069406940694069306930693069306920692069206920691069106910691069006900690068f068f068f068f068e068e068e068e068d068d068d068d068c068c068c068b068b068b068b068a068a068a068a0689068906890688068806880688068706870687068706860686068606860685068506850684068406840684068306830683068306820682068206820681068106810680068006800680067f067f067f067f067e067e067e067e067d067d067d067c067c067c067c067b067b067b067b067a067a067a067a0679067906790678067806780678067706770677067706760676067606760675067506750674067406740674067306730673067306720672067206720671067106710670067006700670066f066f066f066f066e066e066e066e066d066d066d066d066c066c066c066b066b066b066b066a066a066a066a0669066906690669066806680668066706670667,
  0x6f106f106f106f106f006f006f006ef06ef06ef06ef06ee06ee06ee06ee06ed06ed06ed06ec06ec06ec06ec06eb06eb06eb06ea06ea06ea06ea06e906e906e906e906e806e806e806e706e706e706e706e606e606e606e606e506e506e506e406e406e406e406e306e306e306e206e206e206e206e106e106e106e106e006e006e006df06df06df06df06de06de06de06de06dd06dd06dd06dc06dc06dc06dc06db06db06db06da06da06da06da06d906d906d906d906d806d806d806d706d706d706d706d606d606d606d606d506d506d506d406d406d406d406d306d306d306d306d206d206d206d106d106d106d106d006d006d006cf06cf06cf06cf06ce06ce06ce06ce06cd06cd06cd06cc06cc06cc06cc06cb06cb06cb06cb06ca06ca06ca06c906c906c906c906c806c806c806c806c706c706c706c606c606c606c606c506c506c506c506c406c406c406c306c306c306c306c206c206c206c206c106c106c106c006c006c006c006bf06bf06bf06bf06be06be06be06bd06bd06bd06bd06bc06bc06bc06bc06bb06bb06bb06ba06ba06ba06ba06b906b906b906b906b806b806b806b706b706b706b706b606b606b606b606b506b506b506b406b406b406b406b306b306b306b306b206b206b206b106b106b106b106b006b006b006b006af06af06af06ae06ae06ae06ae06ad06ad06ad06ad06ac06ac06ac06ac,
  0x7390739073907380738073807380737073707370736073607360736073507350735073407340734073407330733073307320732073207320731073107310730073007300730072f072f072f072e072e072e072e072d072d072d072c072c072c072c072b072b072b072b072a072a072a072907290729072907280728072807270727072707270726072607260725072507250725072407240724072307230723072307220722072207210721072107210720072007200720071f071f071f071e071e071e071e071d071d071d071c071c071c071c071b071b071b071a071a071a071a071907190719071807180718071807170717071707170716071607160715071507150715071407140714071307130713071307120712071207110711071107110710071007100710070f070f070f070e070e070e070e070d070d070d070c070c070c070c070b070b070b070a070a070a070a07090709070907090708070807080707070707070707070607060706070507050705070507040704070407030703070307030702070207020702070107010701070007000700070006ff06ff06ff06fe06fe06fe06fe06fd06fd06fd06fd06fc06fc06fc06fb06fb06fb06fb06fa06fa06fa06f906f906f906f906f806f806f806f806f706f706f706f606f606f606f606f506f506f506f406f406f406f406f306f306f306f306f206f206f2,
  0x78307820782078207820781078107810780078007800780077f077f077f077e077e077e077e077d077d077d077c077c077c077b077b077b077b077a077a077a07790779077907790778077807780777077707770777077607760776077507750775077507740774077407730773077307730772077207720771077107710771077007700770076f076f076f076e076e076e076e076d076d076d076c076c076c076c076b076b076b076a076a076a076a07690769076907680768076807680767076707670766076607660766076507650765076407640764076407630763076307620762076207620761076107610760076007600760075f075f075f075e075e075e075e075d075d075d075c075c075c075b075b075b075b075a075a075a07590759075907590758075807580757075707570757075607560756075507550755075507540754075407530753075307530752075207520751075107510751075007500750074f074f074f074f074e074e074e074d074d074d074d074c074c074c074b074b074b074b074a074a074a07490749074907490748074807480747074707470747074607460746074507450745074507440744074407430743074307430742074207420741074107410741074007400740073f073f073f073f073e073e073e073e073d073d073d073c073c073c073c073b073b073b073a073a073a073a,
  0x7ce07ce07cd07cd07cd07cc07cc07cc07cc07cb07cb07cb07ca07ca07ca07c907c907c907c907c807c807c807c707c707c707c707c607c607c607c507c507c507c407c407c407c407c307c307c307c207c207c207c107c107c107c107c007c007c007bf07bf07bf07bf07be07be07be07bd07bd07bd07bc07bc07bc07bc07bb07bb07bb07ba07ba07ba07b907b907b907b907b807b807b807b707b707b707b707b607b607b607b507b507b507b407b407b407b407b307b307b307b207b207b207b207b107b107b107b007b007b007af07af07af07af07ae07ae07ae07ad07ad07ad07ad07ac07ac07ac07ab07ab07ab07aa07aa07aa07aa07a907a907a907a807a807a807a807a707a707a707a607a607a607a507a507a507a507a407a407a407a307a307a307a307a207a207a207a107a107a107a107a007a007a0079f079f079f079e079e079e079e079d079d079d079c079c079c079c079b079b079b079a079a079a07990799079907990798079807980797079707970797079607960796079507950795079507940794079407930793079307920792079207920791079107910790079007900790078f078f078f078e078e078e078e078d078d078d078c078c078c078b078b078b078b078a078a078a07890789078907890788078807880787078707870787078607860786078507850785078407840784078407830783,
  0x81b081a081a081a081a081908190819081808180818081708170817081708160816081608150815081508140814081408140813081308130812081208120811081108110810081008100810080f080f080f080e080e080e080d080d080d080d080c080c080c080b080b080b080a080a080a080a08090809080908080808080808070807080708070806080608060805080508050804080408040803080308030803080208020802080108010801080008000800080007ff07ff07ff07fe07fe07fe07fd07fd07fd07fd07fc07fc07fc07fb07fb07fb07fa07fa07fa07fa07f907f907f907f807f807f807f707f707f707f707f607f607f607f507f507f507f407f407f407f407f307f307f307f207f207f207f107f107f107f107f007f007f007ef07ef07ef07ee07ee07ee07ee07ed07ed07ed07ec07ec07ec07eb07eb07eb07eb07ea07ea07ea07e907e907e907e807e807e807e807e707e707e707e607e607e607e507e507e507e507e407e407e407e307e307e307e207e207e207e207e107e107e107e007e007e007df07df07df07df07de07de07de07dd07dd07dd07dd07dc07dc07dc07db07db07db07da07da07da07da07d907d907d907d807d807d807d707d707d707d707d607d607d607d507d507d507d407d407d407d407d307d307d307d207d207d207d107d107d107d107d007d007d007cf07cf07cf07cf07ce,
  0x8690869086908680868086808670867086708670866086608660865086508650864086408640863086308630863086208620862086108610861086008600860085f085f085f085f085e085e085e085d085d085d085c085c085c085b085b085b085a085a085a085a08590859085908580858085808570857085708560856085608560855085508550854085408540853085308530852085208520852085108510851085008500850084f084f084f084e084e084e084e084d084d084d084c084c084c084b084b084b084a084a084a084a08490849084908480848084808470847084708460846084608460845084508450844084408440843084308430842084208420842084108410841084008400840083f083f083f083e083e083e083e083d083d083d083c083c083c083b083b083b083b083a083a083a08390839083908380838083808370837083708370836083608360835083508350834083408340833083308330833083208320832083108310831083008300830082f082f082f082f082e082e082e082d082d082d082c082c082c082c082b082b082b082a082a082a082908290829082808280828082808270827082708260826082608250825082508250824082408240823082308230822082208220821082108210821082008200820081f081f081f081e081e081e081e081d081d081d081c081c081c081b081b,
  0x8ba08b908b908b908b808b808b808b708b708b708b608b608b608b608b508b508b508b408b408b408b308b308b308b208b208b208b108b108b108b008b008b008af08af08af08af08ae08ae08ae08ad08ad08ad08ac08ac08ac08ab08ab08ab08aa08aa08aa08a908a908a908a908a808a808a808a708a708a708a608a608a608a508a508a508a408a408a408a408a308a308a308a208a208a208a108a108a108a008a008a0089f089f089f089e089e089e089e089d089d089d089c089c089c089b089b089b089a089a089a08990899089908980898089808980897089708970896089608960895089508950894089408940893089308930893089208920892089108910891089008900890088f088f088f088e088e088e088e088d088d088d088c088c088c088b088b088b088a088a088a08890889088908890888088808880887088708870886088608860885088508850884088408840884088308830883088208820882088108810881088008800880087f087f087f087f087e087e087e087d087d087d087c087c087c087b087b087b087a087a087a087a08790879087908780878087808770877087708760876087608750875087508750874087408740873087308730872087208720871087108710870087008700870086f086f086f086e086e086e086d086d086d086c086c086c086c086b086b086b086a086a086a,
  0x90c090b090b090b090a090a090a090909090909090809080908090709070907090609060906090509050905090509040904090409030903090309020902090209010901090109000900090008ff08ff08ff08fe08fe08fe08fd08fd08fd08fc08fc08fc08fb08fb08fb08fb08fa08fa08fa08f908f908f908f808f808f808f708f708f708f608f608f608f508f508f508f408f408f408f308f308f308f208f208f208f108f108f108f108f008f008f008ef08ef08ef08ee08ee08ee08ed08ed08ed08ec08ec08ec08eb08eb08eb08ea08ea08ea08e908e908e908e808e808e808e808e708e708e708e608e608e608e508e508e508e408e408e408e308e308e308e208e208e208e108e108e108e008e008e008e008df08df08df08de08de08de08dd08dd08dd08dc08dc08dc08db08db08db08da08da08da08d908d908d908d808d808d808d808d708d708d708d608d608d608d508d508d508d408d408d408d308d308d308d208d208d208d108d108d108d108d008d008d008cf08cf08cf08ce08ce08ce08cd08cd08cd08cc08cc08cc08cb08cb08cb08ca08ca08ca08ca08c908c908c908c808c808c808c708c708c708c608c608c608c508c508c508c408c408c408c308c308c308c308c208c208c208c108c108c108c008c008c008bf08bf08bf08be08be08be08bd08bd08bd08bc08bc08bc08bc08bb08bb08bb08ba08ba,
  0x95f095f095f095e095e095e095d095d095d095c095c095c095b095b095b095a095a095a0959095909590958095809580957095709570956095609560955095509550954095409540953095309530952095209520951095109510950095009500950094f094f094f094e094e094e094d094d094d094c094c094c094b094b094b094a094a094a094909490949094809480948094709470947094609460946094509450945094409440944094309430943094209420942094109410941094009400940093f093f093f093e093e093e093d093d093d093c093c093c093b093b093b093a093a093a093a093909390939093809380938093709370937093609360936093509350935093409340934093309330933093209320932093109310931093009300930092f092f092f092e092e092e092d092d092d092c092c092c092b092b092b092a092a092a092a092909290929092809280928092709270927092609260926092509250925092409240924092309230923092209220922092109210921092009200920091f091f091f091e091e091e091d091d091d091c091c091c091c091b091b091b091a091a091a0919091909190918091809180917091709170916091609160915091509150914091409140913091309130912091209120911091109110910091009100910090f090f090f090e090e090e090d090d090d090c090c,
  0x9b509b409b409b409b309b309b309b209b209b209b109b109b109b009b009b009af09af09af09ae09ae09ae09ad09ad09ad09ac09ac09ac09ab09ab09ab09aa09aa09aa09a909a909a909a809a809a809a709a709a709a609a609a609a509a509a509a409a409a409a309a309a309a209a209a209a109a109a109a009a009a0099f099f099f099e099e099e099d099d099d099c099c099c099b099b099b099a099a099a099909990999099809980998099709970997099609960996099509950995099409940994099309930993099209920992099109910991099009900990098f098f098f098e098e098e098d098d098d098c098c098c098b098b098b098a098a098a098909890989098809880988098709870987098609860986098509850985098409840984098309830983098209820982098109810981098009800980097f097f097f097e097e097e097d097d097d097c097c097c097b097b097b097a097a097a097909790979097809780978097709770977097609760976097509750975097409740974097309730973097209720972097109710971097009700970096f096f096f096e096e096e096d096d096d096c096c096c096b096b096b096a096a096a096909690969096809680968096709670967096609660966096509650965096409640964096309630963096209620962096109610961096009600960,
  0xa0c0a0c0a0b0a0b0a0b0a0a0a0a0a0a0a090a090a090a080a080a080a070a070a070a060a060a050a050a050a040a040a040a030a030a030a020a020a020a010a010a010a000a000a0009ff09ff09ff09fe09fe09fe09fd09fd09fd09fc09fc09fc09fb09fb09fa09fa09fa09f909f909f909f809f809f809f709f709f709f609f609f609f509f509f509f409f409f409f309f309f309f209f209f209f109f109f109f009f009f009ef09ef09ef09ee09ee09ed09ed09ed09ec09ec09ec09eb09eb09eb09ea09ea09ea09e909e909e909e809e809e809e709e709e709e609e609e609e509e509e509e409e409e409e309e309e309e209e209e209e109e109e109e009e009e009df09df09de09de09de09dd09dd09dd09dc09dc09dc09db09db09db09da09da09da09d909d909d909d809d809d809d709d709d709d609d609d609d509d509d509d409d409d409d309d309d309d209d209d209d109d109d109d009d009d009cf09cf09cf09ce09ce09cd09cd09cd09cc09cc09cc09cb09cb09cb09ca09ca09ca09c909c909c909c809c809c809c709c709c709c609c609c609c509c509c509c409c409c409c309c309c309c209c209c209c109c109c109c009c009c009bf09bf09bf09be09be09be09bd09bd09bd09bc09bc09bc09bb09bb09bb09ba09ba09ba09b909b909b909b809b809b709b709b709b609b609b609b509b5,
  0xa650a650a640a640a640a630a630a630a620a620a610a610a610a600a600a600a5f0a5f0a5f0a5e0a5e0a5e0a5d0a5d0a5d0a5c0a5c0a5c0a5b0a5b0a5a0a5a0a5a0a590a590a590a580a580a580a570a570a570a560a560a560a550a550a550a540a540a530a530a530a520a520a520a510a510a510a500a500a500a4f0a4f0a4f0a4e0a4e0a4e0a4d0a4d0a4c0a4c0a4c0a4b0a4b0a4b0a4a0a4a0a4a0a490a490a490a480a480a480a470a470a470a460a460a450a450a450a440a440a440a430a430a430a420a420a420a410a410a410a400a400a400a3f0a3f0a3f0a3e0a3e0a3d0a3d0a3d0a3c0a3c0a3c0a3b0a3b0a3b0a3a0a3a0a3a0a390a390a390a380a380a380a370a370a370a360a360a350a350a350a340a340a340a330a330a330a320a320a320a310a310a310a300a300a300a2f0a2f0a2f0a2e0a2e0a2e0a2d0a2d0a2c0a2c0a2c0a2b0a2b0a2b0a2a0a2a0a2a0a290a290a290a280a280a280a270a270a270a260a260a260a250a250a250a240a240a230a230a230a220a220a220a210a210a210a200a200a200a1f0a1f0a1f0a1e0a1e0a1e0a1d0a1d0a1d0a1c0a1c0a1c0a1b0a1b0a1a0a1a0a1a0a190a190a190a180a180a180a170a170a170a160a160a160a150a150a150a140a140a140a130a130a130a120a120a120a110a110a100a100a100a0f0a0f0a0f0a0e0a0e0a0e0a0d0a0d0a0d0a0c,
  0xac00abf0abf0abf0abe0abe0abe0abd0abd0abc0abc0abc0abb0abb0abb0aba0aba0aba0ab90ab90ab90ab80ab80ab70ab70ab70ab60ab60ab60ab50ab50ab50ab40ab40ab40ab30ab30ab20ab20ab20ab10ab10ab10ab00ab00ab00aaf0aaf0aaf0aae0aae0aad0aad0aad0aac0aac0aac0aab0aab0aab0aaa0aaa0aaa0aa90aa90aa90aa80aa80aa70aa70aa70aa60aa60aa60aa50aa50aa50aa40aa40aa40aa30aa30aa20aa20aa20aa10aa10aa10aa00aa00aa00a9f0a9f0a9f0a9e0a9e0a9d0a9d0a9d0a9c0a9c0a9c0a9b0a9b0a9b0a9a0a9a0a9a0a990a990a990a980a980a970a970a970a960a960a960a950a950a950a940a940a940a930a930a920a920a920a910a910a910a900a900a900a8f0a8f0a8f0a8e0a8e0a8e0a8d0a8d0a8c0a8c0a8c0a8b0a8b0a8b0a8a0a8a0a8a0a890a890a890a880a880a880a870a870a860a860a860a850a850a850a840a840a840a830a830a830a820a820a810a810a810a800a800a800a7f0a7f0a7f0a7e0a7e0a7e0a7d0a7d0a7d0a7c0a7c0a7b0a7b0a7b0a7a0a7a0a7a0a790a790a790a780a780a780a770a770a770a760a760a760a750a750a740a740a740a730a730a730a720a720a720a710a710a710a700a700a700a6f0a6f0a6e0a6e0a6e0a6d0a6d0a6d0a6c0a6c0a6c0a6b0a6b0a6b0a6a0a6a0a6a0a690a690a680a680a680a670a670a670a660a660a660a65,
  0xb1c0b1c0b1c0b1b0b1b0b1a0b1a0b1a0b190b190b190b180b180b170b170b170b160b160b160b150b150b150b140b140b130b130b130b120b120b120b110b110b110b100b100b0f0b0f0b0f0b0e0b0e0b0e0b0d0b0d0b0d0b0c0b0c0b0b0b0b0b0b0b0a0b0a0b0a0b090b090b090b080b080b070b070b070b060b060b060b050b050b050b040b040b030b030b030b020b020b020b010b010b010b000b000aff0aff0aff0afe0afe0afe0afd0afd0afd0afc0afc0afc0afb0afb0afa0afa0afa0af90af90af90af80af80af80af70af70af60af60af60af50af50af50af40af40af40af30af30af20af20af20af10af10af10af00af00af00aef0aef0aee0aee0aee0aed0aed0aed0aec0aec0aec0aeb0aeb0aea0aea0aea0ae90ae90ae90ae80ae80ae80ae70ae70ae70ae60ae60ae50ae50ae50ae40ae40ae40ae30ae30ae30ae20ae20ae10ae10ae10ae00ae00ae00adf0adf0adf0ade0ade0ade0add0add0adc0adc0adc0adb0adb0adb0ada0ada0ada0ad90ad90ad80ad80ad80ad70ad70ad70ad60ad60ad60ad50ad50ad50ad40ad40ad30ad30ad30ad20ad20ad20ad10ad10ad10ad00ad00acf0acf0acf0ace0ace0ace0acd0acd0acd0acc0acc0acc0acb0acb0aca0aca0aca0ac90ac90ac90ac80ac80ac80ac70ac70ac70ac60ac60ac50ac50ac50ac40ac40ac40ac30ac30ac30ac20ac20ac20ac10ac10ac00ac0,
  0xb7b0b7a0b7a0b790b790b790b780b780b780b770b770b760b760b760b750b750b750b740b740b730b730b730b720b720b720b710b710b710b700b700b6f0b6f0b6f0b6e0b6e0b6e0b6d0b6d0b6c0b6c0b6c0b6b0b6b0b6b0b6a0b6a0b690b690b690b680b680b680b670b670b660b660b660b650b650b650b640b640b640b630b630b620b620b620b610b610b610b600b600b5f0b5f0b5f0b5e0b5e0b5e0b5d0b5d0b5d0b5c0b5c0b5b0b5b0b5b0b5a0b5a0b5a0b590b590b580b580b580b570b570b570b560b560b550b550b550b540b540b540b530b530b530b520b520b510b510b510b500b500b500b4f0b4f0b4e0b4e0b4e0b4d0b4d0b4d0b4c0b4c0b4c0b4b0b4b0b4a0b4a0b4a0b490b490b490b480b480b470b470b470b460b460b460b450b450b450b440b440b430b430b430b420b420b420b410b410b400b400b400b3f0b3f0b3f0b3e0b3e0b3e0b3d0b3d0b3c0b3c0b3c0b3b0b3b0b3b0b3a0b3a0b3a0b390b390b380b380b380b370b370b370b360b360b350b350b350b340b340b340b330b330b330b320b320b310b310b310b300b300b300b2f0b2f0b2f0b2e0b2e0b2d0b2d0b2d0b2c0b2c0b2c0b2b0b2b0b2a0b2a0b2a0b290b290b290b280b280b280b270b270b260b260b260b250b250b250b240b240b240b230b230b220b220b220b210b210b210b200b200b200b1f0b1f0b1e0b1e0b1e0b1d0b1d0b1d,
  0xbdb0bda0bda0bda0bd90bd90bd80bd80bd80bd70bd70bd60bd60bd60bd50bd50bd50bd40bd40bd30bd30bd30bd20bd20bd20bd10bd10bd00bd00bd00bcf0bcf0bcf0bce0bce0bcd0bcd0bcd0bcc0bcc0bcc0bcb0bcb0bca0bca0bca0bc90bc90bc80bc80bc80bc70bc70bc70bc60bc60bc50bc50bc50bc40bc40bc40bc30bc30bc20bc20bc20bc10bc10bc10bc00bc00bbf0bbf0bbf0bbe0bbe0bbe0bbd0bbd0bbc0bbc0bbc0bbb0bbb0bbb0bba0bba0bb90bb90bb90bb80bb80bb80bb70bb70bb60bb60bb60bb50bb50bb50bb40bb40bb30bb30bb30bb20bb20bb20bb10bb10bb00bb00bb00baf0baf0baf0bae0bae0bad0bad0bad0bac0bac0bab0bab0bab0baa0baa0baa0ba90ba90ba80ba80ba80ba70ba70ba70ba60ba60ba50ba50ba50ba40ba40ba40ba30ba30ba20ba20ba20ba10ba10ba10ba00ba00b9f0b9f0b9f0b9e0b9e0b9e0b9d0b9d0b9c0b9c0b9c0b9b0b9b0b9b0b9a0b9a0b9a0b990b990b980b980b980b970b970b970b960b960b950b950b950b940b940b940b930b930b920b920b920b910b910b910b900b900b8f0b8f0b8f0b8e0b8e0b8e0b8d0b8d0b8c0b8c0b8c0b8b0b8b0b8b0b8a0b8a0b890b890b890b880b880b880b870b870b860b860b860b850b850b850b840b840b830b830b830b820b820b820b810b810b800b800b800b7f0b7f0b7f0b7e0b7e0b7e0b7d0b7d0b7c0b7c0b7c0b7b0b7b,
  0xc3d0c3c0c3c0c3b0c3b0c3b0c3a0c3a0c390c390c390c380c380c380c370c370c360c360c360c350c350c340c340c340c330c330c330c320c320c310c310c310c300c300c2f0c2f0c2f0c2e0c2e0c2e0c2d0c2d0c2c0c2c0c2c0c2b0c2b0c2a0c2a0c2a0c290c290c290c280c280c270c270c270c260c260c250c250c250c240c240c240c230c230c220c220c220c210c210c200c200c200c1f0c1f0c1f0c1e0c1e0c1d0c1d0c1d0c1c0c1c0c1b0c1b0c1b0c1a0c1a0c1a0c190c190c180c180c180c170c170c160c160c160c150c150c150c140c140c130c130c130c120c120c120c110c110c100c100c100c0f0c0f0c0e0c0e0c0e0c0d0c0d0c0d0c0c0c0c0c0b0c0b0c0b0c0a0c0a0c090c090c090c080c080c080c070c070c060c060c060c050c050c050c040c040c030c030c030c020c020c010c010c010c000c000c000bff0bff0bfe0bfe0bfe0bfd0bfd0bfc0bfc0bfc0bfb0bfb0bfb0bfa0bfa0bf90bf90bf90bf80bf80bf80bf70bf70bf60bf60bf60bf50bf50bf40bf40bf40bf30bf30bf30bf20bf20bf10bf10bf10bf00bf00bf00bef0bef0bee0bee0bee0bed0bed0bec0bec0bec0beb0beb0beb0bea0bea0be90be90be90be80be80be80be70be70be60be60be60be50be50be50be40be40be30be30be30be20be20be10be10be10be00be00be00bdf0bdf0bde0bde0bde0bdd0bdd0bdd0bdc0bdc0bdb0bdb,
  0xca00ca00ca00c9f0c9f0c9e0c9e0c9e0c9d0c9d0c9c0c9c0c9c0c9b0c9b0c9a0c9a0c9a0c990c990c980c980c980c970c970c960c960c960c950c950c950c940c940c930c930c930c920c920c910c910c910c900c900c8f0c8f0c8f0c8e0c8e0c8d0c8d0c8d0c8c0c8c0c8c0c8b0c8b0c8a0c8a0c8a0c890c890c880c880c880c870c870c860c860c860c850c850c840c840c840c830c830c830c820c820c810c810c810c800c800c7f0c7f0c7f0c7e0c7e0c7d0c7d0c7d0c7c0c7c0c7b0c7b0c7b0c7a0c7a0c7a0c790c790c780c780c780c770c770c760c760c760c750c750c740c740c740c730c730c720c720c720c710c710c710c700c700c6f0c6f0c6f0c6e0c6e0c6d0c6d0c6d0c6c0c6c0c6b0c6b0c6b0c6a0c6a0c6a0c690c690c680c680c680c670c670c660c660c660c650c650c640c640c640c630c630c630c620c620c610c610c610c600c600c5f0c5f0c5f0c5e0c5e0c5d0c5d0c5d0c5c0c5c0c5c0c5b0c5b0c5a0c5a0c5a0c590c590c580c580c580c570c570c560c560c560c550c550c550c540c540c530c530c530c520c520c510c510c510c500c500c500c4f0c4f0c4e0c4e0c4e0c4d0c4d0c4c0c4c0c4c0c4b0c4b0c4a0c4a0c4a0c490c490c490c480c480c470c470c470c460c460c450c450c450c440c440c440c430c430c420c420c420c410c410c400c400c400c3f0c3f0c3e0c3e0c3e0c3d0c3d,
  0xd060d050d050d050d040d040d030d030d030d020d020d010d010d010d000d000cff0cff0cff0cfe0cfe0cfd0cfd0cfd0cfc0cfc0cfb0cfb0cfb0cfa0cfa0cf90cf90cf90cf80cf80cf70cf70cf70cf60cf60cf50cf50cf50cf40cf40cf30cf30cf30cf20cf20cf10cf10cf10cf00cf00cef0cef0cef0cee0cee0ced0ced0ced0cec0cec0cec0ceb0ceb0cea0cea0cea0ce90ce90ce80ce80ce80ce70ce70ce60ce60ce60ce50ce50ce40ce40ce40ce30ce30ce20ce20ce20ce10ce10ce00ce00ce00cdf0cdf0cde0cde0cde0cdd0cdd0cdc0cdc0cdc0cdb0cdb0cda0cda0cda0cd90cd90cd80cd80cd80cd70cd70cd60cd60cd60cd50cd50cd40cd40cd40cd30cd30cd20cd20cd20cd10cd10cd00cd00cd00ccf0ccf0cce0cce0cce0ccd0ccd0ccd0ccc0ccc0ccb0ccb0ccb0cca0cca0cc90cc90cc90cc80cc80cc70cc70cc70cc60cc60cc50cc50cc50cc40cc40cc30cc30cc30cc20cc20cc10cc10cc10cc00cc00cbf0cbf0cbf0cbe0cbe0cbd0cbd0cbd0cbc0cbc0cbb0cbb0cbb0cba0cba0cba0cb90cb90cb80cb80cb80cb70cb70cb60cb60cb60cb50cb50cb40cb40cb40cb30cb30cb20cb20cb20cb10cb10cb00cb00cb00caf0caf0cae0cae0cae0cad0cad0cad0cac0cac0cab0cab0cab0caa0caa0ca90ca90ca90ca80ca80ca70ca70ca70ca60ca60ca50ca50ca50ca40ca40ca30ca30ca30ca20ca20ca10ca10ca1,
  0xd6d0d6d0d6c0d6c0d6c0d6b0d6b0d6a0d6a0d6a0d690d690d680d680d680d670d670d660d660d660d650d650d640d640d630d630d630d620d620d610d610d610d600d600d5f0d5f0d5f0d5e0d5e0d5d0d5d0d5d0d5c0d5c0d5b0d5b0d5b0d5a0d5a0d590d590d590d580d580d570d570d560d560d560d550d550d540d540d540d530d530d520d520d520d510d510d500d500d500d4f0d4f0d4e0d4e0d4e0d4d0d4d0d4c0d4c0d4c0d4b0d4b0d4a0d4a0d4a0d490d490d480d480d470d470d470d460d460d450d450d450d440d440d430d430d430d420d420d410d410d410d400d400d3f0d3f0d3f0d3e0d3e0d3d0d3d0d3d0d3c0d3c0d3b0d3b0d3b0d3a0d3a0d390d390d390d380d380d370d370d370d360d360d350d350d340d340d340d330d330d320d320d320d310d310d300d300d300d2f0d2f0d2e0d2e0d2e0d2d0d2d0d2c0d2c0d2c0d2b0d2b0d2a0d2a0d2a0d290d290d280d280d280d270d270d260d260d260d250d250d240d240d240d230d230d220d220d220d210d210d200d200d200d1f0d1f0d1e0d1e0d1e0d1d0d1d0d1c0d1c0d1c0d1b0d1b0d1a0d1a0d1a0d190d190d180d180d180d170d170d160d160d150d150d150d140d140d130d130d130d120d120d110d110d110d100d100d0f0d0f0d0f0d0e0d0e0d0d0d0d0d0d0d0c0d0c0d0b0d0b0d0b0d0a0d0a0d090d090d090d080d080d070d070d070d06,
  0xdd70dd60dd60dd50dd50dd40dd40dd40dd30dd30dd20dd20dd20dd10dd10dd00dd00dcf0dcf0dcf0dce0dce0dcd0dcd0dcd0dcc0dcc0dcb0dcb0dca0dca0dca0dc90dc90dc80dc80dc80dc70dc70dc60dc60dc60dc50dc50dc40dc40dc30dc30dc30dc20dc20dc10dc10dc10dc00dc00dbf0dbf0dbf0dbe0dbe0dbd0dbd0dbc0dbc0dbc0dbb0dbb0dba0dba0dba0db90db90db80db80db70db70db70db60db60db50db50db50db40db40db30db30db30db20db20db10db10db00db00db00daf0daf0dae0dae0dae0dad0dad0dac0dac0dac0dab0dab0daa0daa0da90da90da90da80da80da70da70da70da60da60da50da50da50da40da40da30da30da20da20da20da10da10da00da00da00d9f0d9f0d9e0d9e0d9e0d9d0d9d0d9c0d9c0d9b0d9b0d9b0d9a0d9a0d990d990d990d980d980d970d970d970d960d960d950d950d950d940d940d930d930d920d920d920d910d910d900d900d900d8f0d8f0d8e0d8e0d8e0d8d0d8d0d8c0d8c0d8b0d8b0d8b0d8a0d8a0d890d890d890d880d880d870d870d870d860d860d850d850d850d840d840d830d830d820d820d820d810d810d800d800d800d7f0d7f0d7e0d7e0d7e0d7d0d7d0d7c0d7c0d7c0d7b0d7b0d7a0d7a0d7a0d790d790d780d780d770d770d770d760d760d750d750d750d740d740d730d730d730d720d720d710d710d710d700d700d6f0d6f0d6e0d6e0d6e,
  0xe420e410e410e400e400e400e3f0e3f0e3e0e3e0e3d0e3d0e3d0e3c0e3c0e3b0e3b0e3a0e3a0e3a0e390e390e380e380e370e370e370e360e360e350e350e350e340e340e330e330e320e320e320e310e310e300e300e2f0e2f0e2f0e2e0e2e0e2d0e2d0e2d0e2c0e2c0e2b0e2b0e2a0e2a0e2a0e290e290e280e280e280e270e270e260e260e250e250e250e240e240e230e230e220e220e220e210e210e200e200e200e1f0e1f0e1e0e1e0e1d0e1d0e1d0e1c0e1c0e1b0e1b0e1a0e1a0e1a0e190e190e180e180e180e170e170e160e160e150e150e150e140e140e130e130e130e120e120e110e110e100e100e100e0f0e0f0e0e0e0e0e0e0e0d0e0d0e0c0e0c0e0b0e0b0e0b0e0a0e0a0e090e090e080e080e080e070e070e060e060e060e050e050e040e040e030e030e030e020e020e010e010e010e000e000dff0dff0dfe0dfe0dfe0dfd0dfd0dfc0dfc0dfc0dfb0dfb0dfa0dfa0df90df90df90df80df80df70df70df70df60df60df50df50df40df40df40df30df30df20df20df20df10df10df00df00def0def0def0dee0dee0ded0ded0ded0dec0dec0deb0deb0dea0dea0dea0de90de90de80de80de80de70de70de60de60de50de50de50de40de40de30de30de30de20de20de10de10de00de00de00ddf0ddf0dde0dde0dde0ddd0ddd0ddc0ddc0ddb0ddb0ddb0dda0dda0dd90dd90dd90dd80dd80dd70dd7,
  0xeaf0eae0eae0ead0ead0eac0eac0eac0eab0eab0eaa0eaa0ea90ea90ea90ea80ea80ea70ea70ea60ea60ea60ea50ea50ea40ea40ea30ea30ea30ea20ea20ea10ea10ea00ea00ea00e9f0e9f0e9e0e9e0e9d0e9d0e9d0e9c0e9c0e9b0e9b0e9a0e9a0e9a0e990e990e980e980e970e970e970e960e960e950e950e940e940e940e930e930e920e920e910e910e910e900e900e8f0e8f0e8e0e8e0e8e0e8d0e8d0e8c0e8c0e8b0e8b0e8b0e8a0e8a0e890e890e880e880e880e870e870e860e860e860e850e850e840e840e830e830e830e820e820e810e810e800e800e800e7f0e7f0e7e0e7e0e7d0e7d0e7d0e7c0e7c0e7b0e7b0e7a0e7a0e7a0e790e790e780e780e770e770e770e760e760e750e750e740e740e740e730e730e720e720e710e710e710e700e700e6f0e6f0e6f0e6e0e6e0e6d0e6d0e6c0e6c0e6c0e6b0e6b0e6a0e6a0e690e690e690e680e680e670e670e660e660e660e650e650e640e640e630e630e630e620e620e610e610e610e600e600e5f0e5f0e5e0e5e0e5e0e5d0e5d0e5c0e5c0e5b0e5b0e5b0e5a0e5a0e590e590e580e580e580e570e570e560e560e550e550e550e540e540e530e530e530e520e520e510e510e500e500e500e4f0e4f0e4e0e4e0e4d0e4d0e4d0e4c0e4c0e4b0e4b0e4a0e4a0e4a0e490e490e480e480e480e470e470e460e460e450e450e450e440e440e430e430e420e42,
  0xf1d0f1d0f1d0f1c0f1c0f1b0f1b0f1a0f1a0f1a0f190f190f180f180f170f170f160f160f160f150f150f140f140f130f130f130f120f120f110f110f100f100f0f0f0f0f0f0f0e0f0e0f0d0f0d0f0c0f0c0f0c0f0b0f0b0f0a0f0a0f090f090f090f080f080f070f070f060f060f050f050f050f040f040f030f030f020f020f020f010f010f000f000eff0eff0eff0efe0efe0efd0efd0efc0efc0efb0efb0efb0efa0efa0ef90ef90ef80ef80ef80ef70ef70ef60ef60ef50ef50ef50ef40ef40ef30ef30ef20ef20ef10ef10ef10ef00ef00eef0eef0eee0eee0eee0eed0eed0eec0eec0eeb0eeb0eeb0eea0eea0ee90ee90ee80ee80ee80ee70ee70ee60ee60ee50ee50ee40ee40ee40ee30ee30ee20ee20ee10ee10ee10ee00ee00edf0edf0ede0ede0ede0edd0edd0edc0edc0edb0edb0edb0eda0eda0ed90ed90ed80ed80ed80ed70ed70ed60ed60ed50ed50ed40ed40ed40ed30ed30ed20ed20ed10ed10ed10ed00ed00ecf0ecf0ece0ece0ece0ecd0ecd0ecc0ecc0ecb0ecb0ecb0eca0eca0ec90ec90ec80ec80ec80ec70ec70ec60ec60ec50ec50ec50ec40ec40ec30ec30ec20ec20ec20ec10ec10ec00ec00ebf0ebf0ebe0ebe0ebe0ebd0ebd0ebc0ebc0ebb0ebb0ebb0eba0eba0eb90eb90eb80eb80eb80eb70eb70eb60eb60eb50eb50eb50eb40eb40eb30eb30eb20eb20eb20eb10eb10eb00eb00eaf0eaf,
  0xf8e0f8e0f8d0f8d0f8c0f8c0f8b0f8b0f8b0f8a0f8a0f890f890f880f880f880f870f870f860f860f850f850f840f840f840f830f830f820f820f810f810f800f800f800f7f0f7f0f7e0f7e0f7d0f7d0f7c0f7c0f7c0f7b0f7b0f7a0f7a0f790f790f780f780f780f770f770f760f760f750f750f740f740f740f730f730f720f720f710f710f700f700f700f6f0f6f0f6e0f6e0f6d0f6d0f6c0f6c0f6c0f6b0f6b0f6a0f6a0f690f690f690f680f680f670f670f660f660f650f650f650f640f640f630f630f620f620f610f610f610f600f600f5f0f5f0f5e0f5e0f5d0f5d0f5d0f5c0f5c0f5b0f5b0f5a0f5a0f5a0f590f590f580f580f570f570f560f560f560f550f550f540f540f530f530f520f520f520f510f510f500f500f4f0f4f0f4f0f4e0f4e0f4d0f4d0f4c0f4c0f4b0f4b0f4b0f4a0f4a0f490f490f480f480f470f470f470f460f460f450f450f440f440f440f430f430f420f420f410f410f400f400f400f3f0f3f0f3e0f3e0f3d0f3d0f3d0f3c0f3c0f3b0f3b0f3a0f3a0f390f390f390f380f380f370f370f360f360f350f350f350f340f340f330f330f320f320f320f310f310f300f300f2f0f2f0f2e0f2e0f2e0f2d0f2d0f2c0f2c0f2b0f2b0f2b0f2a0f2a0f290f290f280f280f270f270f270f260f260f250f250f240f240f240f230f230f220f220f210f210f200f200f200f1f0f1f0f1e0f1e,
  0x1001100010000fff0fff0fff0ffe0ffe0ffd0ffd0ffc0ffc0ffb0ffb0ffa0ffa0ffa0ff90ff90ff80ff80ff70ff70ff60ff60ff60ff50ff50ff40ff40ff30ff30ff20ff20ff10ff10ff10ff00ff00fef0fef0fee0fee0fed0fed0fec0fec0fec0feb0feb0fea0fea0fe90fe90fe80fe80fe80fe70fe70fe60fe60fe50fe50fe40fe40fe30fe30fe30fe20fe20fe10fe10fe00fe00fdf0fdf0fdf0fde0fde0fdd0fdd0fdc0fdc0fdb0fdb0fdb0fda0fda0fd90fd90fd80fd80fd70fd70fd60fd60fd60fd50fd50fd40fd40fd30fd30fd20fd20fd20fd10fd10fd00fd00fcf0fcf0fce0fce0fce0fcd0fcd0fcc0fcc0fcb0fcb0fca0fca0fc90fc90fc90fc80fc80fc70fc70fc60fc60fc50fc50fc50fc40fc40fc30fc30fc20fc20fc10fc10fc10fc00fc00fbf0fbf0fbe0fbe0fbd0fbd0fbc0fbc0fbc0fbb0fbb0fba0fba0fb90fb90fb80fb80fb80fb70fb70fb60fb60fb50fb50fb40fb40fb40fb30fb30fb20fb20fb10fb10fb00fb00fb00faf0faf0fae0fae0fad0fad0fac0fac0fac0fab0fab0faa0faa0fa90fa90fa80fa80fa80fa70fa70fa60fa60fa50fa50fa40fa40fa40fa30fa30fa20fa20fa10fa10fa00fa00fa00f9f0f9f0f9e0f9e0f9d0f9d0f9c0f9c0f9b0f9b0f9b0f9a0f9a0f990f990f980f980f970f970f970f960f960f950f950f940f940f930f930f930f920f920f910f910f900f900f8f0f8f0f8f,
  0x1075107510741074107310731073107210721071107110701070106f106f106e106e106e106d106d106c106c106b106b106a106a1069106910681068106810671067106610661065106510641064106310631063106210621061106110601060105f105f105e105e105d105d105d105c105c105b105b105a105a1059105910581058105810571057105610561055105510541054105310531053105210521051105110501050104f104f104e104e104d104d104d104c104c104b104b104a104a1049104910481048104810471047104610461045104510441044104310431043104210421041104110401040103f103f103e103e103e103d103d103c103c103b103b103a103a1039103910391038103810371037103610361035103510341034103410331033103210321031103110301030102f102f102f102e102e102d102d102c102c102b102b102a102a102a1029102910281028102710271026102610251025102510241024102310231022102210211021102010201020101f101f101e101e101d101d101c101c101b101b101b101a101a1019101910181018101710171016101610161015101510141014101310131012101210121011101110101010100f100f100e100e100d100d100d100c100c100b100b100a100a1009100910081008100810071007100610061005100510041004100310031003100210021001,
  0x10ec10eb10eb10ea10ea10e910e910e810e810e810e710e710e610e610e510e510e410e410e310e310e210e210e110e110e110e010e010df10df10de10de10dd10dd10dc10dc10db10db10db10da10da10d910d910d810d810d710d710d610d610d510d510d410d410d410d310d310d210d210d110d110d010d010cf10cf10ce10ce10cd10cd10cd10cc10cc10cb10cb10ca10ca10c910c910c810c810c710c710c710c610c610c510c510c410c410c310c310c210c210c110c110c010c010c010bf10bf10be10be10bd10bd10bc10bc10bb10bb10ba10ba10ba10b910b910b810b810b710b710b610b610b510b510b410b410b410b310b310b210b210b110b110b010b010af10af10ae10ae10ae10ad10ad10ac10ac10ab10ab10aa10aa10a910a910a810a810a710a710a710a610a610a510a510a410a410a310a310a210a210a110a110a110a010a0109f109f109e109e109d109d109c109c109b109b109b109a109a1099109910981098109710971096109610961095109510941094109310931092109210911091109010901090108f108f108e108e108d108d108c108c108b108b108a108a108a108910891088108810871087108610861085108510841084108410831083108210821081108110801080107f107f107e107e107e107d107d107c107c107b107b107a107a107910791079107810781077107710761076,
  0x1164116411631163116211621161116111601160115f115f115e115e115d115d115d115c115c115b115b115a115a115911591158115811571157115611561155115511541154115411531153115211521151115111501150114f114f114e114e114d114d114c114c114b114b114b114a114a114911491148114811471147114611461145114511441144114311431143114211421141114111401140113f113f113e113e113d113d113c113c113b113b113b113a113a113911391138113811371137113611361135113511341134113311331132113211321131113111301130112f112f112e112e112d112d112c112c112b112b112a112a112a112911291128112811271127112611261125112511241124112311231123112211221121112111201120111f111f111e111e111d111d111c111c111b111b111b111a111a111911191118111811171117111611161115111511141114111311131113111211121111111111101110110f110f110e110e110d110d110c110c110c110b110b110a110a11091109110811081107110711061106110511051104110411041103110311021102110111011100110010ff10ff10fe10fe10fd10fd10fd10fc10fc10fb10fb10fa10fa10f910f910f810f810f710f710f610f610f610f510f510f410f410f310f310f210f210f110f110f010f010ef10ef10ef10ee10ee10ed10ed10ec,
  0x11de11de11dd11dd11dc11dc11db11db11db11da11da11d911d911d811d811d711d711d611d611d511d511d411d411d311d311d211d211d111d111d011d011cf11cf11cf11ce11ce11cd11cd11cc11cc11cb11cb11ca11ca11c911c911c811c811c711c711c611c611c511c511c411c411c311c311c311c211c211c111c111c011c011bf11bf11be11be11bd11bd11bc11bc11bb11bb11ba11ba11b911b911b811b811b711b711b711b611b611b511b511b411b411b311b311b211b211b111b111b011b011af11af11ae11ae11ad11ad11ac11ac11ac11ab11ab11aa11aa11a911a911a811a811a711a711a611a611a511a511a411a411a311a311a211a211a111a111a111a011a0119f119f119e119e119d119d119c119c119b119b119a119a119911991198119811971197119611961196119511951194119411931193119211921191119111901190118f118f118e118e118d118d118c118c118c118b118b118a118a118911891188118811871187118611861185118511841184118311831182118211821181118111801180117f117f117e117e117d117d117c117c117b117b117a117a117911791178117811781177117711761176117511751174117411731173117211721171117111701170116f116f116f116e116e116d116d116c116c116b116b116a116a11691169116811681167116711661166116611651165,
  0x125b125a125a12591259125812581257125712561256125512551254125412531253125212521251125112501250124f124f124e124e124d124d124c124c124b124b124a124a124912491249124812481247124712461246124512451244124412431243124212421241124112401240123f123f123e123e123d123d123c123c123b123b123a123a123912391238123812371237123612361236123512351234123412331233123212321231123112301230122f122f122e122e122d122d122c122c122b122b122a122a122912291228122812271227122612261225122512241224122412231223122212221221122112201220121f121f121e121e121d121d121c121c121b121b121a121a121912191218121812171217121612161215121512141214121412131213121212121211121112101210120f120f120e120e120d120d120c120c120b120b120a120a12091209120812081207120712061206120512051205120412041203120312021202120112011200120011ff11ff11fe11fe11fd11fd11fc11fc11fb11fb11fa11fa11f911f911f811f811f711f711f611f611f611f511f511f411f411f311f311f211f211f111f111f011f011ef11ef11ee11ee11ed11ed11ec11ec11eb11eb11ea11ea11e911e911e811e811e811e711e711e611e611e511e511e411e411e311e311e211e211e111e111e011e011df11df,
  0x12d912d812d812d712d712d612d612d512d512d412d412d312d312d212d212d112d112d012d012cf12cf12ce12ce12cd12cd12cc12cc12cb12cb12ca12ca12c912c912c812c812c712c712c612c612c512c512c412c412c312c312c212c212c112c112c012c012bf12bf12be12be12bd12bd12bc12bc12bc12bb12bb12ba12ba12b912b912b812b812b712b712b612b612b512b512b412b412b312b312b212b212b112b112b012b012af12af12ae12ae12ad12ad12ac12ac12ab12ab12aa12aa12a912a912a812a812a712a712a612a612a512a512a412a412a312a312a212a212a112a112a012a0129f129f129e129e129d129d129c129c129b129b129a129a129912991298129812971297129612961295129512951294129412931293129212921291129112901290128f128f128e128e128d128d128c128c128b128b128a128a12891289128812881287128712861286128512851284128412831283128212821281128112801280127f127f127e127e127d127d127c127c127b127b127a127a127912791278127812771277127712761276127512751274127412731273127212721271127112701270126f126f126e126e126d126d126c126c126b126b126a126a12691269126812681267126712661266126512651264126412631263126212621261126112601260125f125f125f125e125e125d125d125c125c125b,
  0x1359135813581357135713561356135513551354135413531353135213521351135113501350134f134f134e134e134d134d134c134c134b134b134a134a13491349134813481347134713461346134513451344134413431343134213421341134113401340133f133f133e133e133d133d133c133c133b133b133a133a13391339133813381337133713361336133513351334133413331333133213321331133113301330132f132f132e132e132d132d132c132c132b132b132a132a13291329132813281327132713261326132513251324132413231323132213221321132113201320131f131f131e131e131d131d131c131c131b131b131a131a13191319131813181317131713161316131513151314131413131313131213121311131113101310130f130f130e130e130d130d130c130c130b130b130a130a1309130913081308130713071306130613051305130413041303130313021302130113011300130012ff12ff12fe12fe12fd12fd12fc12fc12fb12fb12fa12fa12f912f912f812f812f712f712f612f612f512f512f412f412f312f312f212f212f112f112f012f012ef12ef12ee12ee12ed12ed12ec12ec12eb12eb12ea12ea12e912e912e812e812e712e712e612e612e512e512e412e412e312e312e212e212e112e112e012e012df12df12de12de12dd12dd12dc12dc12db12db12da12da12d9,
  0x13db13da13da13d913d913d813d813d713d713d613d613d513d513d413d413d313d313d213d213d113d113d013d013cf13cf13ce13ce13cd13cd13cc13cc13cb13cb13ca13ca13c913c913c813c813c713c713c613c513c513c413c413c313c313c213c213c113c113c013c013bf13bf13be13be13bd13bd13bc13bc13bb13bb13ba13ba13b913b913b813b813b713b713b613b613b513b513b413b413b313b313b213b213b113b113b013b013af13af13ae13ae13ad13ac13ac13ab13ab13aa13aa13a913a913a813a813a713a713a613a613a513a513a413a413a313a313a213a213a113a113a013a0139f139f139e139e139d139d139c139c139b139b139a139a13991399139813981397139713961396139513951394139413931393139213921391139113901390138f138f138e138d138d138c138c138b138b138a138a13891389138813881387138713861386138513851384138413831383138213821381138113801380137f137f137e137e137d137d137c137c137b137b137a137a13791379137813781377137713761376137513751374137413731373137213721371137113701370136f136f136e136e136d136d136c136c136b136b136a136a1369136913681368136713671366136513651364136413631363136213621361136113601360135f135f135e135e135d135d135c135c135b135b135a135a1359,
  0x145f145e145e145d145d145c145c145b145b145a145a1459145914581458145714571456145614551455145414541453145314521452145114501450144f144f144e144e144d144d144c144c144b144b144a144a1449144914481448144714471446144614451445144414441443144214421441144114401440143f143f143e143e143d143d143c143c143b143b143a143a1439143914381438143714371436143614351434143414331433143214321431143114301430142f142f142e142e142d142d142c142c142b142b142a142a1429142914281428142714271426142614251424142414231423142214221421142114201420141f141f141e141e141d141d141c141c141b141b141a141a1419141914181418141714171416141614151414141414131413141214121411141114101410140f140f140e140e140d140d140c140c140b140b140a140a140914091408140814071407140614061405140514041403140314021402140114011400140013ff13ff13fe13fe13fd13fd13fc13fc13fb13fb13fa13fa13f913f913f813f813f713f713f613f613f513f513f413f413f313f313f213f213f113f013f013ef13ef13ee13ee13ed13ed13ec13ec13eb13eb13ea13ea13e913e913e813e813e713e713e613e613e513e513e413e413e313e313e213e213e113e113e013e013df13df13de13de13dd13dc13dc13db,
  0x14e514e514e414e314e314e214e214e114e114e014e014df14df14de14de14dd14dd14dc14dc14db14db14da14d914d914d814d814d714d714d614d614d514d514d414d414d314d314d214d214d114d014d014cf14cf14ce14ce14cd14cd14cc14cc14cb14cb14ca14ca14c914c914c814c814c714c714c614c514c514c414c414c314c314c214c214c114c114c014c014bf14bf14be14be14bd14bd14bc14bb14bb14ba14ba14b914b914b814b814b714b714b614b614b514b514b414b414b314b314b214b214b114b014b014af14af14ae14ae14ad14ad14ac14ac14ab14ab14aa14aa14a914a914a814a814a714a614a614a514a514a414a414a314a314a214a214a114a114a014a0149f149f149e149e149d149d149c149c149b149a149a1499149914981498149714971496149614951495149414941493149314921492149114911490148f148f148e148e148d148d148c148c148b148b148a148a1489148914881488148714871486148614851485148414831483148214821481148114801480147f147f147e147e147d147d147c147c147b147b147a147a1479147914781477147714761476147514751474147414731473147214721471147114701470146f146f146e146e146d146d146c146b146b146a146a14691469146814681467146714661466146514651464146414631463146214621461146114601460,
  0x156d156d156c156b156b156a156a1569156915681568156715671566156615651565156415631563156215621561156115601560155f155f155e155e155d155c155c155b155b155a155a1559155915581558155715571556155615551554155415531553155215521551155115501550154f154f154e154e154d154c154c154b154b154a154a1549154915481548154715471546154615451544154415431543154215421541154115401540153f153f153e153e153d153c153c153b153b153a153a1539153915381538153715371536153615351535153415331533153215321531153115301530152f152f152e152e152d152d152c152b152b152a152a1529152915281528152715271526152615251525152415231523152215221521152115201520151f151f151e151e151d151d151c151c151b151a151a1519151915181518151715171516151615151515151415141513151315121511151115101510150f150f150e150e150d150d150c150c150b150b150a150a15091508150815071507150615061505150515041504150315031502150215011501150014ff14ff14fe14fe14fd14fd14fc14fc14fb14fb14fa14fa14f914f914f814f814f714f614f614f514f514f414f414f314f314f214f214f114f114f014f014ef14ef14ee14ed14ed14ec14ec14eb14eb14ea14ea14e914e914e814e814e714e714e614e6,
  0x15f715f715f615f515f515f415f415f315f315f215f215f115f115f015ef15ef15ee15ee15ed15ed15ec15ec15eb15eb15ea15ea15e915e815e815e715e715e615e615e515e515e415e415e315e215e215e115e115e015e015df15df15de15de15dd15dd15dc15db15db15da15da15d915d915d815d815d715d715d615d515d515d415d415d315d315d215d215d115d115d015d015cf15ce15ce15cd15cd15cc15cc15cb15cb15ca15ca15c915c815c815c715c715c615c615c515c515c415c415c315c315c215c115c115c015c015bf15bf15be15be15bd15bd15bc15bc15bb15ba15ba15b915b915b815b815b715b715b615b615b515b515b415b315b315b215b215b115b115b015b015af15af15ae15ae15ad15ac15ac15ab15ab15aa15aa15a915a915a815a815a715a715a615a515a515a415a415a315a315a215a215a115a115a015a0159f159e159e159d159d159c159c159b159b159a159a159915991598159715971596159615951595159415941593159315921592159115901590158f158f158e158e158d158d158c158c158b158b158a1589158915881588158715871586158615851585158415841583158215821581158115801580157f157f157e157e157d157d157c157c157b157a157a1579157915781578157715771576157615751575157415731573157215721571157115701570156f156f156e156e,
  0x1683168316821681168116801680167f167f167e167e167d167c167c167b167b167a167a167916791678167816771676167616751675167416741673167316721671167116701670166f166f166e166e166d166d166c166b166b166a166a166916691668166816671667166616651665166416641663166316621662166116601660165f165f165e165e165d165d165c165c165b165a165a165916591658165816571657165616551655165416541653165316521652165116511650164f164f164e164e164d164d164c164c164b164b164a1649164916481648164716471646164616451645164416431643164216421641164116401640163f163e163e163d163d163c163c163b163b163a163a163916381638163716371636163616351635163416341633163216321631163116301630162f162f162e162e162d162c162c162b162b162a162a162916291628162816271626162616251625162416241623162316221622162116201620161f161f161e161e161d161d161c161c161b161a161a1619161916181618161716171616161616151614161416131613161216121611161116101610160f160e160e160d160d160c160c160b160b160a160a16091608160816071607160616061605160516041604160316021602160116011600160015ff15ff15fe15fe15fd15fd15fc15fb15fb15fa15fa15f915f915f815f8,
  0x171117111710170f170f170e170e170d170d170c170c170b170a170a17091709170817081707170717061705170517041704170317031702170217011700170016ff16ff16fe16fe16fd16fc16fc16fb16fb16fa16fa16f916f916f816f716f716f616f616f516f516f416f416f316f216f216f116f116f016f016ef16ef16ee16ed16ed16ec16ec16eb16eb16ea16ea16e916e816e816e716e716e616e616e516e516e416e316e316e216e216e116e116e016e016df16de16de16dd16dd16dc16dc16db16db16da16d916d916d816d816d716d716d616d616d516d416d416d316d316d216d216d116d116d016cf16cf16ce16ce16cd16cd16cc16cc16cb16ca16ca16c916c916c816c816c716c716c616c516c516c416c416c316c316c216c216c116c016c016bf16bf16be16be16bd16bd16bc16bb16bb16ba16ba16b916b916b816b816b716b616b616b516b516b416b416b316b316b216b116b116b016b016af16af16ae16ae16ad16ad16ac16ab16ab16aa16aa16a916a916a816a816a716a616a616a516a516a416a416a316a316a216a116a116a016a0169f169f169e169e169d169c169c169b169b169a169a169916991698169816971696169616951695169416941693169316921691169116901690168f168f168e168e168d168c168c168b168b168a168a16891689168816881687168616861685168516841684,
  0x17a117a117a017a0179f179e179e179d179d179c179c179b179a179a179917991798179817971796179617951795179417941793179217921791179117901790178f178f178e178d178d178c178c178b178b178a178917891788178817871787178617851785178417841783178317821782178117801780177f177f177e177e177d177c177c177b177b177a177a17791778177817771777177617761775177517741773177317721772177117711770176f176f176e176e176d176d176c176c176b176a176a176917691768176817671766176617651765176417641763176217621761176117601760175f175f175e175d175d175c175c175b175b175a175917591758175817571757175617561755175417541753175317521752175117501750174f174f174e174e174d174d174c174b174b174a174a174917491748174717471746174617451745174417441743174217421741174117401740173f173f173e173d173d173c173c173b173b173a173917391738173817371737173617361735173417341733173317321732173117301730172f172f172e172e172d172d172c172b172b172a172a172917291728172817271726172617251725172417241723172217221721172117201720171f171f171e171d171d171c171c171b171b171a171a17191718171817171717171617161715171417141713171317121712,
  0x1833183318321832183118301830182f182f182e182e182d182c182c182b182b182a182a18291828182818271827182618261825182418241823182318221821182118201820181f181f181e181d181d181c181c181b181b181a181918191818181818171817181618151815181418141813181318121811181118101810180f180f180e180d180d180c180c180b180b180a18091809180818081807180718061805180518041804180318031802180118011800180017ff17ff17fe17fd17fd17fc17fc17fb17fb17fa17f917f917f817f817f717f717f617f517f517f417f417f317f317f217f117f117f017f017ef17ef17ee17ed17ed17ec17ec17eb17eb17ea17e917e917e817e817e717e717e617e517e517e417e417e317e317e217e117e117e017e017df17df17de17dd17dd17dc17dc17db17db17da17d917d917d817d817d717d717d617d517d517d417d417d317d317d217d117d117d017d017cf17cf17ce17cd17cd17cc17cc17cb17cb17ca17ca17c917c817c817c717c717c617c617c517c417c417c317c317c217c217c117c017c017bf17bf17be17be17bd17bc17bc17bb17bb17ba17ba17b917b817b817b717b717b617b617b517b417b417b317b317b217b217b117b117b017af17af17ae17ae17ad17ad17ac17ab17ab17aa17aa17a917a917a817a717a717a617a617a517a517a417a317a317a217a2,
  0x18c718c718c618c618c518c418c418c318c318c218c218c118c018c018bf18bf18be18be18bd18bc18bc18bb18bb18ba18b918b918b818b818b718b718b618b518b518b418b418b318b218b218b118b118b018b018af18ae18ae18ad18ad18ac18ab18ab18aa18aa18a918a918a818a718a718a618a618a518a518a418a318a318a218a218a118a018a0189f189f189e189e189d189c189c189b189b189a189918991898189818971897189618951895189418941893189318921891189118901890188f188e188e188d188d188c188c188b188a188a18891889188818881887188618861885188518841883188318821882188118811880187f187f187e187e187d187d187c187b187b187a187a18791878187818771877187618761875187418741873187318721872187118701870186f186f186e186d186d186c186c186b186b186a186918691868186818671867186618651865186418641863186318621861186118601860185f185e185e185d185d185c185c185b185a185a18591859185818581857185618561855185518541854185318521852185118511850184f184f184e184e184d184d184c184b184b184a184a18491849184818471847184618461845184518441843184318421842184118411840183f183f183e183e183d183c183c183b183b183a183a1839183818381837183718361836183518341834,
  0x195e195d195c195c195b195b195a19591959195819581957195619561955195519541954195319521952195119511950194f194f194e194e194d194c194c194b194b194a194a19491948194819471947194619451945194419441943194219421941194119401940193f193e193e193d193d193c193b193b193a193a19391938193819371937193619351935193419341933193319321931193119301930192f192e192e192d192d192c192b192b192a192a19291929192819271927192619261925192419241923192319221922192119201920191f191f191e191d191d191c191c191b191a191a19191919191819181917191619161915191519141913191319121912191119101910190f190f190e190e190d190c190c190b190b190a1909190919081908190719071906190519051904190419031902190219011901190018ff18ff18fe18fe18fd18fd18fc18fb18fb18fa18fa18f918f818f818f718f718f618f618f518f418f418f318f318f218f118f118f018f018ef18ef18ee18ed18ed18ec18ec18eb18ea18ea18e918e918e818e818e718e618e618e518e518e418e318e318e218e218e118e018e018df18df18de18de18dd18dc18dc18db18db18da18d918d918d818d818d718d718d618d518d518d418d418d318d218d218d118d118d018d018cf18ce18ce18cd18cd18cc18cb18cb18ca18ca18c918c918c8,
  0x19f619f519f519f419f319f319f219f219f119f019f019ef19ef19ee19ed19ed19ec19ec19eb19ea19ea19e919e919e819e719e719e619e619e519e419e419e319e319e219e119e119e019e019df19de19de19dd19dd19dc19db19db19da19da19d919d919d819d719d719d619d619d519d419d419d319d319d219d119d119d019d019cf19ce19ce19cd19cd19cc19cb19cb19ca19ca19c919c819c819c719c719c619c519c519c419c419c319c219c219c119c119c019bf19bf19be19be19bd19bc19bc19bb19bb19ba19ba19b919b819b819b719b719b619b519b519b419b419b319b219b219b119b119b019af19af19ae19ae19ad19ac19ac19ab19ab19aa19a919a919a819a819a719a619a619a519a519a419a319a319a219a219a119a119a0199f199f199e199e199d199c199c199b199b199a19991999199819981997199619961995199519941993199319921992199119901990198f198f198e198e198d198c198c198b198b198a19891989198819881987198619861985198519841983198319821982198119801980197f197f197e197e197d197c197c197b197b197a19791979197819781977197619761975197519741973197319721972197119701970196f196f196e196e196d196c196c196b196b196a19691969196819681967196619661965196519641963196319621962196119611960195f195f195e,
  0x1a901a8f1a8f1a8e1a8e1a8d1a8c1a8c1a8b1a8b1a8a1a891a891a881a881a871a861a861a851a851a841a831a831a821a821a811a801a801a7f1a7f1a7e1a7d1a7d1a7c1a7b1a7b1a7a1a7a1a791a781a781a771a771a761a751a751a741a741a731a721a721a711a711a701a6f1a6f1a6e1a6e1a6d1a6c1a6c1a6b1a6b1a6a1a691a691a681a681a671a661a661a651a641a641a631a631a621a611a611a601a601a5f1a5e1a5e1a5d1a5d1a5c1a5b1a5b1a5a1a5a1a591a581a581a571a571a561a551a551a541a541a531a521a521a511a511a501a4f1a4f1a4e1a4e1a4d1a4c1a4c1a4b1a4b1a4a1a491a491a481a481a471a461a461a451a441a441a431a431a421a411a411a401a401a3f1a3e1a3e1a3d1a3d1a3c1a3b1a3b1a3a1a3a1a391a381a381a371a371a361a351a351a341a341a331a321a321a311a311a301a2f1a2f1a2e1a2e1a2d1a2c1a2c1a2b1a2b1a2a1a291a291a281a281a271a261a261a251a251a241a231a231a221a221a211a201a201a1f1a1f1a1e1a1d1a1d1a1c1a1c1a1b1a1a1a1a1a191a191a181a171a171a161a161a151a141a141a131a131a121a111a111a101a101a0f1a0e1a0e1a0d1a0d1a0c1a0b1a0b1a0a1a0a1a091a081a081a071a071a061a051a051a041a041a031a021a021a011a011a0019ff19ff19fe19fe19fd19fc19fc19fb19fb19fa19f919f919f819f819f719f6,
  0x1b2c1b2c1b2b1b2b1b2a1b291b291b281b281b271b261b261b251b241b241b231b231b221b211b211b201b201b1f1b1e1b1e1b1d1b1c1b1c1b1b1b1b1b1a1b191b191b181b181b171b161b161b151b141b141b131b131b121b111b111b101b101b0f1b0e1b0e1b0d1b0d1b0c1b0b1b0b1b0a1b091b091b081b081b071b061b061b051b051b041b031b031b021b011b011b001b001aff1afe1afe1afd1afd1afc1afb1afb1afa1afa1af91af81af81af71af61af61af51af51af41af31af31af21af21af11af01af01aef1aef1aee1aed1aed1aec1aeb1aeb1aea1aea1ae91ae81ae81ae71ae71ae61ae51ae51ae41ae41ae31ae21ae21ae11ae01ae01adf1adf1ade1add1add1adc1adc1adb1ada1ada1ad91ad91ad81ad71ad71ad61ad51ad51ad41ad41ad31ad21ad21ad11ad11ad01acf1acf1ace1ace1acd1acc1acc1acb1aca1aca1ac91ac91ac81ac71ac71ac61ac61ac51ac41ac41ac31ac31ac21ac11ac11ac01ac01abf1abe1abe1abd1abc1abc1abb1abb1aba1ab91ab91ab81ab81ab71ab61ab61ab51ab51ab41ab31ab31ab21ab21ab11ab01ab01aaf1aae1aae1aad1aad1aac1aab1aab1aaa1aaa1aa91aa81aa81aa71aa71aa61aa51aa51aa41aa41aa31aa21aa21aa11aa01aa01a9f1a9f1a9e1a9d1a9d1a9c1a9c1a9b1a9a1a9a1a991a991a981a971a971a961a961a951a941a941a931a931a921a911a91,
  0x1bcb1bca1bca1bc91bc81bc81bc71bc71bc61bc51bc51bc41bc31bc31bc21bc21bc11bc01bc01bbf1bbe1bbe1bbd1bbd1bbc1bbb1bbb1bba1bb91bb91bb81bb81bb71bb61bb61bb51bb41bb41bb31bb31bb21bb11bb11bb01baf1baf1bae1bae1bad1bac1bac1bab1bab1baa1ba91ba91ba81ba71ba71ba61ba61ba51ba41ba41ba31ba21ba21ba11ba11ba01b9f1b9f1b9e1b9d1b9d1b9c1b9c1b9b1b9a1b9a1b991b991b981b971b971b961b951b951b941b941b931b921b921b911b901b901b8f1b8f1b8e1b8d1b8d1b8c1b8c1b8b1b8a1b8a1b891b881b881b871b871b861b851b851b841b831b831b821b821b811b801b801b7f1b7e1b7e1b7d1b7d1b7c1b7b1b7b1b7a1b7a1b791b781b781b771b761b761b751b751b741b731b731b721b721b711b701b701b6f1b6e1b6e1b6d1b6d1b6c1b6b1b6b1b6a1b691b691b681b681b671b661b661b651b651b641b631b631b621b611b611b601b601b5f1b5e1b5e1b5d1b5c1b5c1b5b1b5b1b5a1b591b591b581b581b571b561b561b551b541b541b531b531b521b511b511b501b501b4f1b4e1b4e1b4d1b4c1b4c1b4b1b4b1b4a1b491b491b481b481b471b461b461b451b441b441b431b431b421b411b411b401b401b3f1b3e1b3e1b3d1b3c1b3c1b3b1b3b1b3a1b391b391b381b381b371b361b361b351b341b341b331b331b321b311b311b301b301b2f1b2e1b2e1b2d,
  0x1c6b1c6b1c6a1c6a1c691c681c681c671c661c661c651c641c641c631c631c621c611c611c601c5f1c5f1c5e1c5e1c5d1c5c1c5c1c5b1c5a1c5a1c591c581c581c571c571c561c551c551c541c531c531c521c521c511c501c501c4f1c4e1c4e1c4d1c4d1c4c1c4b1c4b1c4a1c491c491c481c471c471c461c461c451c441c441c431c421c421c411c411c401c3f1c3f1c3e1c3d1c3d1c3c1c3c1c3b1c3a1c3a1c391c381c381c371c361c361c351c351c341c331c331c321c311c311c301c301c2f1c2e1c2e1c2d1c2c1c2c1c2b1c2b1c2a1c291c291c281c271c271c261c261c251c241c241c231c221c221c211c211c201c1f1c1f1c1e1c1d1c1d1c1c1c1c1c1b1c1a1c1a1c191c181c181c171c161c161c151c151c141c131c131c121c111c111c101c101c0f1c0e1c0e1c0d1c0c1c0c1c0b1c0b1c0a1c091c091c081c071c071c061c061c051c041c041c031c021c021c011c011c001bff1bff1bfe1bfd1bfd1bfc1bfc1bfb1bfa1bfa1bf91bf81bf81bf71bf71bf61bf51bf51bf41bf31bf31bf21bf21bf11bf01bf01bef1bee1bee1bed1bed1bec1beb1beb1bea1be91be91be81be81be71be61be61be51be41be41be31be31be21be11be11be01bdf1bdf1bde1bde1bdd1bdc1bdc1bdb1bda1bda1bd91bd91bd81bd71bd71bd61bd51bd51bd41bd41bd31bd21bd21bd11bd01bd01bcf1bcf1bce1bcd1bcd1bcc1bcc,
  0x1d0e1d0d1d0d1d0c1d0b1d0b1d0a1d0a1d091d081d081d071d061d061d051d041d041d031d031d021d011d011d001cff1cff1cfe1cfd1cfd1cfc1cfb1cfb1cfa1cfa1cf91cf81cf81cf71cf61cf61cf51cf41cf41cf31cf31cf21cf11cf11cf01cef1cef1cee1ced1ced1cec1cec1ceb1cea1cea1ce91ce81ce81ce71ce61ce61ce51ce51ce41ce31ce31ce21ce11ce11ce01cdf1cdf1cde1cde1cdd1cdc1cdc1cdb1cda1cda1cd91cd81cd81cd71cd71cd61cd51cd51cd41cd31cd31cd21cd11cd11cd01cd01ccf1cce1cce1ccd1ccc1ccc1ccb1cca1cca1cc91cc91cc81cc71cc71cc61cc51cc51cc41cc31cc31cc21cc21cc11cc01cc01cbf1cbe1cbe1cbd1cbc1cbc1cbb1cbb1cba1cb91cb91cb81cb71cb71cb61cb51cb51cb41cb41cb31cb21cb21cb11cb01cb01caf1cae1cae1cad1cad1cac1cab1cab1caa1ca91ca91ca81ca71ca71ca61ca61ca51ca41ca41ca31ca21ca21ca11ca11ca01c9f1c9f1c9e1c9d1c9d1c9c1c9b1c9b1c9a1c9a1c991c981c981c971c961c961c951c941c941c931c931c921c911c911c901c8f1c8f1c8e1c8e1c8d1c8c1c8c1c8b1c8a1c8a1c891c881c881c871c871c861c851c851c841c831c831c821c821c811c801c801c7f1c7e1c7e1c7d1c7c1c7c1c7b1c7b1c7a1c791c791c781c771c771c761c751c751c741c741c731c721c721c711c701c701c6f1c6f1c6e1c6d1c6d1c6c,
  0x1db31db21db11db11db01daf1daf1dae1dae1dad1dac1dac1dab1daa1daa1da91da81da81da71da61da61da51da41da41da31da31da21da11da11da01d9f1d9f1d9e1d9d1d9d1d9c1d9b1d9b1d9a1d991d991d981d981d971d961d961d951d941d941d931d921d921d911d901d901d8f1d8f1d8e1d8d1d8d1d8c1d8b1d8b1d8a1d891d891d881d871d871d861d851d851d841d841d831d821d821d811d801d801d7f1d7e1d7e1d7d1d7c1d7c1d7b1d7b1d7a1d791d791d781d771d771d761d751d751d741d731d731d721d711d711d701d701d6f1d6e1d6e1d6d1d6c1d6c1d6b1d6a1d6a1d691d681d681d671d671d661d651d651d641d631d631d621d611d611d601d5f1d5f1d5e1d5e1d5d1d5c1d5c1d5b1d5a1d5a1d591d581d581d571d561d561d551d551d541d531d531d521d511d511d501d4f1d4f1d4e1d4d1d4d1d4c1d4c1d4b1d4a1d4a1d491d481d481d471d461d461d451d441d441d431d431d421d411d411d401d3f1d3f1d3e1d3d1d3d1d3c1d3b1d3b1d3a1d3a1d391d381d381d371d361d361d351d341d341d331d321d321d311d311d301d2f1d2f1d2e1d2d1d2d1d2c1d2b1d2b1d2a1d2a1d291d281d281d271d261d261d251d241d241d231d221d221d211d211d201d1f1d1f1d1e1d1d1d1d1d1c1d1b1d1b1d1a1d1a1d191d181d181d171d161d161d151d141d141d131d121d121d111d111d101d0f1d0f,
  0x1e5a1e591e581e581e571e561e561e551e541e541e531e521e521e511e501e501e4f1e4e1e4e1e4d1e4c1e4c1e4b1e4a1e4a1e491e481e481e471e471e461e451e451e441e431e431e421e411e411e401e3f1e3f1e3e1e3d1e3d1e3c1e3b1e3b1e3a1e391e391e381e371e371e361e361e351e341e341e331e321e321e311e301e301e2f1e2e1e2e1e2d1e2c1e2c1e2b1e2a1e2a1e291e281e281e271e261e261e251e251e241e231e231e221e211e211e201e1f1e1f1e1e1e1d1e1d1e1c1e1b1e1b1e1a1e191e191e181e171e171e161e161e151e141e141e131e121e121e111e101e101e0f1e0e1e0e1e0d1e0c1e0c1e0b1e0a1e0a1e091e081e081e071e071e061e051e051e041e031e031e021e011e011e001dff1dff1dfe1dfd1dfd1dfc1dfb1dfb1dfa1df91df91df81df81df71df61df61df51df41df41df31df21df21df11df01df01def1dee1dee1ded1dec1dec1deb1deb1dea1de91de91de81de71de71de61de51de51de41de31de31de21de11de11de01ddf1ddf1dde1dde1ddd1ddc1ddc1ddb1dda1dda1dd91dd81dd81dd71dd61dd61dd51dd41dd41dd31dd21dd21dd11dd11dd01dcf1dcf1dce1dcd1dcd1dcc1dcb1dcb1dca1dc91dc91dc81dc71dc71dc61dc61dc51dc41dc41dc31dc21dc21dc11dc01dc01dbf1dbe1dbe1dbd1dbc1dbc1dbb1dba1dba1db91db91db81db71db71db61db51db51db41db3,
  0x1f021f021f011f001f001eff1efe1efe1efd1efc1efc1efb1efa1efa1ef91ef91ef81ef71ef71ef61ef51ef51ef41ef31ef31ef21ef11ef11ef01eef1eef1eee1eed1eed1eec1eeb1eeb1eea1ee91ee91ee81ee71ee71ee61ee51ee51ee41ee31ee31ee21ee11ee11ee01edf1edf1ede1edd1edd1edc1edb1edb1eda1ed91ed91ed81ed71ed71ed61ed51ed51ed41ed31ed31ed21ed11ed11ed01ecf1ecf1ece1ecd1ecd1ecc1ecb1ecb1eca1ec91ec91ec81ec71ec71ec61ec61ec51ec41ec41ec31ec21ec21ec11ec01ec01ebf1ebe1ebe1ebd1ebc1ebc1ebb1eba1eba1eb91eb81eb81eb71eb61eb61eb51eb41eb41eb31eb21eb21eb11eb01eb01eaf1eae1eae1ead1eac1eac1eab1eaa1eaa1ea91ea81ea81ea71ea61ea61ea51ea41ea41ea31ea31ea21ea11ea11ea01e9f1e9f1e9e1e9d1e9d1e9c1e9b1e9b1e9a1e991e991e981e971e971e961e951e951e941e931e931e921e911e911e901e8f1e8f1e8e1e8d1e8d1e8c1e8b1e8b1e8a1e891e891e881e881e871e861e861e851e841e841e831e821e821e811e801e801e7f1e7e1e7e1e7d1e7c1e7c1e7b1e7a1e7a1e791e781e781e771e761e761e751e741e741e731e721e721e711e711e701e6f1e6f1e6e1e6d1e6d1e6c1e6b1e6b1e6a1e691e691e681e671e671e661e651e651e641e631e631e621e611e611e601e5f1e5f1e5e1e5d1e5d1e5c1e5b1e5b1e5a,
  0x1fae1fad1fac1fac1fab1faa1fa91fa91fa81fa71fa71fa61fa51fa51fa41fa31fa31fa21fa11fa11fa01f9f1f9f1f9e1f9d1f9d1f9c1f9b1f9b1f9a1f991f991f981f971f971f961f951f951f941f931f931f921f911f911f901f8f1f8f1f8e1f8d1f8d1f8c1f8b1f8b1f8a1f891f891f881f871f871f861f851f851f841f831f831f821f811f811f801f7f1f7f1f7e1f7d1f7d1f7c1f7b1f7b1f7a1f791f791f781f771f771f761f751f741f741f731f721f721f711f701f701f6f1f6e1f6e1f6d1f6c1f6c1f6b1f6a1f6a1f691f681f681f671f661f661f651f641f641f631f621f621f611f601f601f5f1f5e1f5e1f5d1f5c1f5c1f5b1f5a1f5a1f591f581f581f571f561f561f551f541f541f531f521f521f511f501f501f4f1f4e1f4e1f4d1f4c1f4c1f4b1f4a1f4a1f491f481f481f471f461f461f451f441f441f431f421f421f411f401f401f3f1f3e1f3e1f3d1f3c1f3c1f3b1f3a1f3a1f391f381f381f371f361f361f351f341f341f331f321f321f311f301f301f2f1f2e1f2e1f2d1f2c1f2c1f2b1f2a1f2a1f291f281f281f271f261f261f251f241f241f231f221f221f211f201f201f1f1f1e1f1e1f1d1f1c1f1c1f1b1f1a1f1a1f191f181f181f171f161f161f151f141f141f131f121f121f111f101f101f0f1f0e1f0e1f0d1f0c1f0c1f0b1f0a1f0a1f091f081f081f071f061f061f051f041f041f03,
  0x205b205a205920592058205720572056205520552054205320532052205120512050204f204e204e204d204c204c204b204a204a204920482048204720462046204520442044204320422042204120402040203f203e203d203d203c203b203b203a203920392038203720372036203520352034203320332032203120312030202f202f202e202d202d202c202b202a202a202920282028202720262026202520242024202320222022202120202020201f201e201e201d201c201c201b201a201a20192018201720172016201520152014201320132012201120112010200f200f200e200d200d200c200b200b200a2009200920082007200720062005200520042003200220022001200020001fff1ffe1ffe1ffd1ffc1ffc1ffb1ffa1ffa1ff91ff81ff81ff71ff61ff61ff51ff41ff41ff31ff21ff21ff11ff01ff01fef1fee1fee1fed1fec1fec1feb1fea1fe91fe91fe81fe71fe71fe61fe51fe51fe41fe31fe31fe21fe11fe11fe01fdf1fdf1fde1fdd1fdd1fdc1fdb1fdb1fda1fd91fd91fd81fd71fd71fd61fd51fd51fd41fd31fd31fd21fd11fd11fd01fcf1fcf1fce1fcd1fcc1fcc1fcb1fca1fca1fc91fc81fc81fc71fc61fc61fc51fc41fc41fc31fc21fc21fc11fc01fc01fbf1fbe1fbe1fbd1fbc1fbc1fbb1fba1fba1fb91fb81fb81fb71fb61fb61fb51fb41fb41fb31fb21fb21fb11fb01fb01faf1fae,
  0x210a21092109210821072107210621052105210421032102210221012100210020ff20fe20fe20fd20fc20fc20fb20fa20fa20f920f820f720f720f620f520f520f420f320f320f220f120f120f020ef20ef20ee20ed20ec20ec20eb20ea20ea20e920e820e820e720e620e620e520e420e420e320e220e120e120e020df20df20de20dd20dd20dc20db20db20da20d920d920d820d720d620d620d520d420d420d320d220d220d120d020d020cf20ce20ce20cd20cc20cb20cb20ca20c920c920c820c720c720c620c520c520c420c320c320c220c120c020c020bf20be20be20bd20bc20bc20bb20ba20ba20b920b820b820b720b620b620b520b420b320b320b220b120b120b020af20af20ae20ad20ad20ac20ab20ab20aa20a920a920a820a720a620a620a520a420a420a320a220a220a120a020a0209f209e209e209d209c209c209b209a209920992098209720972096209520952094209320932092209120912090208f208f208e208d208c208c208b208a208a208920882088208720862086208520842084208320822082208120802080207f207e207d207d207c207b207b207a207920792078207720772076207520752074207320732072207120712070206f206e206e206d206c206c206b206a206a20692068206820672066206620652064206420632062206220612060205f205f205e205d205d205c205b,
  0x21bc21bb21ba21b921b921b821b721b721b621b521b521b421b321b221b221b121b021b021af21ae21ae21ad21ac21ab21ab21aa21a921a921a821a721a721a621a521a521a421a321a221a221a121a021a0219f219e219e219d219c219b219b219a219921992198219721972196219521952194219321922192219121902190218f218e218e218d218c218b218b218a218921892188218721872186218521852184218321822182218121802180217f217e217e217d217c217b217b217a217921792178217721772176217521752174217321722172217121702170216f216e216e216d216c216c216b216a216921692168216721672166216521652164216321632162216121602160215f215e215e215d215c215c215b215a215921592158215721572156215521552154215321532152215121502150214f214e214e214d214c214c214b214a214a21492148214721472146214521452144214321432142214121412140213f213f213e213d213c213c213b213a213a21392138213821372136213621352134213321332132213121312130212f212f212e212d212d212c212b212a212a21292128212821272126212621252124212421232122212121212120211f211f211e211d211d211c211b211b211a211921192118211721162116211521142114211321122112211121102110210f210e210d210d210c210b210b,
  0x226f226e226e226d226c226c226b226a226922692268226722672266226522652264226322622262226122602260225f225e225e225d225c225b225b225a22592259225822572256225622552254225422532252225222512250224f224f224e224d224d224c224b224a224a22492248224822472246224622452244224322432242224122412240223f223f223e223d223c223c223b223a223a22392238223722372236223522352234223322332232223122302230222f222e222e222d222c222c222b222a222922292228222722272226222522252224222322222222222122202220221f221e221d221d221c221b221b221a22192219221822172216221622152214221422132212221222112210220f220f220e220d220d220c220b220b220a2209220822082207220622062205220422042203220222012201220021ff21ff21fe21fd21fd21fc21fb21fa21fa21f921f821f821f721f621f621f521f421f321f321f221f121f121f021ef21ef21ee21ed21ec21ec21eb21ea21ea21e921e821e821e721e621e521e521e421e321e321e221e121e121e021df21de21de21dd21dc21dc21db21da21da21d921d821d721d721d621d521d521d421d321d321d221d121d021d021cf21ce21ce21cd21cc21cc21cb21ca21c921c921c821c721c721c621c521c521c421c321c221c221c121c021c021bf21be21be21bd21bc,
  0x23252324232323232322232123212320231f231f231e231d231c231c231b231a231a23192318231723172316231523152314231323122312231123102310230f230e230d230d230c230b230b230a2309230823082307230623062305230423032303230223012301230022ff22fe22fe22fd22fc22fc22fb22fa22f922f922f822f722f722f622f522f422f422f322f222f222f122f022ef22ef22ee22ed22ed22ec22eb22ea22ea22e922e822e822e722e622e522e522e422e322e322e222e122e122e022df22de22de22dd22dc22dc22db22da22d922d922d822d722d722d622d522d422d422d322d222d222d122d022cf22cf22ce22cd22cd22cc22cb22ca22ca22c922c822c822c722c622c622c522c422c322c322c222c122c122c022bf22be22be22bd22bc22bc22bb22ba22b922b922b822b722b722b622b522b422b422b322b222b222b122b022b022af22ae22ad22ad22ac22ab22ab22aa22a922a822a822a722a622a622a522a422a322a322a222a122a122a0229f229f229e229d229c229c229b229a229a22992298229722972296229522952294229322922292229122902290228f228e228e228d228c228b228b228a22892289228822872286228622852284228422832282228222812280227f227f227e227d227d227c227b227a227a22792278227822772276227522752274227322732272227122712270,
  0x23dd23dc23db23db23da23d923d923d823d723d623d623d523d423d323d323d223d123d123d023cf23ce23ce23cd23cc23cc23cb23ca23c923c923c823c723c623c623c523c423c423c323c223c123c123c023bf23bf23be23bd23bc23bc23bb23ba23ba23b923b823b723b723b623b523b423b423b323b223b223b123b023af23af23ae23ad23ad23ac23ab23aa23aa23a923a823a723a723a623a523a523a423a323a223a223a123a023a0239f239e239d239d239c239b239b239a23992398239823972396239523952394239323932392239123902390238f238e238e238d238c238b238b238a23892389238823872386238623852384238423832382238123812380237f237e237e237d237c237c237b237a23792379237823772377237623752374237423732372237223712370236f236f236e236d236d236c236b236a236a23692368236823672366236523652364236323622362236123602360235f235e235d235d235c235b235b235a23592358235823572356235623552354235323532352235123512350234f234e234e234d234c234c234b234a23492349234823472347234623452344234423432342234223412340233f233f233e233d233d233c233b233a233a23392338233823372336233523352334233323332332233123302330232f232e232e232d232c232b232b232a232923292328232723262326,
  0x24972496249624952494249324932492249124902490248f248e248e248d248c248b248b248a24892488248824872486248524852484248324832482248124802480247f247e247d247d247c247b247b247a24792478247824772476247524752474247324722472247124702470246f246e246d246d246c246b246a246a24692468246824672466246524652464246324622462246124602460245f245e245d245d245c245b245a245a24592458245824572456245524552454245324522452245124502450244f244e244d244d244c244b244a244a2449244824472447244624452445244424432442244224412440243f243f243e243d243d243c243b243a243a24392438243724372436243524352434243324322432243124302430242f242e242d242d242c242b242a242a24292428242824272426242524252424242324222422242124202420241f241e241d241d241c241b241a241a24192418241824172416241524152414241324122412241124102410240f240e240d240d240c240b240a240a2409240824082407240624052405240424032403240224012400240023ff23fe23fd23fd23fc23fb23fb23fa23f923f823f823f723f623f523f523f423f323f323f223f123f023f023ef23ee23ee23ed23ec23eb23eb23ea23e923e823e823e723e623e623e523e423e323e323e223e123e023e023df23de23de,
  0x255325532552255125502550254f254e254d254d254c254b254a254a2549254825472547254625452545254425432542254225412540253f253f253e253d253c253c253b253a25392539253825372537253625352534253425332532253125312530252f252e252e252d252c252b252b252a25292528252825272526252625252524252325232522252125202520251f251e251d251d251c251b251a251a2519251825182517251625152515251425132512251225112510250f250f250e250d250c250c250b250a250a250925082507250725062505250425042503250225012501250024ff24fe24fe24fd24fc24fc24fb24fa24f924f924f824f724f624f624f524f424f324f324f224f124f024f024ef24ee24ee24ed24ec24eb24eb24ea24e924e824e824e724e624e524e524e424e324e324e224e124e024e024df24de24dd24dd24dc24db24da24da24d924d824d824d724d624d524d524d424d324d224d224d124d024cf24cf24ce24cd24cc24cc24cb24ca24ca24c924c824c724c724c624c524c424c424c324c224c124c124c024bf24bf24be24bd24bc24bc24bb24ba24b924b924b824b724b624b624b524b424b424b324b224b124b124b024af24ae24ae24ad24ac24ac24ab24aa24a924a924a824a724a624a624a524a424a324a324a224a124a124a0249f249e249e249d249c249b249b249a249924982498,
  0x2612261126102610260f260e260d260d260c260b260a260a260926082607260726062605260426042603260226012601260025ff25fe25fe25fd25fc25fb25fb25fa25f925f825f825f725f625f525f525f425f325f225f225f125f025ef25ef25ee25ed25ec25ec25eb25ea25e925e925e825e725e625e625e525e425e325e325e225e125e125e025df25de25de25dd25dc25db25db25da25d925d825d825d725d625d525d525d425d325d225d225d125d025cf25cf25ce25cd25cc25cc25cb25ca25c925c925c825c725c625c625c525c425c325c325c225c125c025c025bf25be25bd25bd25bc25bb25ba25ba25b925b825b825b725b625b525b525b425b325b225b225b125b025af25af25ae25ad25ac25ac25ab25aa25a925a925a825a725a625a625a525a425a325a325a225a125a025a0259f259e259d259d259c259b259b259a2599259825982597259625952595259425932592259225912590258f258f258e258d258c258c258b258a25892589258825872586258625852584258325832582258125812580257f257e257e257d257c257b257b257a2579257825782577257625752575257425732572257225712570256f256f256e256d256d256c256b256a256a2569256825672567256625652564256425632562256125612560255f255e255e255d255c255b255b255a25592559255825572556255625552554,
  0x26d326d226d126d026d026cf26ce26cd26cc26cc26cb26ca26c926c926c826c726c626c626c526c426c326c326c226c126c026c026bf26be26bd26bd26bc26bb26ba26ba26b926b826b726b726b626b526b426b426b326b226b126b126b026af26ae26ad26ad26ac26ab26aa26aa26a926a826a726a726a626a526a426a426a326a226a126a126a0269f269e269e269d269c269b269b269a2699269826982697269626952695269426932692269226912690268f268f268e268d268c268c268b268a2689268926882687268626852685268426832682268226812680267f267f267e267d267c267c267b267a26792679267826772676267626752674267326732672267126702670266f266e266d266d266c266b266a266a2669266826672667266626652664266426632662266126612660265f265e265e265d265c265b265b265a2659265826582657265626552655265426532652265226512650264f264f264e264d264c264c264b264a26492649264826472646264626452644264326432642264126402640263f263e263d263d263c263b263a263a2639263826372637263626352634263426332632263126312630262f262e262e262d262c262b262b262a2629262826282627262626252625262426232622262226212620261f261f261e261d261c261c261b261a2619261926182617261626162615261426132613,
  0x27952795279427932792279227912790278f278f278e278d278c278b278b278a2789278827882787278627852785278427832782278227812780277f277e277e277d277c277b277b277a2779277827782777277627752775277427732772277127712770276f276e276e276d276c276b276b276a2769276827682767276627652765276427632762276127612760275f275e275e275d275c275b275b275a2759275827582757275627552754275427532752275127512750274f274e274e274d274c274b274b274a2749274827482747274627452744274427432742274127412740273f273e273e273d273c273b273b273a2739273827382737273627352734273427332732273127312730272f272e272e272d272c272b272b272a2729272827282727272627252724272427232722272127212720271f271e271e271d271c271b271b271a2719271827182717271627152715271427132712271127112710270f270e270e270d270c270b270b270a270927082708270727062705270527042703270227022701270026ff26ff26fe26fd26fc26fb26fb26fa26f926f826f826f726f626f526f526f426f326f226f226f126f026ef26ef26ee26ed26ec26ec26eb26ea26e926e926e826e726e626e526e526e426e326e226e226e126e026df26df26de26dd26dc26dc26db26da26d926d926d826d726d626d626d526d426d3,
  0x285b285a2859285828572857285628552854285428532852285128512850284f284e284d284d284c284b284a284a284928482847284628462845284428432843284228412840283f283f283e283d283c283c283b283a2839283928382837283628352835283428332832283228312830282f282e282e282d282c282b282b282a2829282828282827282628252824282428232822282128212820281f281e281d281d281c281b281a281a2819281828172817281628152814281328132812281128102810280f280e280d280d280c280b280a280928092808280728062806280528042803280328022801280027ff27ff27fe27fd27fc27fc27fb27fa27f927f827f827f727f627f527f527f427f327f227f227f127f027ef27ee27ee27ed27ec27eb27eb27ea27e927e827e827e727e627e527e427e427e327e227e127e127e027df27de27de27dd27dc27db27da27da27d927d827d727d727d627d527d427d427d327d227d127d127d027cf27ce27cd27cd27cc27cb27ca27ca27c927c827c727c727c627c527c427c327c327c227c127c027c027bf27be27bd27bd27bc27bb27ba27b927b927b827b727b627b627b527b427b327b327b227b127b027af27af27ae27ad27ac27ac27ab27aa27a927a927a827a727a627a627a527a427a327a227a227a127a0279f279f279e279d279c279c279b279a27992799279827972796,
  0x2922292129202920291f291e291d291c291c291b291a2919291929182917291629152915291429132912291129112910290f290e290e290d290c290b290a290a29092908290729072906290529042903290329022901290028ff28ff28fe28fd28fc28fc28fb28fa28f928f828f828f728f628f528f528f428f328f228f128f128f028ef28ee28ee28ed28ec28eb28ea28ea28e928e828e728e628e628e528e428e328e328e228e128e028df28df28de28dd28dc28dc28db28da28d928d828d828d728d628d528d528d428d328d228d128d128d028cf28ce28ce28cd28cc28cb28ca28ca28c928c828c728c728c628c528c428c328c328c228c128c028c028bf28be28bd28bc28bc28bb28ba28b928b928b828b728b628b528b528b428b328b228b228b128b028af28ae28ae28ad28ac28ab28aa28aa28a928a828a728a728a628a528a428a328a328a228a128a028a0289f289e289d289d289c289b289a2899289928982897289628962895289428932892289228912890288f288f288e288d288c288b288b288a2889288828882887288628852884288428832882288128812880287f287e287d287d287c287b287a287a287928782877287628762875287428732873287228712870286f286f286e286d286c286c286b286a2869286928682867286628652865286428632862286228612860285f285e285e285d285c285b,
  0x29eb29eb29ea29e929e829e829e729e629e529e429e429e329e229e129e029e029df29de29dd29dc29dc29db29da29d929d829d829d729d629d529d529d429d329d229d129d129d029cf29ce29cd29cd29cc29cb29ca29c929c929c829c729c629c629c529c429c329c229c229c129c029bf29be29be29bd29bc29bb29ba29ba29b929b829b729b629b629b529b429b329b329b229b129b029af29af29ae29ad29ac29ab29ab29aa29a929a829a829a729a629a529a429a429a329a229a129a029a0299f299e299d299c299c299b299a2999299929982997299629952995299429932992299129912990298f298e298d298d298c298b298a298a298929882987298629862985298429832982298229812980297f297f297e297d297c297b297b297a2979297829772977297629752974297429732972297129702970296f296e296d296c296c296b296a2969296929682967296629652965296429632962296129612960295f295e295e295d295c295b295a295a295929582957295629562955295429532953295229512950294f294f294e294d294c294b294b294a2949294829482947294629452944294429432942294129402940293f293e293d293d293c293b293a2939293929382937293629352935293429332932293229312930292f292e292e292d292c292b292b292a292929282927292729262925292429232923,
  0x2ab72ab62ab62ab52ab42ab32ab22ab22ab12ab02aaf2aae2aae2aad2aac2aab2aaa2aaa2aa92aa82aa72aa62aa62aa52aa42aa32aa22aa22aa12aa02a9f2a9e2a9e2a9d2a9c2a9b2a9a2a9a2a992a982a972a962a962a952a942a932a922a922a912a902a8f2a8e2a8e2a8d2a8c2a8b2a8a2a8a2a892a882a872a862a862a852a842a832a832a822a812a802a7f2a7f2a7e2a7d2a7c2a7b2a7b2a7a2a792a782a772a772a762a752a742a732a732a722a712a702a6f2a6f2a6e2a6d2a6c2a6b2a6b2a6a2a692a682a672a672a662a652a642a632a632a622a612a602a5f2a5f2a5e2a5d2a5c2a5b2a5b2a5a2a592a582a572a572a562a552a542a532a532a522a512a502a4f2a4f2a4e2a4d2a4c2a4c2a4b2a4a2a492a482a482a472a462a452a442a442a432a422a412a402a402a3f2a3e2a3d2a3c2a3c2a3b2a3a2a392a382a382a372a362a352a342a342a332a322a312a302a302a2f2a2e2a2d2a2c2a2c2a2b2a2a2a292a292a282a272a262a252a252a242a232a222a212a212a202a1f2a1e2a1d2a1d2a1c2a1b2a1a2a192a192a182a172a162a152a152a142a132a122a122a112a102a0f2a0e2a0e2a0d2a0c2a0b2a0a2a0a2a092a082a072a062a062a052a042a032a022a022a012a0029ff29fe29fe29fd29fc29fb29fb29fa29f929f829f729f729f629f529f429f329f329f229f129f029ef29ef29ee29ed29ec,
  0x2b852b842b842b832b822b812b802b802b7f2b7e2b7d2b7c2b7c2b7b2b7a2b792b782b782b772b762b752b742b732b732b722b712b702b6f2b6f2b6e2b6d2b6c2b6b2b6b2b6a2b692b682b672b672b662b652b642b632b632b622b612b602b5f2b5e2b5e2b5d2b5c2b5b2b5a2b5a2b592b582b572b562b562b552b542b532b522b522b512b502b4f2b4e2b4e2b4d2b4c2b4b2b4a2b4a2b492b482b472b462b452b452b442b432b422b412b412b402b3f2b3e2b3d2b3d2b3c2b3b2b3a2b392b392b382b372b362b352b352b342b332b322b312b312b302b2f2b2e2b2d2b2c2b2c2b2b2b2a2b292b282b282b272b262b252b242b242b232b222b212b202b202b1f2b1e2b1d2b1c2b1c2b1b2b1a2b192b182b182b172b162b152b142b142b132b122b112b102b102b0f2b0e2b0d2b0c2b0b2b0b2b0a2b092b082b072b072b062b052b042b032b032b022b012b002aff2aff2afe2afd2afc2afb2afb2afa2af92af82af72af72af62af52af42af32af32af22af12af02aef2aef2aee2aed2aec2aeb2aeb2aea2ae92ae82ae72ae72ae62ae52ae42ae32ae32ae22ae12ae02adf2adf2ade2add2adc2adb2adb2ada2ad92ad82ad72ad72ad62ad52ad42ad32ad22ad22ad12ad02acf2ace2ace2acd2acc2acb2aca2aca2ac92ac82ac72ac62ac62ac52ac42ac32ac22ac22ac12ac02abf2abe2abe2abd2abc2abb2aba2aba2ab92ab8,
  0x2c562c552c542c532c522c512c512c502c4f2c4e2c4d2c4d2c4c2c4b2c4a2c492c482c482c472c462c452c442c442c432c422c412c402c402c3f2c3e2c3d2c3c2c3b2c3b2c3a2c392c382c372c372c362c352c342c332c322c322c312c302c2f2c2e2c2e2c2d2c2c2c2b2c2a2c292c292c282c272c262c252c252c242c232c222c212c202c202c1f2c1e2c1d2c1c2c1c2c1b2c1a2c192c182c182c172c162c152c142c132c132c122c112c102c0f2c0f2c0e2c0d2c0c2c0b2c0a2c0a2c092c082c072c062c062c052c042c032c022c022c012c002bff2bfe2bfd2bfd2bfc2bfb2bfa2bf92bf92bf82bf72bf62bf52bf42bf42bf32bf22bf12bf02bf02bef2bee2bed2bec2bec2beb2bea2be92be82be72be72be62be52be42be32be32be22be12be02bdf2bdf2bde2bdd2bdc2bdb2bda2bda2bd92bd82bd72bd62bd62bd52bd42bd32bd22bd22bd12bd02bcf2bce2bcd2bcd2bcc2bcb2bca2bc92bc92bc82bc72bc62bc52bc52bc42bc32bc22bc12bc02bc02bbf2bbe2bbd2bbc2bbc2bbb2bba2bb92bb82bb82bb72bb62bb52bb42bb32bb32bb22bb12bb02baf2baf2bae2bad2bac2bab2bab2baa2ba92ba82ba72ba72ba62ba52ba42ba32ba22ba22ba12ba02b9f2b9e2b9e2b9d2b9c2b9b2b9a2b9a2b992b982b972b962b952b952b942b932b922b912b912b902b8f2b8e2b8d2b8d2b8c2b8b2b8a2b892b892b882b872b86,
  0x2d282d272d262d262d252d242d232d222d212d212d202d1f2d1e2d1d2d1d2d1c2d1b2d1a2d192d182d182d172d162d152d142d132d132d122d112d102d0f2d0e2d0e2d0d2d0c2d0b2d0a2d0a2d092d082d072d062d052d052d042d032d022d012d002d002cff2cfe2cfd2cfc2cfc2cfb2cfa2cf92cf82cf72cf72cf62cf52cf42cf32cf22cf22cf12cf02cef2cee2ced2ced2cec2ceb2cea2ce92ce92ce82ce72ce62ce52ce42ce42ce32ce22ce12ce02cdf2cdf2cde2cdd2cdc2cdb2cdb2cda2cd92cd82cd72cd62cd62cd52cd42cd32cd22cd12cd12cd02ccf2cce2ccd2ccd2ccc2ccb2cca2cc92cc82cc82cc72cc62cc52cc42cc32cc32cc22cc12cc02cbf2cbf2cbe2cbd2cbc2cbb2cba2cba2cb92cb82cb72cb62cb62cb52cb42cb32cb22cb12cb12cb02caf2cae2cad2cac2cac2cab2caa2ca92ca82ca82ca72ca62ca52ca42ca32ca32ca22ca12ca02c9f2c9f2c9e2c9d2c9c2c9b2c9a2c9a2c992c982c972c962c952c952c942c932c922c912c912c902c8f2c8e2c8d2c8c2c8c2c8b2c8a2c892c882c882c872c862c852c842c832c832c822c812c802c7f2c7f2c7e2c7d2c7c2c7b2c7a2c7a2c792c782c772c762c762c752c742c732c722c712c712c702c6f2c6e2c6d2c6c2c6c2c6b2c6a2c692c682c682c672c662c652c642c632c632c622c612c602c5f2c5f2c5e2c5d2c5c2c5b2c5a2c5a2c592c582c572c56,
  0x2dfd2dfc2dfb2dfa2dfa2df92df82df72df62df52df52df42df32df22df12df02df02def2dee2ded2dec2deb2deb2dea2de92de82de72de62de62de52de42de32de22de12de12de02ddf2dde2ddd2ddc2ddc2ddb2dda2dd92dd82dd72dd72dd62dd52dd42dd32dd22dd22dd12dd02dcf2dce2dcd2dcd2dcc2dcb2dca2dc92dc82dc72dc72dc62dc52dc42dc32dc22dc22dc12dc02dbf2dbe2dbd2dbd2dbc2dbb2dba2db92db92db82db72db62db52db42db42db32db22db12db02daf2daf2dae2dad2dac2dab2daa2daa2da92da82da72da62da52da52da42da32da22da12da02da02d9f2d9e2d9d2d9c2d9b2d9b2d9a2d992d982d972d962d962d952d942d932d922d912d912d902d8f2d8e2d8d2d8c2d8c2d8b2d8a2d892d882d872d872d862d852d842d832d822d822d812d802d7f2d7e2d7d2d7d2d7c2d7b2d7a2d792d782d782d772d762d752d742d732d732d722d712d702d6f2d6f2d6e2d6d2d6c2d6b2d6a2d6a2d692d682d672d662d652d652d642d632d622d612d602d602d5f2d5e2d5d2d5c2d5b2d5b2d5a2d592d582d572d562d562d552d542d532d522d512d512d502d4f2d4e2d4d2d4d2d4c2d4b2d4a2d492d482d482d472d462d452d442d432d432d422d412d402d3f2d3e2d3e2d3d2d3c2d3b2d3a2d392d392d382d372d362d352d352d342d332d322d312d302d302d2f2d2e2d2d2d2c2d2b2d2b2d2a2d29,
  0x2ed42ed32ed22ed12ed12ed02ecf2ece2ecd2ecc2ecc2ecb2eca2ec92ec82ec72ec62ec62ec52ec42ec32ec22ec12ec12ec02ebf2ebe2ebd2ebc2ebb2ebb2eba2eb92eb82eb72eb62eb62eb52eb42eb32eb22eb12eb12eb02eaf2eae2ead2eac2eab2eab2eaa2ea92ea82ea72ea62ea62ea52ea42ea32ea22ea12ea12ea02e9f2e9e2e9d2e9c2e9b2e9b2e9a2e992e982e972e962e962e952e942e932e922e912e912e902e8f2e8e2e8d2e8c2e8b2e8b2e8a2e892e882e872e862e862e852e842e832e822e812e812e802e7f2e7e2e7d2e7c2e7b2e7b2e7a2e792e782e772e762e762e752e742e732e722e712e712e702e6f2e6e2e6d2e6c2e6c2e6b2e6a2e692e682e672e662e662e652e642e632e622e612e612e602e5f2e5e2e5d2e5c2e5c2e5b2e5a2e592e582e572e572e562e552e542e532e522e512e512e502e4f2e4e2e4d2e4c2e4c2e4b2e4a2e492e482e472e472e462e452e442e432e422e422e412e402e3f2e3e2e3d2e3d2e3c2e3b2e3a2e392e382e372e372e362e352e342e332e322e322e312e302e2f2e2e2e2d2e2d2e2c2e2b2e2a2e292e282e282e272e262e252e242e232e232e222e212e202e1f2e1e2e1e2e1d2e1c2e1b2e1a2e192e192e182e172e162e152e142e132e132e122e112e102e0f2e0e2e0e2e0d2e0c2e0b2e0a2e092e092e082e072e062e052e042e042e032e022e012e002dff2dff2dfe,
  0x2fad2fac2fac2fab2faa2fa92fa82fa72fa62fa62fa52fa42fa32fa22fa12fa12fa02f9f2f9e2f9d2f9c2f9b2f9b2f9a2f992f982f972f962f952f952f942f932f922f912f902f8f2f8f2f8e2f8d2f8c2f8b2f8a2f8a2f892f882f872f862f852f842f842f832f822f812f802f7f2f7e2f7e2f7d2f7c2f7b2f7a2f792f782f782f772f762f752f742f732f732f722f712f702f6f2f6e2f6d2f6d2f6c2f6b2f6a2f692f682f672f672f662f652f642f632f622f612f612f602f5f2f5e2f5d2f5c2f5c2f5b2f5a2f592f582f572f562f562f552f542f532f522f512f502f502f4f2f4e2f4d2f4c2f4b2f4b2f4a2f492f482f472f462f452f452f442f432f422f412f402f402f3f2f3e2f3d2f3c2f3b2f3a2f3a2f392f382f372f362f352f342f342f332f322f312f302f2f2f2f2f2e2f2d2f2c2f2b2f2a2f292f292f282f272f262f252f242f242f232f222f212f202f1f2f1e2f1e2f1d2f1c2f1b2f1a2f192f182f182f172f162f152f142f132f132f122f112f102f0f2f0e2f0d2f0d2f0c2f0b2f0a2f092f082f082f072f062f052f042f032f022f022f012f002eff2efe2efd2efd2efc2efb2efa2ef92ef82ef72ef72ef62ef52ef42ef32ef22ef22ef12ef02eef2eee2eed2eec2eec2eeb2eea2ee92ee82ee72ee72ee62ee52ee42ee32ee22ee12ee12ee02edf2ede2edd2edc2edc2edb2eda2ed92ed82ed72ed72ed62ed5,
  0x30893088308730863085308530843083308230813080307f307f307e307d307c307b307a307930793078307730763075307430733073307230713070306f306e306d306c306c306b306a306930683067306630663065306430633062306130603060305f305e305d305c305b305a305a30593058305730563055305430543053305230513050304f304e304e304d304c304b304a304930483047304730463045304430433042304130413040303f303e303d303c303b303b303a30393038303730363035303530343033303230313030302f302f302e302d302c302b302a302930293028302730263025302430233023302230213020301f301e301d301d301c301b301a301930183017301730163015301430133012301130113010300f300e300d300c300b300b300a300930083007300630053005300430033002300130002fff2fff2ffe2ffd2ffc2ffb2ffa2ff92ff92ff82ff72ff62ff52ff42ff32ff32ff22ff12ff02fef2fee2fed2fed2fec2feb2fea2fe92fe82fe72fe72fe62fe52fe42fe32fe22fe12fe12fe02fdf2fde2fdd2fdc2fdb2fdb2fda2fd92fd82fd72fd62fd52fd52fd42fd32fd22fd12fd02fcf2fcf2fce2fcd2fcc2fcb2fca2fc92fc92fc82fc72fc62fc52fc42fc42fc32fc22fc12fc02fbf2fbe2fbe2fbd2fbc2fbb2fba2fb92fb82fb82fb72fb62fb52fb42fb32fb22fb22fb12fb02faf2fae,
  0x316731663165316431633162316231613160315f315e315d315c315c315b315a31593158315731563155315531543153315231513150314f314e314e314d314c314b314a314931483148314731463145314431433142314131413140313f313e313d313c313b313a313a31393138313731363135313431333133313231313130312f312e312d312d312c312b312a312931283127312631263125312431233122312131203120311f311e311d311c311b311a311931193118311731163115311431133112311231113110310f310e310d310c310c310b310a3109310831073106310531053104310331023101310030ff30ff30fe30fd30fc30fb30fa30f930f830f830f730f630f530f430f330f230f230f130f030ef30ee30ed30ec30eb30eb30ea30e930e830e730e630e530e530e430e330e230e130e030df30de30de30dd30dc30db30da30d930d830d830d730d630d530d430d330d230d130d130d030cf30ce30cd30cc30cb30cb30ca30c930c830c730c630c530c530c430c330c230c130c030bf30be30be30bd30bc30bb30ba30b930b830b830b730b630b530b430b330b230b230b130b030af30ae30ad30ac30ab30ab30aa30a930a830a730a630a530a530a430a330a230a130a0309f309f309e309d309c309b309a309930983098309730963095309430933092309230913090308f308e308d308c308c308b308a,
  0x324732463245324432443243324232413240323f323e323d323c323c323b323a32393238323732363235323532343233323232313230322f322e322e322d322c322b322a32293228322732273226322532243223322232213220321f321f321e321d321c321b321a321932183218321732163215321432133212321132113210320f320e320d320c320b320a320a3209320832073206320532043203320232023201320031ff31fe31fd31fc31fb31fb31fa31f931f831f731f631f531f431f431f331f231f131f031ef31ee31ed31ed31ec31eb31ea31e931e831e731e631e631e531e431e331e231e131e031df31df31de31dd31dc31db31da31d931d831d831d731d631d531d431d331d231d131d131d031cf31ce31cd31cc31cb31ca31ca31c931c831c731c631c531c431c331c331c231c131c031bf31be31bd31bc31bc31bb31ba31b931b831b731b631b531b531b431b331b231b131b031af31ae31ae31ad31ac31ab31aa31a931a831a731a731a631a531a431a331a231a131a031a0319f319e319d319c319b319a319931993198319731963195319431933192319231913190318f318e318d318c318b318b318a31893188318731863185318431843183318231813180317f317e317e317d317c317b317a317931783177317731763175317431733172317131703170316f316e316d316c316b316a316931693168,
  0x332a33293328332733263325332433233322332233213320331f331e331d331c331b331a331a33193318331733163315331433133312331233113310330f330e330d330c330b330a330a3309330833073306330533043303330233023301330032ff32fe32fd32fc32fb32fa32fa32f932f832f732f632f532f432f332f232f232f132f032ef32ee32ed32ec32eb32eb32ea32e932e832e732e632e532e432e332e332e232e132e032df32de32dd32dc32db32db32da32d932d832d732d632d532d432d332d332d232d132d032cf32ce32cd32cc32cb32cb32ca32c932c832c732c632c532c432c432c332c232c132c032bf32be32bd32bc32bc32bb32ba32b932b832b732b632b532b432b432b332b232b132b032af32ae32ad32ad32ac32ab32aa32a932a832a732a632a532a532a432a332a232a132a0329f329e329d329d329c329b329a32993298329732963296329532943293329232913290328f328e328e328d328c328b328a32893288328732873286328532843283328232813280327f327f327e327d327c327b327a327932783278327732763275327432733272327132703270326f326e326d326c326b326a326932693268326732663265326432633262326132613260325f325e325d325c325b325a325a32593258325732563255325432533252325232513250324f324e324d324c324b324b324a32493248,
  0x340e340d340d340c340b340a3409340834073406340534043404340334023401340033ff33fe33fd33fc33fc33fb33fa33f933f833f733f633f533f433f333f333f233f133f033ef33ee33ed33ec33eb33ea33ea33e933e833e733e633e533e433e333e233e133e133e033df33de33dd33dc33db33da33d933d933d833d733d633d533d433d333d233d133d033d033cf33ce33cd33cc33cb33ca33c933c833c833c733c633c533c433c333c233c133c033bf33bf33be33bd33bc33bb33ba33b933b833b733b733b633b533b433b333b233b133b033af33ae33ae33ad33ac33ab33aa33a933a833a733a633a633a533a433a333a233a133a0339f339e339d339d339c339b339a33993398339733963395339533943393339233913390338f338e338d338c338c338b338a33893388338733863385338433843383338233813380337f337e337d337c337c337b337a33793378337733763375337433733373337233713370336f336e336d336c336b336b336a33693368336733663365336433633363336233613360335f335e335d335c335b335b335a33593358335733563355335433533352335233513350334f334e334d334c334b334a334a33493348334733463345334433433342334233413340333f333e333d333c333b333a333a33393338333733363335333433333332333233313330332f332e332d332c332b332a,
  0x34f534f534f434f334f234f134f034ef34ee34ed34ec34ec34eb34ea34e934e834e734e634e534e434e334e234e234e134e034df34de34dd34dc34db34da34d934d834d834d734d634d534d434d334d234d134d034cf34cf34ce34cd34cc34cb34ca34c934c834c734c634c534c534c434c334c234c134c034bf34be34bd34bc34bb34bb34ba34b934b834b734b634b534b434b334b234b234b134b034af34ae34ad34ac34ab34aa34a934a834a834a734a634a534a434a334a234a134a0349f349f349e349d349c349b349a34993498349734963496349534943493349234913490348f348e348d348c348c348b348a34893488348734863485348434833483348234813480347f347e347d347c347b347a347a34793478347734763475347434733472347134703470346f346e346d346c346b346a34693468346734673466346534643463346234613460345f345e345e345d345c345b345a34593458345734563455345534543453345234513450344f344e344d344c344c344b344a34493448344734463445344434433443344234413440343f343e343d343c343b343a343a34393438343734363435343434333432343134313430342f342e342d342c342b342a34293428342834273426342534243423342234213420341f341f341e341d341c341b341a34193418341734163416341534143413341234113410340f,
  0x35df35de35dd35dc35db35da35d935d935d835d735d635d535d435d335d235d135d035cf35ce35ce35cd35cc35cb35ca35c935c835c735c635c535c435c335c335c235c135c035bf35be35bd35bc35bb35ba35b935b835b835b735b635b535b435b335b235b135b035af35ae35ae35ad35ac35ab35aa35a935a835a735a635a535a435a335a335a235a135a0359f359e359d359c359b359a35993598359835973596359535943593359235913590358f358e358e358d358c358b358a35893588358735863585358435833583358235813580357f357e357d357c357b357a35793579357835773576357535743573357235713570356f356e356e356d356c356b356a35693568356735663565356435643563356235613560355f355e355d355c355b355a355a3559355835573556355535543553355235513550354f354f354e354d354c354b354a35493548354735463545354535443543354235413540353f353e353d353c353b353b353a35393538353735363535353435333532353135313530352f352e352d352c352b352a35293528352735273526352535243523352235213520351f351e351d351d351c351b351a35193518351735163515351435133513351235113510350f350e350d350c350b350a3509350935083507350635053504350335023501350034ff34ff34fe34fd34fc34fb34fa34f934f834f734f6,
  0x36cb36ca36c936c836c736c636c536c436c336c236c136c136c036bf36be36bd36bc36bb36ba36b936b836b736b636b536b536b436b336b236b136b036af36ae36ad36ac36ab36aa36a936a936a836a736a636a536a436a336a236a136a0369f369e369d369c369c369b369a36993698369736963695369436933692369136903690368f368e368d368c368b368a36893688368736863685368436843683368236813680367f367e367d367c367b367a36793678367836773676367536743673367236713670366f366e366d366c366c366b366a36693668366736663665366436633662366136613660365f365e365d365c365b365a36593658365736563655365536543653365236513650364f364e364d364c364b364a36493649364836473646364536443643364236413640363f363e363e363d363c363b363a36393638363736363635363436333632363236313630362f362e362d362c362b362a36293628362736273626362536243623362236213620361f361e361d361c361c361b361a36193618361736163615361436133612361136103610360f360e360d360c360b360a3609360836073606360536053604360336023601360035ff35fe35fd35fc35fb35fa35fa35f935f835f735f635f535f435f335f235f135f035ef35ef35ee35ed35ec35eb35ea35e935e835e735e635e535e435e435e335e235e135e0,
  0x37b937b837b737b637b537b437b337b237b137b037af37af37ae37ad37ac37ab37aa37a937a837a737a637a537a437a337a237a137a137a0379f379e379d379c379b379a37993798379737963795379437933793379237913790378f378e378d378c378b378a37893788378737863785378537843783378237813780377f377e377d377c377b377a37793778377737773776377537743773377237713770376f376e376d376c376b376a376a3769376837673766376537643763376237613760375f375e375d375c375c375b375a3759375837573756375537543753375237513750374f374f374e374d374c374b374a37493748374737463745374437433742374137413740373f373e373d373c373b373a37393738373737363735373437343733373237313730372f372e372d372c372b372a37293728372737273726372537243723372237213720371f371e371d371c371b371a371a3719371837173716371537143713371237113710370f370e370d370d370c370b370a3709370837073706370537043703370237013700370036ff36fe36fd36fc36fb36fa36f936f836f736f636f536f436f336f336f236f136f036ef36ee36ed36ec36eb36ea36e936e836e736e736e636e536e436e336e236e136e036df36de36dd36dc36db36da36da36d936d836d736d636d536d436d336d236d136d036cf36ce36ce36cd36cc,
  0x38a938a838a738a638a638a538a438a338a238a138a0389f389e389d389c389b389a38993898389738963895389538943893389238913890388f388e388d388c388b388a38893888388738863885388538843883388238813880387f387e387d387c387b387a38793878387738763875387438743873387238713870386f386e386d386c386b386a38693868386738663865386438643863386238613860385f385e385d385c385b385a38593858385738563855385438543853385238513850384f384e384d384c384b384a38493848384738463845384538443843384238413840383f383e383d383c383b383a38393838383738363835383538343833383238313830382f382e382d382c382b382a38293828382738263826382538243823382238213820381f381e381d381c381b381a38193818381738163816381538143813381238113810380f380e380d380c380b380a3809380838073807380638053804380338023801380037ff37fe37fd37fc37fb37fa37f937f837f837f737f637f537f437f337f237f137f037ef37ee37ed37ec37eb37ea37e937e937e837e737e637e537e437e337e237e137e037df37de37dd37dc37db37db37da37d937d837d737d637d537d437d337d237d137d037cf37ce37cd37cc37cc37cb37ca37c937c837c737c637c537c437c337c237c137c037bf37be37be37bd37bc37bb37ba,
  0x399c399b399a39993998399739963995399439943993399239913990398f398e398d398c398b398a39893988398739863985398439833982398139803980397f397e397d397c397b397a3979397839773976397539743973397239713970396f396e396d396c396c396b396a3969396839673966396539643963396239613960395f395e395d395c395b395a39593959395839573956395539543953395239513950394f394e394d394c394b394a39493948394739463946394539443943394239413940393f393e393d393c393b393a39393938393739363935393439333933393239313930392f392e392d392c392b392a39293928392739263925392439233922392139213920391f391e391d391c391b391a3919391839173916391539143913391239113910390f390e390e390d390c390b390a390939083907390639053904390339023901390038ff38fe38fd38fc38fc38fb38fa38f938f838f738f638f538f438f338f238f138f038ef38ee38ed38ec38eb38eb38ea38e938e838e738e638e538e438e338e238e138e038df38de38dd38dc38db38da38d938d938d838d738d638d538d438d338d238d138d038cf38ce38cd38cc38cb38ca38c938c838c838c738c638c538c438c338c238c138c038bf38be38bd38bc38bb38ba38b938b838b738b738b638b538b438b338b238b138b038af38ae38ad38ac38ab38aa,
  0x3a913a903a8f3a8e3a8d3a8c3a8b3a8b3a8a3a893a883a873a863a853a843a833a823a813a803a7f3a7e3a7d3a7c3a7b3a7a3a793a783a773a763a753a743a733a723a723a713a703a6f3a6e3a6d3a6c3a6b3a6a3a693a683a673a663a653a643a633a623a613a603a5f3a5e3a5d3a5c3a5b3a5a3a5a3a593a583a573a563a553a543a533a523a513a503a4f3a4e3a4d3a4c3a4b3a4a3a493a483a473a463a453a443a433a423a423a413a403a3f3a3e3a3d3a3c3a3b3a3a3a393a383a373a363a353a343a333a323a313a303a2f3a2e3a2d3a2c3a2b3a2b3a2a3a293a283a273a263a253a243a233a223a213a203a1f3a1e3a1d3a1c3a1b3a1a3a193a183a173a163a153a143a143a133a123a113a103a0f3a0e3a0d3a0c3a0b3a0a3a093a083a073a063a053a043a033a023a013a0039ff39fe39fd39fd39fc39fb39fa39f939f839f739f639f539f439f339f239f139f039ef39ee39ed39ec39eb39ea39e939e839e739e739e639e539e439e339e239e139e039df39de39dd39dc39db39da39d939d839d739d639d539d439d339d239d239d139d039cf39ce39cd39cc39cb39ca39c939c839c739c639c539c439c339c239c139c039bf39be39bd39bd39bc39bb39ba39b939b839b739b639b539b439b339b239b139b039af39ae39ad39ac39ab39aa39a939a839a839a739a639a539a439a339a239a139a0399f399e399d,
  0x3b893b883b873b863b853b843b833b823b813b803b7f3b7e3b7d3b7c3b7b3b7a3b793b783b773b763b753b743b733b723b713b703b703b6f3b6e3b6d3b6c3b6b3b6a3b693b683b673b663b653b643b633b623b613b603b5f3b5e3b5d3b5c3b5b3b5a3b593b583b573b563b553b543b533b523b513b503b503b4f3b4e3b4d3b4c3b4b3b4a3b493b483b473b463b453b443b433b423b413b403b3f3b3e3b3d3b3c3b3b3b3a3b393b383b373b363b353b343b333b323b313b313b303b2f3b2e3b2d3b2c3b2b3b2a3b293b283b273b263b253b243b233b223b213b203b1f3b1e3b1d3b1c3b1b3b1a3b193b183b173b163b153b143b133b133b123b113b103b0f3b0e3b0d3b0c3b0b3b0a3b093b083b073b063b053b043b033b023b013b003aff3afe3afd3afc3afb3afa3af93af83af73af63af63af53af43af33af23af13af03aef3aee3aed3aec3aeb3aea3ae93ae83ae73ae63ae53ae43ae33ae23ae13ae03adf3ade3add3adc3adb3ada3ada3ad93ad83ad73ad63ad53ad43ad33ad23ad13ad03acf3ace3acd3acc3acb3aca3ac93ac83ac73ac63ac53ac43ac33ac23ac13ac03abf3abf3abe3abd3abc3abb3aba3ab93ab83ab73ab63ab53ab43ab33ab23ab13ab03aaf3aae3aad3aac3aab3aaa3aa93aa83aa73aa63aa53aa53aa43aa33aa23aa13aa03a9f3a9e3a9d3a9c3a9b3a9a3a993a983a973a963a953a943a933a92,
  0x3c833c823c813c803c7f3c7e3c7d3c7c3c7b3c7a3c793c783c773c763c753c743c733c723c713c703c6f3c6e3c6d3c6c3c6b3c6a3c693c683c673c663c653c643c633c623c613c603c5f3c5e3c5d3c5c3c5b3c5a3c593c593c583c573c563c553c543c533c523c513c503c4f3c4e3c4d3c4c3c4b3c4a3c493c483c473c463c453c443c433c423c413c403c3f3c3e3c3d3c3c3c3b3c3a3c393c383c373c363c353c343c333c323c313c303c2f3c2e3c2d3c2c3c2c3c2b3c2a3c293c283c273c263c253c243c233c223c213c203c1f3c1e3c1d3c1c3c1b3c1a3c193c183c173c163c153c143c133c123c113c103c0f3c0e3c0d3c0c3c0b3c0a3c093c083c073c063c053c043c033c023c023c013c003bff3bfe3bfd3bfc3bfb3bfa3bf93bf83bf73bf63bf53bf43bf33bf23bf13bf03bef3bee3bed3bec3beb3bea3be93be83be73be63be53be43be33be23be13be03bdf3bde3bdd3bdc3bdb3bdb3bda3bd93bd83bd73bd63bd53bd43bd33bd23bd13bd03bcf3bce3bcd3bcc3bcb3bca3bc93bc83bc73bc63bc53bc43bc33bc23bc13bc03bbf3bbe3bbd3bbc3bbb3bba3bb93bb83bb73bb63bb53bb53bb43bb33bb23bb13bb03baf3bae3bad3bac3bab3baa3ba93ba83ba73ba63ba53ba43ba33ba23ba13ba03b9f3b9e3b9d3b9c3b9b3b9a3b993b983b973b963b953b943b933b923b923b913b903b8f3b8e3b8d3b8c3b8b3b8a,
  0x3d7f3d7e3d7d3d7c3d7b3d7a3d793d783d773d763d753d743d733d723d713d703d6f3d6e3d6d3d6c3d6b3d6a3d693d683d673d663d653d643d633d623d613d603d5f3d5e3d5d3d5c3d5b3d5a3d593d583d573d563d553d543d533d523d513d503d4f3d4e3d4d3d4c3d4b3d4a3d4a3d493d483d473d463d453d443d433d423d413d403d3f3d3e3d3d3d3c3d3b3d3a3d393d383d373d363d353d343d333d323d313d303d2f3d2e3d2d3d2c3d2b3d2a3d293d283d273d263d253d243d233d223d213d203d1f3d1e3d1d3d1c3d1b3d1a3d193d183d173d163d153d143d133d123d113d103d0f3d0e3d0d3d0c3d0b3d0a3d093d083d073d063d053d043d033d023d013d003cff3cff3cfe3cfd3cfc3cfb3cfa3cf93cf83cf73cf63cf53cf43cf33cf23cf13cf03cef3cee3ced3cec3ceb3cea3ce93ce83ce73ce63ce53ce43ce33ce23ce13ce03cdf3cde3cdd3cdc3cdb3cda3cd93cd83cd73cd63cd53cd43cd33cd23cd13cd03ccf3cce3ccd3ccc3ccb3cca3cc93cc83cc73cc63cc53cc43cc33cc23cc13cc13cc03cbf3cbe3cbd3cbc3cbb3cba3cb93cb83cb73cb63cb53cb43cb33cb23cb13cb03caf3cae3cad3cac3cab3caa3ca93ca83ca73ca63ca53ca43ca33ca23ca13ca03c9f3c9e3c9d3c9c3c9b3c9a3c993c983c973c963c953c943c933c923c913c903c8f3c8e3c8d3c8c3c8b3c8b3c8a3c893c883c873c863c853c84,
  0x3e7e3e7d3e7c3e7b3e7a3e793e783e773e763e753e743e733e723e713e703e6f3e6e3e6d3e6c3e6b3e6a3e693e683e673e663e653e643e633e623e613e603e5f3e5e3e5d3e5c3e5b3e5a3e593e583e573e563e553e543e533e523e513e503e4f3e4e3e4d3e4c3e4b3e4a3e493e483e473e463e453e443e433e423e413e403e3f3e3e3e3d3e3c3e3b3e3a3e393e383e373e363e353e343e333e323e313e303e2f3e2e3e2d3e2c3e2b3e2a3e293e283e273e263e253e243e233e223e213e203e1f3e1e3e1d3e1c3e1b3e1a3e193e183e173e163e153e143e133e123e113e103e0f3e0e3e0d3e0c3e0b3e0a3e093e083e073e063e053e043e033e023e013e003dff3dfe3dfd3dfc3dfb3dfa3df93df83df73df63df53df43df33df23df13df03def3dee3ded3dec3deb3dea3de93de83de73de63de53de43de33de23de13de03ddf3dde3ddd3ddc3ddb3dda3dd93dd83dd73dd63dd53dd43dd33dd23dd13dd03dcf3dce3dcd3dcc3dcb3dca3dc93dc83dc73dc63dc53dc43dc33dc23dc13dc03dbf3dbe3dbd3dbc3dbb3dba3db93db83db73db63db53db43db33db23db13db03daf3dae3dad3dac3dac3dab3daa3da93da83da73da63da53da43da33da23da13da03d9f3d9e3d9d3d9c3d9b3d9a3d993d983d973d963d953d943d933d923d913d903d8f3d8e3d8d3d8c3d8b3d8a3d893d883d873d863d853d843d833d823d813d80,
  0x3f7f3f7e3f7d3f7c3f7b3f7a3f793f783f773f763f743f733f723f713f703f6f3f6e3f6d3f6c3f6b3f6a3f693f683f673f663f653f643f633f623f613f603f5f3f5e3f5d3f5c3f5b3f5a3f593f583f573f563f553f543f533f523f513f503f4f3f4e3f4d3f4c3f4b3f4a3f493f483f473f463f453f443f433f423f413f403f3f3f3e3f3d3f3c3f3b3f3a3f393f383f373f363f353f343f333f323f313f303f2f3f2e3f2d3f2c3f2b3f2a3f293f283f273f263f253f243f233f223f213f203f1f3f1e3f1d3f1c3f1b3f1a3f193f183f173f163f153f143f133f123f113f103f0f3f0e3f0d3f0c3f0b3f0a3f093f083f073f063f053f043f033f023f013f003eff3efe3efd3efc3efb3efa3ef93ef83ef73ef63ef53ef43ef33ef23ef13ef03eef3eee3eed3eec3eeb3eea3ee93ee83ee73ee63ee53ee43ee33ee23ee13ee03edf3ede3edd3edc3edb3eda3ed93ed83ed73ed63ed53ed43ed33ed23ed13ed03ecf3ece3ecd3ecc3ecb3eca3ec93ec83ec73ec63ec53ec43ec33ec23ec13ec03ebf3ebe3ebd3ebc3ebb3eba3eb93eb83eb73eb63eb53eb43eb33eb23eb13eb03eaf3eae3ead3eac3eab3eaa3ea93ea83ea73ea63ea53ea43ea33ea23ea13ea03e9f3e9e3e9d3e9c3e9b3e9a3e993e983e973e963e953e943e933e923e913e903e8f3e8e3e8d3e8c3e8b3e8a3e893e883e873e863e853e843e833e823e813e803e7f,
  0x408240814080407f407e407d407c407b407a4079407840774076407540744073407240714070406f406e406d406c406b406a406940684067406640644063406240614060405f405e405d405c405b405a4059405840574056405540544053405240514050404f404e404d404c404b404a4049404840474046404540444043404240414040403f403e403d403c403b403a4039403840374036403540344033403240314030402f402e402d402c402b402a402940284027402640244023402240214020401f401e401d401c401b401a4019401840174016401540144013401240114010400f400e400d400c400b400a40094008400740064005400440034002400140003fff3ffe3ffd3ffc3ffb3ffa3ff93ff83ff73ff63ff53ff43ff33ff23ff13ff03fef3fee3fed3fec3feb3fea3fe93fe83fe73fe63fe53fe43fe33fe23fe13fe03fdf3fde3fdd3fdc3fdb3fda3fd83fd73fd63fd53fd43fd33fd23fd13fd03fcf3fce3fcd3fcc3fcb3fca3fc93fc83fc73fc63fc53fc43fc33fc23fc13fc03fbf3fbe3fbd3fbc3fbb3fba3fb93fb83fb73fb63fb53fb43fb33fb23fb13fb03faf3fae3fad3fac3fab3faa3fa93fa83fa73fa63fa53fa43fa33fa23fa13fa03f9f3f9e3f9d3f9c3f9b3f9a3f993f983f973f963f953f943f933f923f913f903f8f3f8e3f8d3f8c3f8b3f8a3f893f883f873f863f853f843f833f823f813f80,
  0x418841874186418541844183418241814180417f417e417d417b417a4179417841774176417541744173417241714170416f416e416d416c416b416a4169416841674166416541644163416241614160415f415e415d415c415b415a415941584157415641544153415241514150414f414e414d414c414b414a4149414841474146414541444143414241414140413f413e413d413c413b413a4139413841374136413541344133413241314130412f412e412d412b412a4129412841274126412541244123412241214120411f411e411d411c411b411a4119411841174116411541144113411241114110410f410e410d410c410b410a41094108410741064105410441034102410140ff40fe40fd40fc40fb40fa40f940f840f740f640f540f440f340f240f140f040ef40ee40ed40ec40eb40ea40e940e840e740e640e540e440e340e240e140e040df40de40dd40dc40db40da40d940d840d740d640d540d440d340d240d040cf40ce40cd40cc40cb40ca40c940c840c740c640c540c440c340c240c140c040bf40be40bd40bc40bb40ba40b940b840b740b640b540b440b340b240b140b040af40ae40ad40ac40ab40aa40a940a840a740a640a540a440a340a240a140a0409f409e409c409b409a4099409840974096409540944093409240914090408f408e408d408c408b408a4089408840874086408540844083,
  0x4290428f428e428d428c428b428a428942884287428642854284428342824280427f427e427d427c427b427a4279427842774276427542744273427242714270426f426e426d426c426b426a426942684267426642654263426242614260425f425e425d425c425b425a4259425842574256425542544253425242514250424f424e424d424c424b424a424942484247424542444243424242414240423f423e423d423c423b423a4239423842374236423542344233423242314230422f422e422d422c422b422a422942284226422542244223422242214220421f421e421d421c421b421a4219421842174216421542144213421242114210420f420e420d420c420b420a42094207420642054204420342024201420041ff41fe41fd41fc41fb41fa41f941f841f741f641f541f441f341f241f141f041ef41ee41ed41ec41eb41ea41e941e841e641e541e441e341e241e141e041df41de41dd41dc41db41da41d941d841d741d641d541d441d341d241d141d041cf41ce41cd41cc41cb41ca41c941c841c741c641c441c341c241c141c041bf41be41bd41bc41bb41ba41b941b841b741b641b541b441b341b241b141b041af41ae41ad41ac41ab41aa41a941a841a741a641a541a441a341a241a0419f419e419d419c419b419a4199419841974196419541944193419241914190418f418e418d418c418b418a4189,
  0x439b439a439943984396439543944393439243914390438f438e438d438c438b438a438943884387438643854384438343824381437f437e437d437c437b437a4379437843774376437543744373437243714370436f436e436d436c436b436a436843674366436543644363436243614360435f435e435d435c435b435a435943584357435643554354435343524350434f434e434d434c434b434a4349434843474346434543444343434243414340433f433e433d433c433b433a433843374336433543344333433243314330432f432e432d432c432b432a432943284327432643254324432343224321431f431e431d431c431b431a4319431843174316431543144313431243114310430f430e430d430c430b430a43094308430643054304430343024301430042ff42fe42fd42fc42fb42fa42f942f842f742f642f542f442f342f242f142f042ef42ee42ec42eb42ea42e942e842e742e642e542e442e342e242e142e042df42de42dd42dc42db42da42d942d842d742d642d542d442d242d142d042cf42ce42cd42cc42cb42ca42c942c842c742c642c542c442c342c242c142c042bf42be42bd42bc42bb42ba42b942b742b642b542b442b342b242b142b042af42ae42ad42ac42ab42aa42a942a842a742a642a542a442a342a242a142a0429f429e429c429b429a429942984297429642954294429342924291,
  0x44a844a744a644a544a444a244a144a0449f449e449d449c449b449a449944984497449644954494449344924491448f448e448d448c448b448a4489448844874486448544844483448244814480447f447e447c447b447a4479447844774476447544744473447244714470446f446e446d446c446b446a446844674466446544644463446244614460445f445e445d445c445b445a445944584457445544544453445244514450444f444e444d444c444b444a444944484447444644454444444344414440443f443e443d443c443b443a4439443844374436443544344433443244314430442f442e442c442b442a4429442844274426442544244423442244214420441f441e441d441c441b441a441844174416441544144413441244114410440f440e440d440c440b440a44094408440744064405440344024401440043ff43fe43fd43fc43fb43fa43f943f843f743f643f543f443f343f243f143f043ee43ed43ec43eb43ea43e943e843e743e643e543e443e343e243e143e043df43de43dd43dc43db43da43d843d743d643d543d443d343d243d143d043cf43ce43cd43cc43cb43ca43c943c843c743c643c543c443c243c143c043bf43be43bd43bc43bb43ba43b943b843b743b643b543b443b343b243b143b043af43ae43ac43ab43aa43a943a843a743a643a543a443a343a243a143a0439f439e439d439c,
  0x45b745b645b545b445b345b245b145b045af45ae45ad45ab45aa45a945a845a745a645a545a445a345a245a145a0459f459e459d459c459a4599459845974596459545944593459245914590458f458e458d458c458b4589458845874586458545844583458245814580457f457e457d457c457b4579457845774576457545744573457245714570456f456e456d456c456b456a456845674566456545644563456245614560455f455e455d455c455b455a455945574556455545544553455245514550454f454e454d454c454b454a454945484547454545444543454245414540453f453e453d453c453b453a453945384537453645344533453245314530452f452e452d452c452b452a452945284527452645254524452245214520451f451e451d451c451b451a451945184517451645154514451345114510450f450e450d450c450b450a45094508450745064505450445034502450144ff44fe44fd44fc44fb44fa44f944f844f744f644f544f444f344f244f144f044ef44ed44ec44eb44ea44e944e844e744e644e544e444e344e244e144e044df44de44dd44dc44da44d944d844d744d644d544d444d344d244d144d044cf44ce44cd44cc44cb44ca44c844c744c644c544c444c344c244c144c044bf44be44bd44bc44bb44ba44b944b844b744b544b444b344b244b144b044af44ae44ad44ac44ab44aa44a9,
  0x46c946c846c746c646c546c446c346c246c146bf46be46bd46bc46bb46ba46b946b846b746b646b546b446b346b146b046af46ae46ad46ac46ab46aa46a946a846a746a646a546a446a246a146a0469f469e469d469c469b469a469946984697469646944693469246914690468f468e468d468c468b468a468946884687468546844683468246814680467f467e467d467c467b467a467946784676467546744673467246714670466f466e466d466c466b466a466946674666466546644663466246614660465f465e465d465c465b465a465846574656465546544653465246514650464f464e464d464c464b4649464846474646464546444643464246414640463f463e463d463c463b4639463846374636463546344633463246314630462f462e462d462c462a4629462846274626462546244623462246214620461f461e461d461b461a4619461846174616461546144613461246114610460f460e460d460b460a460946084607460646054604460346024601460045ff45fe45fd45fb45fa45f945f845f745f645f545f445f345f245f145f045ef45ee45ed45eb45ea45e945e845e745e645e545e445e345e245e145e045df45de45dd45db45da45d945d845d745d645d545d445d345d245d145d045cf45ce45cd45cb45ca45c945c845c745c645c545c445c345c245c145c045bf45be45bd45bb45ba45b945b8,
  0x47dd47dc47db47da47d947d847d747d647d547d447d347d247d047cf47ce47cd47cc47cb47ca47c947c847c747c647c547c347c247c147c047bf47be47bd47bc47bb47ba47b947b847b647b547b447b347b247b147b047af47ae47ad47ac47ab47a947a847a747a647a547a447a347a247a147a0479f479e479c479b479a479947984797479647954794479347924791478f478e478d478c478b478a478947884787478647854784478347814780477f477e477d477c477b477a477947784777477647744773477247714770476f476e476d476c476b476a476947674766476547644763476247614760475f475e475d475c475b4759475847574756475547544753475247514750474f474e474d474b474a4749474847474746474547444743474247414740473e473d473c473b473a473947384737473647354734473347324730472f472e472d472c472b472a472947284727472647254724472247214720471f471e471d471c471b471a471947184717471647144713471247114710470f470e470d470c470b470a47094708470647054704470347024701470046ff46fe46fd46fc46fb46fa46f846f746f646f546f446f346f246f146f046ef46ee46ed46ec46ea46e946e846e746e646e546e446e346e246e146e046df46de46dc46db46da46d946d846d746d646d546d446d346d246d146d046ce46cd46cc46cb46ca,
  0x48f448f348f248f148f048ef48ee48ed48eb48ea48e948e848e748e648e548e448e348e248e148df48de48dd48dc48db48da48d948d848d748d648d548d348d248d148d048cf48ce48cd48cc48cb48ca48c948c748c648c548c448c348c248c148c048bf48be48bd48bb48ba48b948b848b748b648b548b448b348b248b148af48ae48ad48ac48ab48aa48a948a848a748a648a548a348a248a148a0489f489e489d489c489b489a489948974896489548944893489248914890488f488e488d488b488a488948884887488648854884488348824881487f487e487d487c487b487a487948784877487648754873487248714870486f486e486d486c486b486a486948674866486548644863486248614860485f485e485d485b485a4859485848574856485548544853485248514850484e484d484c484b484a484948484847484648454844484248414840483f483e483d483c483b483a483948384836483548344833483248314830482f482e482d482c482b4829482848274826482548244823482248214820481f481d481c481b481a481948184817481648154814481348124810480f480e480d480c480b480a48094808480748064805480348024801480047ff47fe47fd47fc47fb47fa47f947f747f647f547f447f347f247f147f047ef47ee47ed47ec47ea47e947e847e747e647e547e447e347e247e147e047df,
  0x4a0d4a0c4a0b4a0a4a094a084a074a064a054a044a024a014a0049ff49fe49fd49fc49fb49fa49f949f749f649f549f449f349f249f149f049ef49ed49ec49eb49ea49e949e849e749e649e549e449e249e149e049df49de49dd49dc49db49da49d949d749d649d549d449d349d249d149d049cf49ce49cc49cb49ca49c949c849c749c649c549c449c349c149c049bf49be49bd49bc49bb49ba49b949b849b649b549b449b349b249b149b049af49ae49ad49ab49aa49a949a849a749a649a549a449a349a249a0499f499e499d499c499b499a499949984997499549944993499249914990498f498e498d498c498a498949884987498649854984498349824981497f497e497d497c497b497a497949784977497649744973497249714970496f496e496d496c496b4969496849674966496549644963496249614960495f495d495c495b495a495949584957495649554954495249514950494f494e494d494c494b494a494949474946494549444943494249414940493f493e493d493b493a493949384937493649354934493349324930492f492e492d492c492b492a492949284927492649244923492249214920491f491e491d491c491b4919491849174916491549144913491249114910490f490d490c490b490a49094908490749064905490449024901490048ff48fe48fd48fc48fb48fa48f948f848f648f5,
  0x4b294b284b274b264b254b244b224b214b204b1f4b1e4b1d4b1c4b1b4b1a4b184b174b164b154b144b134b124b114b104b0e4b0d4b0c4b0b4b0a4b094b084b074b064b044b034b024b014b004aff4afe4afd4afc4afa4af94af84af74af64af54af44af34af24af04aef4aee4aed4aec4aeb4aea4ae94ae84ae64ae54ae44ae34ae24ae14ae04adf4ade4adc4adb4ada4ad94ad84ad74ad64ad54ad44ad24ad14ad04acf4ace4acd4acc4acb4aca4ac84ac74ac64ac54ac44ac34ac24ac14ac04abf4abd4abc4abb4aba4ab94ab84ab74ab64ab54ab34ab24ab14ab04aaf4aae4aad4aac4aab4aa94aa84aa74aa64aa54aa44aa34aa24aa14a9f4a9e4a9d4a9c4a9b4a9a4a994a984a974a954a944a934a924a914a904a8f4a8e4a8d4a8c4a8a4a894a884a874a864a854a844a834a824a804a7f4a7e4a7d4a7c4a7b4a7a4a794a784a764a754a744a734a724a714a704a6f4a6e4a6d4a6b4a6a4a694a684a674a664a654a644a634a614a604a5f4a5e4a5d4a5c4a5b4a5a4a594a574a564a554a544a534a524a514a504a4f4a4e4a4c4a4b4a4a4a494a484a474a464a454a444a424a414a404a3f4a3e4a3d4a3c4a3b4a3a4a394a374a364a354a344a334a324a314a304a2f4a2d4a2c4a2b4a2a4a294a284a274a264a254a244a224a214a204a1f4a1e4a1d4a1c4a1b4a1a4a194a174a164a154a144a134a124a114a104a0f,
  0x4c474c464c454c444c434c424c414c3f4c3e4c3d4c3c4c3b4c3a4c394c384c364c354c344c334c324c314c304c2f4c2e4c2c4c2b4c2a4c294c284c274c264c254c234c224c214c204c1f4c1e4c1d4c1c4c1a4c194c184c174c164c154c144c134c114c104c0f4c0e4c0d4c0c4c0b4c0a4c094c074c064c054c044c034c024c014c004bfe4bfd4bfc4bfb4bfa4bf94bf84bf74bf54bf44bf34bf24bf14bf04bef4bee4bed4beb4bea4be94be84be74be64be54be44be24be14be04bdf4bde4bdd4bdc4bdb4bd94bd84bd74bd64bd54bd44bd34bd24bd14bcf4bce4bcd4bcc4bcb4bca4bc94bc84bc64bc54bc44bc34bc24bc14bc04bbf4bbe4bbc4bbb4bba4bb94bb84bb74bb64bb54bb34bb24bb14bb04baf4bae4bad4bac4bab4ba94ba84ba74ba64ba54ba44ba34ba24ba04b9f4b9e4b9d4b9c4b9b4b9a4b994b984b964b954b944b934b924b914b904b8f4b8d4b8c4b8b4b8a4b894b884b874b864b854b834b824b814b804b7f4b7e4b7d4b7c4b7b4b794b784b774b764b754b744b734b724b704b6f4b6e4b6d4b6c4b6b4b6a4b694b684b664b654b644b634b624b614b604b5f4b5e4b5c4b5b4b5a4b594b584b574b564b554b534b524b514b504b4f4b4e4b4d4b4c4b4b4b494b484b474b464b454b444b434b424b414b3f4b3e4b3d4b3c4b3b4b3a4b394b384b374b354b344b334b324b314b304b2f4b2e4b2d4b2b4b2a,
  0x4d684d674d664d654d634d624d614d604d5f4d5e4d5d4d5b4d5a4d594d584d574d564d554d544d524d514d504d4f4d4e4d4d4d4c4d4b4d494d484d474d464d454d444d434d414d404d3f4d3e4d3d4d3c4d3b4d3a4d384d374d364d354d344d334d324d314d2f4d2e4d2d4d2c4d2b4d2a4d294d274d264d254d244d234d224d214d204d1e4d1d4d1c4d1b4d1a4d194d184d174d154d144d134d124d114d104d0f4d0d4d0c4d0b4d0a4d094d084d074d064d044d034d024d014d004cff4cfe4cfd4cfb4cfa4cf94cf84cf74cf64cf54cf44cf24cf14cf04cef4cee4ced4cec4ceb4ce94ce84ce74ce64ce54ce44ce34ce14ce04cdf4cde4cdd4cdc4cdb4cda4cd84cd74cd64cd54cd44cd34cd24cd14ccf4cce4ccd4ccc4ccb4cca4cc94cc84cc64cc54cc44cc34cc24cc14cc04cbf4cbd4cbc4cbb4cba4cb94cb84cb74cb64cb44cb34cb24cb14cb04caf4cae4cad4cab4caa4ca94ca84ca74ca64ca54ca44ca24ca14ca04c9f4c9e4c9d4c9c4c9a4c994c984c974c964c954c944c934c914c904c8f4c8e4c8d4c8c4c8b4c8a4c894c874c864c854c844c834c824c814c804c7e4c7d4c7c4c7b4c7a4c794c784c774c754c744c734c724c714c704c6f4c6e4c6c4c6b4c6a4c694c684c674c664c654c634c624c614c604c5f4c5e4c5d4c5c4c5a4c594c584c574c564c554c544c534c514c504c4f4c4e4c4d4c4c4c4b4c4a4c48,
  0x4e8b4e8a4e894e884e864e854e844e834e824e814e804e7e4e7d4e7c4e7b4e7a4e794e784e764e754e744e734e724e714e704e6f4e6d4e6c4e6b4e6a4e694e684e674e654e644e634e624e614e604e5f4e5d4e5c4e5b4e5a4e594e584e574e554e544e534e524e514e504e4f4e4d4e4c4e4b4e4a4e494e484e474e454e444e434e424e414e404e3f4e3d4e3c4e3b4e3a4e394e384e374e364e344e334e324e314e304e2f4e2e4e2c4e2b4e2a4e294e284e274e264e244e234e224e214e204e1f4e1e4e1c4e1b4e1a4e194e184e174e164e144e134e124e114e104e0f4e0e4e0d4e0b4e0a4e094e084e074e064e054e034e024e014e004dff4dfe4dfd4dfb4dfa4df94df84df74df64df54df34df24df14df04def4dee4ded4dec4dea4de94de84de74de64de54de44de24de14de04ddf4dde4ddd4ddc4dda4dd94dd84dd74dd64dd54dd44dd34dd14dd04dcf4dce4dcd4dcc4dcb4dc94dc84dc74dc64dc54dc44dc34dc24dc04dbf4dbe4dbd4dbc4dbb4dba4db84db74db64db54db44db34db24db04daf4dae4dad4dac4dab4daa4da94da74da64da54da44da34da24da14d9f4d9e4d9d4d9c4d9b4d9a4d994d984d964d954d944d934d924d914d904d8e4d8d4d8c4d8b4d8a4d894d884d874d854d844d834d824d814d804d7f4d7d4d7c4d7b4d7a4d794d784d774d764d744d734d724d714d704d6f4d6e4d6c4d6b4d6a4d69,
  0x4fb14faf4fae4fad4fac4fab4faa4fa94fa74fa64fa54fa44fa34fa24fa04f9f4f9e4f9d4f9c4f9b4f9a4f984f974f964f954f944f934f924f904f8f4f8e4f8d4f8c4f8b4f894f884f874f864f854f844f834f814f804f7f4f7e4f7d4f7c4f7b4f794f784f774f764f754f744f724f714f704f6f4f6e4f6d4f6c4f6a4f694f684f674f664f654f644f624f614f604f5f4f5e4f5d4f5b4f5a4f594f584f574f564f554f534f524f514f504f4f4f4e4f4d4f4b4f4a4f494f484f474f464f454f434f424f414f404f3f4f3e4f3c4f3b4f3a4f394f384f374f364f344f334f324f314f304f2f4f2e4f2c4f2b4f2a4f294f284f274f264f244f234f224f214f204f1f4f1e4f1c4f1b4f1a4f194f184f174f154f144f134f124f114f104f0f4f0d4f0c4f0b4f0a4f094f084f074f054f044f034f024f014f004eff4efd4efc4efb4efa4ef94ef84ef74ef54ef44ef34ef24ef14ef04eef4eed4eec4eeb4eea4ee94ee84ee74ee54ee44ee34ee24ee14ee04edf4edd4edc4edb4eda4ed94ed84ed64ed54ed44ed34ed24ed14ed04ece4ecd4ecc4ecb4eca4ec94ec84ec64ec54ec44ec34ec24ec14ec04ebe4ebd4ebc4ebb4eba4eb94eb84eb64eb54eb44eb34eb24eb14eb04eae4ead4eac4eab4eaa4ea94ea84ea64ea54ea44ea34ea24ea14ea04e9e4e9d4e9c4e9b4e9a4e994e984e964e954e944e934e924e914e904e8e4e8d4e8c,
  0x50d950d850d650d550d450d350d250d150cf50ce50cd50cc50cb50ca50c850c750c650c550c450c350c150c050bf50be50bd50bc50ba50b950b850b750b650b550b450b250b150b050af50ae50ad50ab50aa50a950a850a750a650a450a350a250a150a0509f509d509c509b509a509950985097509550945093509250915090508e508d508c508b508a50895087508650855084508350825081507f507e507d507c507b507a50785077507650755074507350715070506f506e506d506c506b506950685067506650655064506250615060505f505e505d505b505a505950585057505650555053505250515050504f504e504c504b504a504950485047504550445043504250415040503f503d503c503b503a503950385036503550345033503250315030502e502d502c502b502a50295027502650255024502350225020501f501e501d501c501b501a50185017501650155014501350115010500f500e500d500c500b5009500850075006500550045002500150004fff4ffe4ffd4ffc4ffa4ff94ff84ff74ff64ff54ff34ff24ff14ff04fef4fee4fed4feb4fea4fe94fe84fe74fe64fe44fe34fe24fe14fe04fdf4fde4fdc4fdb4fda4fd94fd84fd74fd54fd44fd34fd24fd14fd04fcf4fcd4fcc4fcb4fca4fc94fc84fc74fc54fc44fc34fc24fc14fc04fbe4fbd4fbc4fbb4fba4fb94fb84fb64fb54fb44fb34fb2,
  0x520352025201520051ff51fd51fc51fb51fa51f951f851f651f551f451f351f251f051ef51ee51ed51ec51eb51e951e851e751e651e551e451e251e151e051df51de51dd51db51da51d951d851d751d651d451d351d251d151d051cf51cd51cc51cb51ca51c951c851c651c551c451c351c251c151bf51be51bd51bc51bb51ba51b851b751b651b551b451b351b151b051af51ae51ad51ab51aa51a951a851a751a651a451a351a251a151a0519f519d519c519b519a51995198519651955194519351925191518f518e518d518c518b518a51885187518651855184518351815180517f517e517d517c517a517951785177517651755173517251715170516f516e516c516b516a516951685167516551645163516251615160515e515d515c515b515a51595157515651555154515351525150514f514e514d514c514b514951485147514651455144514351415140513f513e513d513c513a513951385137513651355133513251315130512f512e512c512b512a512951285127512551245123512251215120511e511d511c511b511a51195117511651155114511351125110510f510e510d510c510b51095108510751065105510451035101510050ff50fe50fd50fc50fa50f950f850f750f650f550f350f250f150f050ef50ee50ec50eb50ea50e950e850e750e550e450e350e250e150e050de50dd50dc50db50da,
  0x5330532f532e532d532c532a532953285327532653245323532253215320531f531d531c531b531a53195317531653155314531353125310530f530e530d530c530a53095308530753065305530353025301530052ff52fe52fc52fb52fa52f952f852f652f552f452f352f252f152ef52ee52ed52ec52eb52e952e852e752e652e552e452e252e152e052df52de52dd52db52da52d952d852d752d552d452d352d252d152d052ce52cd52cc52cb52ca52c852c752c652c552c452c352c152c052bf52be52bd52bc52ba52b952b852b752b652b452b352b252b152b052af52ad52ac52ab52aa52a952a852a652a552a452a352a252a0529f529e529d529c529b529952985297529652955294529252915290528f528e528c528b528a528952885287528552845283528252815280527e527d527c527b527a52795277527652755274527352715270526f526e526d526c526a526952685267526652655263526252615260525f525e525c525b525a52595258525652555254525352525251524f524e524d524c524b524a52485247524652455244524352415240523f523e523d523b523a523952385237523652345233523252315230522f522d522c522b522a52295228522652255224522352225221521f521e521d521c521b521952185217521652155214521252115210520f520e520d520b520a52095208520752065204,
  0x5460545f545d545c545b545a54595457545654555454545354525450544f544e544d544c544a544954485447544654445443544254415440543e543d543c543b543a54395437543654355434543354315430542f542e542d542b542a542954285427542654245423542254215420541e541d541c541b541a54185417541654155414541354115410540f540e540d540b540a5409540854075405540454035402540153ff53fe53fd53fc53fb53fa53f853f753f653f553f453f253f153f053ef53ee53ed53eb53ea53e953e853e753e553e453e353e253e153df53de53dd53dc53db53da53d853d753d653d553d453d253d153d053cf53ce53cc53cb53ca53c953c853c753c553c453c353c253c153bf53be53bd53bc53bb53b953b853b753b653b553b453b253b153b053af53ae53ac53ab53aa53a953a853a753a553a453a353a253a1539f539e539d539c539b539a53985397539653955394539253915390538f538e538c538b538a53895388538753855384538353825381537f537e537d537c537b537a53785377537653755374537253715370536f536e536d536b536a536953685367536553645363536253615360535e535d535c535b535a53585357535653555354535353515350534f534e534d534b534a534953485347534653445343534253415340533e533d533c533b533a5339533753365335533453335331,
  0x55925591558f558e558d558c558b558955885587558655855583558255815580557f557d557c557b557a55795577557655755574557355715570556f556e556d556b556a55695568556755655564556355625561555f555e555d555c555b555955585557555655555553555255515550554f554e554c554b554a55495548554655455544554355425540553f553e553d553c553a553955385537553655345533553255315530552e552d552c552b552a55285527552655255524552255215520551f551e551c551b551a55195518551655155514551355125510550f550e550d550c550a55095508550755065504550355025501550054ff54fd54fc54fb54fa54f954f754f654f554f454f354f154f054ef54ee54ed54eb54ea54e954e854e754e554e454e354e254e154df54de54dd54dc54db54d954d854d754d654d554d354d254d154d054cf54ce54cc54cb54ca54c954c854c654c554c454c354c254c054bf54be54bd54bc54ba54b954b854b754b654b454b354b254b154b054ae54ad54ac54ab54aa54a954a754a654a554a454a354a154a0549f549e549d549b549a54995498549754955494549354925491548f548e548d548c548b548a54885487548654855484548254815480547f547e547c547b547a54795478547654755474547354725470546f546e546d546c546b54695468546754665465546354625461,
  0x56c656c556c456c356c256c056bf56be56bd56bc56ba56b956b856b756b656b456b356b256b156af56ae56ad56ac56ab56a956a856a756a656a556a356a256a156a0569f569d569c569b569a56985697569656955694569256915690568f568e568c568b568a56895688568656855684568356825680567f567e567d567b567a56795678567756755674567356725671566f566e566d566c566b566956685667566656655663566256615660565f565d565c565b565a56585657565656555654565256515650564f564e564c564b564a56495648564656455644564356425640563f563e563d563c563a56395638563756355634563356325631562f562e562d562c562b562956285627562656255623562256215620561f561d561c561b561a56195617561656155614561356115610560f560e560d560b560a5609560856065605560456035602560055ff55fe55fd55fc55fa55f955f855f755f655f455f355f255f155f055ee55ed55ec55eb55ea55e855e755e655e555e455e255e155e055df55de55dc55db55da55d955d855d655d555d455d355d255d055cf55ce55cd55cc55ca55c955c855c755c655c455c355c255c155c055be55bd55bc55bb55ba55b855b755b655b555b355b255b155b055af55ad55ac55ab55aa55a955a755a655a555a455a355a155a0559f559e559d559b559a559955985597559555945593,
  0x57fe57fc57fb57fa57f957f757f657f557f457f357f157f057ef57ee57ec57eb57ea57e957e857e657e557e457e357e157e057df57de57dd57db57da57d957d857d757d557d457d357d257d057cf57ce57cd57cc57ca57c957c857c757c557c457c357c257c157bf57be57bd57bc57ba57b957b857b757b657b457b357b257b157b057ae57ad57ac57ab57a957a857a757a657a557a357a257a157a0579e579d579c579b579a57985797579657955794579257915790578f578d578c578b578a57895787578657855784578357815780577f577e577c577b577a57795778577657755774577357715770576f576e576d576b576a57695768576757655764576357625760575f575e575d575c575a57595758575757565754575357525751574f574e574d574c574b574957485747574657455743574257415740573e573d573c573b573a57385737573657355734573257315730572f572d572c572b572a57295727572657255724572357215720571f571e571c571b571a57195718571657155714571357125710570f570e570d570b570a5709570857075705570457035702570156ff56fe56fd56fc56fb56f956f856f756f656f456f356f256f156f056ee56ed56ec56eb56ea56e856e756e656e556e356e256e156e056df56dd56dc56db56da56d956d756d656d556d456d356d156d056cf56ce56cc56cb56ca56c956c8,
  0x5937593659355933593259315930592f592d592c592b592a59285927592659255923592259215920591f591d591c591b591a59185917591659155914591259115910590f590d590c590b590a5908590759065905590459025901590058ff58fd58fc58fb58fa58f858f758f658f558f458f258f158f058ef58ed58ec58eb58ea58e958e758e658e558e458e258e158e058df58dd58dc58db58da58d958d758d658d558d458d258d158d058cf58ce58cc58cb58ca58c958c758c658c558c458c258c158c058bf58be58bc58bb58ba58b958b758b658b558b458b358b158b058af58ae58ac58ab58aa58a958a858a658a558a458a358a158a0589f589e589c589b589a58995898589658955894589358915890588f588e588d588b588a58895888588658855884588358825880587f587e587d587b587a58795878587758755874587358725870586f586e586d586c586a58695868586758655864586358625860585f585e585d585c585a58595858585758555854585358525851584f584e584d584c584a58495848584758465844584358425841583f583e583d583c583b583958385837583658345833583258315830582e582d582c582b582958285827582658255823582258215820581e581d581c581b581a58185817581658155814581258115810580f580d580c580b580a5809580758065805580458025801580057ff,
  0x5a735a725a715a705a6e5a6d5a6c5a6b5a695a685a675a665a645a635a625a615a5f5a5e5a5d5a5c5a5b5a595a585a575a565a545a535a525a515a4f5a4e5a4d5a4c5a4a5a495a485a475a455a445a435a425a415a3f5a3e5a3d5a3c5a3a5a395a385a375a355a345a335a325a305a2f5a2e5a2d5a2b5a2a5a295a285a275a255a245a235a225a205a1f5a1e5a1d5a1b5a1a5a195a185a165a155a145a135a115a105a0f5a0e5a0d5a0b5a0a5a095a085a065a055a045a035a015a0059ff59fe59fc59fb59fa59f959f859f659f559f459f359f159f059ef59ee59ec59eb59ea59e959e759e659e559e459e359e159e059df59de59dc59db59da59d959d759d659d559d459d259d159d059cf59ce59cc59cb59ca59c959c759c659c559c459c259c159c059bf59bd59bc59bb59ba59b959b759b659b559b459b259b159b059af59ad59ac59ab59aa59a859a759a659a559a459a259a159a0599f599d599c599b599a59985997599659955994599259915990598f598d598c598b598a59885987598659855983598259815980597f597d597c597b597a59785977597659755973597259715970596f596d596c596b596a59685967596659655963596259615960595f595d595c595b595a59585957595659555953595259515950594f594d594c594b594a59485947594659455943594259415940593f593d593c593b593a5938,
  0x5bb25bb15bb05bae5bad5bac5bab5ba95ba85ba75ba65ba45ba35ba25ba15b9f5b9e5b9d5b9c5b9a5b995b985b975b955b945b935b925b905b8f5b8e5b8d5b8b5b8a5b895b885b865b855b845b835b815b805b7f5b7e5b7c5b7b5b7a5b795b775b765b755b745b725b715b705b6f5b6d5b6c5b6b5b6a5b685b675b665b655b635b625b615b605b5e5b5d5b5c5b5b5b595b585b575b565b545b535b525b515b4f5b4e5b4d5b4c5b4a5b495b485b475b455b445b435b425b405b3f5b3e5b3d5b3b5b3a5b395b385b365b355b345b335b315b305b2f5b2e5b2c5b2b5b2a5b295b285b265b255b245b235b215b205b1f5b1e5b1c5b1b5b1a5b195b175b165b155b145b125b115b105b0f5b0d5b0c5b0b5b0a5b085b075b065b055b035b025b015b005afe5afd5afc5afb5af95af85af75af65af45af35af25af15aef5aee5aed5aec5aeb5ae95ae85ae75ae65ae45ae35ae25ae15adf5ade5add5adc5ada5ad95ad85ad75ad55ad45ad35ad25ad05acf5ace5acd5acb5aca5ac95ac85ac65ac55ac45ac35ac25ac05abf5abe5abd5abb5aba5ab95ab85ab65ab55ab45ab35ab15ab05aaf5aae5aac5aab5aaa5aa95aa75aa65aa55aa45aa25aa15aa05a9f5a9d5a9c5a9b5a9a5a995a975a965a955a945a925a915a905a8f5a8d5a8c5a8b5a8a5a885a875a865a855a835a825a815a805a7e5a7d5a7c5a7b5a7a5a785a775a765a75,
  0x5cf35cf25cf15cef5cee5ced5cec5cea5ce95ce85ce75ce55ce45ce35ce25ce05cdf5cde5cdd5cdb5cda5cd95cd85cd65cd55cd45cd25cd15cd05ccf5ccd5ccc5ccb5cca5cc85cc75cc65cc55cc35cc25cc15cc05cbe5cbd5cbc5cbb5cb95cb85cb75cb65cb45cb35cb25cb15caf5cae5cad5cab5caa5ca95ca85ca65ca55ca45ca35ca15ca05c9f5c9e5c9c5c9b5c9a5c995c975c965c955c945c925c915c905c8f5c8d5c8c5c8b5c8a5c885c875c865c855c835c825c815c805c7e5c7d5c7c5c7a5c795c785c775c755c745c735c725c705c6f5c6e5c6d5c6b5c6a5c695c685c665c655c645c635c615c605c5f5c5e5c5c5c5b5c5a5c595c575c565c555c545c525c515c505c4f5c4d5c4c5c4b5c4a5c485c475c465c445c435c425c415c3f5c3e5c3d5c3c5c3a5c395c385c375c355c345c335c325c305c2f5c2e5c2d5c2b5c2a5c295c285c265c255c245c235c215c205c1f5c1e5c1c5c1b5c1a5c195c175c165c155c145c125c115c105c0f5c0d5c0c5c0b5c0a5c085c075c065c055c035c025c015c005bfe5bfd5bfc5bfb5bf95bf85bf75bf65bf45bf35bf25bf15bef5bee5bed5bec5bea5be95be85be75be55be45be35be25be05bdf5bde5bdd5bdb5bda5bd95bd85bd65bd55bd45bd35bd15bd05bcf5bce5bcc5bcb5bca5bc95bc75bc65bc55bc45bc25bc15bc05bbf5bbd5bbc5bbb5bba5bb85bb75bb65bb55bb3,
  0x5e375e365e345e335e325e315e2f5e2e5e2d5e2c5e2a5e295e285e275e255e245e235e215e205e1f5e1e5e1c5e1b5e1a5e195e175e165e155e135e125e115e105e0e5e0d5e0c5e0b5e095e085e075e065e045e035e025e005dff5dfe5dfd5dfb5dfa5df95df85df65df55df45df35df15df05def5ded5dec5deb5dea5de85de75de65de55de35de25de15de05dde5ddd5ddc5dda5dd95dd85dd75dd55dd45dd35dd25dd05dcf5dce5dcc5dcb5dca5dc95dc75dc65dc55dc45dc25dc15dc05dbf5dbd5dbc5dbb5dba5db85db75db65db45db35db25db15daf5dae5dad5dac5daa5da95da85da75da55da45da35da15da05d9f5d9e5d9c5d9b5d9a5d995d975d965d955d945d925d915d905d8e5d8d5d8c5d8b5d895d885d875d865d845d835d825d815d7f5d7e5d7d5d7c5d7a5d795d785d765d755d745d735d715d705d6f5d6e5d6c5d6b5d6a5d695d675d665d655d645d625d615d605d5e5d5d5d5c5d5b5d595d585d575d565d545d535d525d515d4f5d4e5d4d5d4c5d4a5d495d485d465d455d445d435d415d405d3f5d3e5d3c5d3b5d3a5d395d375d365d355d345d325d315d305d2e5d2d5d2c5d2b5d295d285d275d265d245d235d225d215d1f5d1e5d1d5d1c5d1a5d195d185d175d155d145d135d115d105d0f5d0e5d0c5d0b5d0a5d095d075d065d055d045d025d015d005cff5cfd5cfc5cfb5cfa5cf85cf75cf65cf4,
  0x5f7d5f7c5f7b5f7a5f785f775f765f745f735f725f715f6f5f6e5f6d5f6b5f6a5f695f685f665f655f645f625f615f605f5f5f5d5f5c5f5b5f5a5f585f575f565f545f535f525f515f4f5f4e5f4d5f4b5f4a5f495f485f465f455f445f435f415f405f3f5f3d5f3c5f3b5f3a5f385f375f365f345f335f325f315f2f5f2e5f2d5f2c5f2a5f295f285f265f255f245f235f215f205f1f5f1d5f1c5f1b5f1a5f185f175f165f155f135f125f115f0f5f0e5f0d5f0c5f0a5f095f085f075f055f045f035f015f005eff5efe5efc5efb5efa5ef85ef75ef65ef55ef35ef25ef15ef05eee5eed5eec5eea5ee95ee85ee75ee55ee45ee35ee25ee05edf5ede5edc5edb5eda5ed95ed75ed65ed55ed35ed25ed15ed05ece5ecd5ecc5ecb5ec95ec85ec75ec55ec45ec35ec25ec05ebf5ebe5ebd5ebb5eba5eb95eb75eb65eb55eb45eb25eb15eb05eaf5ead5eac5eab5ea95ea85ea75ea65ea45ea35ea25ea15e9f5e9e5e9d5e9b5e9a5e995e985e965e955e945e935e915e905e8f5e8d5e8c5e8b5e8a5e885e875e865e855e835e825e815e7f5e7e5e7d5e7c5e7a5e795e785e775e755e745e735e715e705e6f5e6e5e6c5e6b5e6a5e695e675e665e655e635e625e615e605e5e5e5d5e5c5e5b5e595e585e575e565e545e535e525e505e4f5e4e5e4d5e4b5e4a5e495e485e465e455e445e425e415e405e3f5e3d5e3c5e3b5e3a5e38,
  0x60c660c560c460c260c160c060bf60bd60bc60bb60b960b860b760b660b460b360b260b060af60ae60ac60ab60aa60a960a760a660a560a360a260a160a0609e609d609c609a60996098609760956094609360916090608f608e608c608b608a6088608760866085608360826081607f607e607d607c607a60796078607660756074607360716070606f606d606c606b60696068606760666064606360626060605f605e605d605b605a60596057605660556054605260516050604e604d604c604b60496048604760456044604360426040603f603e603c603b603a60396037603660356033603260316030602e602d602c602a60296028602760256024602360216020601f601e601c601b601a60186017601660156013601260116010600e600d600c600a600960086007600560046003600160005fff5ffe5ffc5ffb5ffa5ff85ff75ff65ff55ff35ff25ff15fef5fee5fed5fec5fea5fe95fe85fe65fe55fe45fe35fe15fe05fdf5fdd5fdc5fdb5fda5fd85fd75fd65fd45fd35fd25fd15fcf5fce5fcd5fcb5fca5fc95fc85fc65fc55fc45fc35fc15fc05fbf5fbd5fbc5fbb5fba5fb85fb75fb65fb45fb35fb25fb15faf5fae5fad5fab5faa5fa95fa85fa65fa55fa45fa25fa15fa05f9f5f9d5f9c5f9b5f9a5f985f975f965f945f935f925f915f8f5f8e5f8d5f8b5f8a5f895f885f865f855f845f825f815f805f7f,
  0x62126210620f620e620d620b620a6209620762066205620362026201620061fe61fd61fc61fa61f961f861f661f561f461f361f161f061ef61ed61ec61eb61e961e861e761e661e461e361e261e061df61de61dc61db61da61d961d761d661d561d361d261d161cf61ce61cd61cc61ca61c961c861c661c561c461c361c161c061bf61bd61bc61bb61b961b861b761b661b461b361b261b061af61ae61ac61ab61aa61a961a761a661a561a361a261a161a0619e619d619c619a61996198619661956194619361916190618f618d618c618b61896188618761866184618361826180617f617e617d617b617a61796177617661756173617261716170616e616d616c616a61696168616661656164616361616160615f615d615c615b615a6158615761566154615361526150614f614e614d614b614a61496147614661456144614261416140613e613d613c613a61396138613761356134613361316130612f612e612c612b612a6128612761266125612361226121611f611e611d611b611a61196118611661156114611261116110610f610d610c610b6109610861076106610461036102610060ff60fe60fc60fb60fa60f960f760f660f560f360f260f160f060ee60ed60ec60ea60e960e860e760e560e460e360e160e060df60dd60dc60db60da60d860d760d660d460d360d260d160cf60ce60cd60cb60ca60c960c8,
  0x6360635e635d635c635b63596358635763556354635363516350634f634d634c634b634a6348634763466344634363426340633f633e633c633b633a6338633763366335633363326331632f632e632d632b632a63296327632663256324632263216320631e631d631c631a63196318631663156314631363116310630f630d630c630b6309630863076305630463036302630062ff62fe62fc62fb62fa62f862f762f662f462f362f262f162ef62ee62ed62eb62ea62e962e762e662e562e462e262e162e062de62dd62dc62da62d962d862d662d562d462d362d162d062cf62cd62cc62cb62c962c862c762c562c462c362c262c062bf62be62bc62bb62ba62b862b762b662b562b362b262b162af62ae62ad62ab62aa62a962a762a662a562a462a262a162a0629e629d629c629a62996298629762956294629362916290628f628d628c628b62896288628762866284628362826280627f627e627c627b627a6279627762766275627362726271626f626e626d626c626a62696268626662656264626262616260625e625d625c625b62596258625762556254625362516250624f624e624c624b624a6248624762466244624362426241623f623e623d623b623a62396237623662356234623262316230622e622d622c622a62296228622762256224622362216220621f621d621c621b621a62186217621662146213,
  0x64b064af64ae64ac64ab64aa64a864a764a664a564a364a264a1649f649e649d649b649a6499649764966495649364926491648f648e648d648b648a64896487648664856484648264816480647e647d647c647a64796478647664756474647264716470646e646d646c646a64696468646764656464646364616460645f645d645c645b64596458645764556454645364516450644f644e644c644b644a6448644764466444644364426440643f643e643c643b643a6438643764366434643364326431642f642e642d642b642a6429642764266425642364226421641f641e641d641b641a64196418641664156414641264116410640e640d640c640a6409640864066405640464026401640063ff63fd63fc63fb63f963f863f763f563f463f363f163f063ef63ed63ec63eb63ea63e863e763e663e463e363e263e063df63de63dc63db63da63d863d763d663d563d363d263d163cf63ce63cd63cb63ca63c963c763c663c563c363c263c163bf63be63bd63bc63ba63b963b863b663b563b463b263b163b063ae63ad63ac63ab63a963a863a763a563a463a363a163a0639f639d639c639b63996398639763966394639363926390638f638e638c638b638a6388638763866384638363826381637f637e637d637b637a6379637763766375637363726371636f636e636d636c636a6369636863666365636463626361,
  0x660466026601660065fe65fd65fc65fa65f965f865f665f565f465f265f165f065ee65ed65ec65ea65e965e865e665e565e465e265e165e065de65dd65dc65da65d965d865d665d565d465d265d165d065ce65cd65cc65ca65c965c865c665c565c465c265c165c065be65bd65bc65bb65b965b865b765b565b465b365b165b065af65ad65ac65ab65a965a865a765a565a465a365a165a0659f659d659c659b65996598659765956594659365916590658f658d658c658b65896588658765856584658365816580657f657d657c657b65796578657765766574657365726570656f656e656c656b656a6568656765666564656365626560655f655e655c655b655a6558655765566554655365526550654f654e654c654b654a6548654765466544654365426541653f653e653d653b653a6539653765366535653365326531652f652e652d652b652a6529652765266525652365226521651f651e651d651b651a65196517651665156514651265116510650e650d650c650a6509650865066505650465026501650064fe64fd64fc64fa64f964f864f664f564f464f264f164f064ee64ed64ec64eb64e964e864e764e564e464e364e164e064df64dd64dc64db64d964d864d764d564d464d364d164d064cf64cd64cc64cb64c964c864c764c664c464c364c264c064bf64be64bc64bb64ba64b864b764b664b464b364b2,
  0x67596758675767556754675367516750674f674d674c674b67496748674767456744674367416740673f673d673c673b67396738673767356734673367316730672f672d672c672b67296728672667256724672267216720671e671d671c671a67196718671667156714671267116710670e670d670c670a6709670867066705670467026701670066fe66fd66fc66fa66f966f866f666f566f466f266f166f066ee66ed66ec66ea66e966e866e666e566e466e266e166e066de66dd66dc66da66d966d866d666d566d466d266d166d066ce66cd66cc66ca66c966c866c666c566c466c266c166c066be66bd66bc66ba66b966b866b666b566b466b266b166b066ae66ad66ab66aa66a966a766a666a566a366a266a1669f669e669d669b669a6699669766966695669366926691668f668e668d668b668a6689668766866685668366826681667f667e667d667b667a6679667766766675667366726671666f666e666d666b666a6669666766666665666366626661665f665e665d665b665a6659665766566655665366526651664f664e664d664b664a6649664766466645664366426641663f663e663d663b663a66396638663666356634663266316630662e662d662c662a66296628662666256624662266216620661e661d661c661a66196618661666156614661266116610660e660d660c660a6609660866066605,
  0x68b268b068af68ae68ac68ab68aa68a868a768a668a468a368a268a0689f689e689c689b68996898689768956894689368916890688f688d688c688b68896888688768856884688368816880687e687d687c687a68796878687668756874687268716870686e686d686c686a6869686868666865686468626861685f685e685d685b685a6859685768566855685368526851684f684e684d684b684a6849684768466845684368426840683f683e683c683b683a6838683768366834683368326830682f682e682c682b682a6828682768266824682368226820681f681d681c681b68196818681768156814681368116810680f680d680c680b6809680868076805680468036801680067ff67fd67fc67fa67f967f867f667f567f467f267f167f067ee67ed67ec67ea67e967e867e667e567e467e267e167e067de67dd67dc67da67d967d867d667d567d467d267d167cf67ce67cd67cb67ca67c967c767c667c567c367c267c167bf67be67bd67bb67ba67b967b767b667b567b367b267b167af67ae67ad67ab67aa67a967a767a667a567a367a267a0679f679e679c679b679a6798679767966794679367926790678f678e678c678b678a6788678767866784678367826780677f677e677c677b677a6778677767766774677367726770676f676d676c676b67696768676767656764676367616760675f675d675c675b,
  0x6a0d6a0b6a0a6a096a076a066a056a036a026a0169ff69fe69fc69fb69fa69f869f769f669f469f369f269f069ef69ed69ec69eb69e969e869e769e569e469e369e169e069df69dd69dc69da69d969d869d669d569d469d269d169d069ce69cd69cc69ca69c969c769c669c569c369c269c169bf69be69bd69bb69ba69b869b769b669b469b369b269b069af69ae69ac69ab69aa69a869a769a569a469a369a169a0699f699d699c699b69996998699769956994699269916990698e698d698c698a6989698869866985698469826981697f697e697d697b697a6979697769766975697369726971696f696e696d696b696a6968696769666964696369626960695f695e695c695b695a6958695769556954695369516950694f694d694c694b69496948694769456944694269416940693e693d693c693a69396938693669356934693269316930692e692d692b692a6929692769266925692369226921691f691e691d691b691a6919691769166914691369126910690f690e690c690b690a690869076906690469036902690068ff68fd68fc68fb68f968f868f768f568f468f368f168f068ef68ed68ec68eb68e968e868e668e568e468e268e168e068de68dd68dc68da68d968d868d668d568d468d268d168cf68ce68cd68cb68ca68c968c768c668c568c368c268c168bf68be68bd68bb68ba68b968b768b668b468b3,
  0x6b6a6b696b686b666b656b646b626b616b5f6b5e6b5d6b5b6b5a6b596b576b566b546b536b526b506b4f6b4e6b4c6b4b6b496b486b476b456b446b436b416b406b3f6b3d6b3c6b3a6b396b386b366b356b346b326b316b2f6b2e6b2d6b2b6b2a6b296b276b266b256b236b226b206b1f6b1e6b1c6b1b6b1a6b186b176b156b146b136b116b106b0f6b0d6b0c6b0b6b096b086b066b056b046b026b016b006afe6afd6afb6afa6af96af76af66af56af36af26af16aef6aee6aec6aeb6aea6ae86ae76ae66ae46ae36ae16ae06adf6add6adc6adb6ad96ad86ad76ad56ad46ad26ad16ad06ace6acd6acc6aca6ac96ac86ac66ac56ac36ac26ac16abf6abe6abd6abb6aba6ab96ab76ab66ab46ab36ab26ab06aaf6aae6aac6aab6aa96aa86aa76aa56aa46aa36aa16aa06a9f6a9d6a9c6a9a6a996a986a966a956a946a926a916a906a8e6a8d6a8b6a8a6a896a876a866a856a836a826a816a7f6a7e6a7c6a7b6a7a6a786a776a766a746a736a726a706a6f6a6d6a6c6a6b6a696a686a676a656a646a636a616a606a5e6a5d6a5c6a5a6a596a586a566a556a546a526a516a4f6a4e6a4d6a4b6a4a6a496a476a466a456a436a426a406a3f6a3e6a3c6a3b6a3a6a386a376a366a346a336a326a306a2f6a2d6a2c6a2b6a296a286a276a256a246a236a216a206a1e6a1d6a1c6a1a6a196a186a166a156a146a126a116a0f6a0e,
  0x6ccb6cc96cc86cc66cc56cc46cc26cc16cc06cbe6cbd6cbb6cba6cb96cb76cb66cb46cb36cb26cb06caf6cae6cac6cab6ca96ca86ca76ca56ca46ca36ca16ca06c9e6c9d6c9c6c9a6c996c986c966c956c936c926c916c8f6c8e6c8c6c8b6c8a6c886c876c866c846c836c816c806c7f6c7d6c7c6c7b6c796c786c766c756c746c726c716c706c6e6c6d6c6b6c6a6c696c676c666c646c636c626c606c5f6c5e6c5c6c5b6c596c586c576c556c546c536c516c506c4e6c4d6c4c6c4a6c496c486c466c456c436c426c416c3f6c3e6c3d6c3b6c3a6c386c376c366c346c336c326c306c2f6c2d6c2c6c2b6c296c286c276c256c246c226c216c206c1e6c1d6c1c6c1a6c196c176c166c156c136c126c116c0f6c0e6c0c6c0b6c0a6c086c076c066c046c036c016c006bff6bfd6bfc6bfb6bf96bf86bf66bf56bf46bf26bf16bf06bee6bed6beb6bea6be96be76be66be56be36be26be06bdf6bde6bdc6bdb6bda6bd86bd76bd56bd46bd36bd16bd06bcf6bcd6bcc6bca6bc96bc86bc66bc56bc46bc26bc16bbf6bbe6bbd6bbb6bba6bb96bb76bb66bb46bb36bb26bb06baf6bae6bac6bab6ba96ba86ba76ba56ba46ba36ba16ba06b9e6b9d6b9c6b9a6b996b986b966b956b946b926b916b8f6b8e6b8d6b8b6b8a6b896b876b866b846b836b826b806b7f6b7e6b7c6b7b6b796b786b776b756b746b736b716b706b6e6b6d6b6c,
  0x6e2d6e2c6e2b6e296e286e266e256e246e226e216e1f6e1e6e1d6e1b6e1a6e196e176e166e146e136e126e106e0f6e0d6e0c6e0b6e096e086e066e056e046e026e016e006dfe6dfd6dfb6dfa6df96df76df66df46df36df26df06def6ded6dec6deb6de96de86de76de56de46de26de16de06dde6ddd6ddb6dda6dd96dd76dd66dd46dd36dd26dd06dcf6dce6dcc6dcb6dc96dc86dc76dc56dc46dc26dc16dc06dbe6dbd6dbb6dba6db96db76db66db56db36db26db06daf6dae6dac6dab6da96da86da76da56da46da26da16da06d9e6d9d6d9c6d9a6d996d976d966d956d936d926d906d8f6d8e6d8c6d8b6d8a6d886d876d856d846d836d816d806d7e6d7d6d7c6d7a6d796d786d766d756d736d726d716d6f6d6e6d6c6d6b6d6a6d686d676d656d646d636d616d606d5f6d5d6d5c6d5a6d596d586d566d556d536d526d516d4f6d4e6d4d6d4b6d4a6d486d476d466d446d436d416d406d3f6d3d6d3c6d3b6d396d386d366d356d346d326d316d2f6d2e6d2d6d2b6d2a6d296d276d266d246d236d226d206d1f6d1d6d1c6d1b6d196d186d176d156d146d126d116d106d0e6d0d6d0c6d0a6d096d076d066d056d036d026d006cff6cfe6cfc6cfb6cfa6cf86cf76cf56cf46cf36cf16cf06cee6ced6cec6cea6ce96ce86ce66ce56ce36ce26ce16cdf6cde6cdd6cdb6cda6cd86cd76cd66cd46cd36cd16cd06ccf6ccd6ccc,
  0x6f936f916f906f8f6f8d6f8c6f8a6f896f886f866f856f836f826f816f7f6f7e6f7c6f7b6f7a6f786f776f756f746f736f716f706f6e6f6d6f6c6f6a6f696f676f666f656f636f626f606f5f6f5e6f5c6f5b6f596f586f576f556f546f526f516f506f4e6f4d6f4b6f4a6f496f476f466f446f436f426f406f3f6f3d6f3c6f3b6f396f386f366f356f346f326f316f2f6f2e6f2d6f2b6f2a6f286f276f266f246f236f216f206f1f6f1d6f1c6f1a6f196f186f166f156f136f126f116f0f6f0e6f0d6f0b6f0a6f086f076f066f046f036f016f006eff6efd6efc6efa6ef96ef86ef66ef56ef36ef26ef16eef6eee6eec6eeb6eea6ee86ee76ee56ee46ee36ee16ee06ede6edd6edc6eda6ed96ed76ed66ed56ed36ed26ed06ecf6ece6ecc6ecb6ec96ec86ec76ec56ec46ec26ec16ec06ebe6ebd6ebc6eba6eb96eb76eb66eb56eb36eb26eb06eaf6eae6eac6eab6ea96ea86ea76ea56ea46ea26ea16ea06e9e6e9d6e9b6e9a6e996e976e966e946e936e926e906e8f6e8d6e8c6e8b6e896e886e876e856e846e826e816e806e7e6e7d6e7b6e7a6e796e776e766e746e736e726e706e6f6e6d6e6c6e6b6e696e686e666e656e646e626e616e606e5e6e5d6e5b6e5a6e596e576e566e546e536e526e506e4f6e4d6e4c6e4b6e496e486e466e456e446e426e416e3f6e3e6e3d6e3b6e3a6e396e376e366e346e336e326e306e2f,
  0x70fb70fa70f870f770f570f470f270f170f070ee70ed70eb70ea70e970e770e670e470e370e270e070df70dd70dc70da70d970d870d670d570d370d270d170cf70ce70cc70cb70ca70c870c770c570c470c270c170c070be70bd70bb70ba70b970b770b670b470b370b270b070af70ad70ac70ab70a970a870a670a570a370a270a1709f709e709c709b709a7098709770957094709370917090708e708d708c708a7089708770867084708370827080707f707d707c707b7079707870767075707470727071706f706e706d706b706a7068706770667064706370617060705e705d705c705a7059705770567055705370527050704f704e704c704b70497048704770457044704270417040703e703d703b703a7038703770367034703370317030702f702d702c702a7029702870267025702370227021701f701e701c701b701a7018701770157014701370117010700e700d700c700a70097007700670047003700270006fff6ffd6ffc6ffb6ff96ff86ff66ff56ff46ff26ff16fef6fee6fed6feb6fea6fe86fe76fe66fe46fe36fe16fe06fdf6fdd6fdc6fda6fd96fd86fd66fd56fd36fd26fd16fcf6fce6fcc6fcb6fca6fc86fc76fc56fc46fc36fc16fc06fbe6fbd6fbc6fba6fb96fb76fb66fb46fb36fb26fb06faf6fad6fac6fab6fa96fa86fa66fa56fa46fa26fa16f9f6f9e6f9d6f9b6f9a6f986f976f966f94,
  0x72667264726372617260725f725d725c725a7259725772567255725372527250724f724d724c724b7249724872467245724472427241723f723e723c723b723a7238723772357234723272317230722e722d722b722a7229722772267224722372217220721f721d721c721a7219721772167215721372127210720f720e720c720b720972087206720572047202720171ff71fe71fd71fb71fa71f871f771f571f471f371f171f071ee71ed71eb71ea71e971e771e671e471e371e271e071df71dd71dc71da71d971d871d671d571d371d271d171cf71ce71cc71cb71c971c871c771c571c471c271c171c071be71bd71bb71ba71b871b771b671b471b371b171b071af71ad71ac71aa71a971a771a671a571a371a271a0719f719e719c719b7199719871967195719471927191718f718e718d718b718a7188718771857184718371817180717e717d717c717a7179717771767174717371727170716f716d716c716b7169716871667165716471627161715f715e715c715b715a7158715771557154715371517150714e714d714b714a7149714771467144714371427140713f713d713c713a7139713871367135713371327131712f712e712c712b712a7128712771257124712271217120711e711d711b711a7119711771167114711371127110710f710d710c710a710971087106710571037102710170ff70fe70fc,
  0x73d373d273d073cf73cd73cc73ca73c973c873c673c573c373c273c073bf73be73bc73bb73b973b873b673b573b373b273b173af73ae73ac73ab73a973a873a773a573a473a273a1739f739e739d739b739a7398739773957394739373917390738e738d738b738a7389738773867384738373817380737f737d737c737a7379737773767375737373727370736f736d736c736b7369736873667365736373627361735f735e735c735b7359735873577355735473527351734f734e734d734b734a7348734773457344734373417340733e733d733b733a7339733773367334733373317330732f732d732c732a7329732773267325732373227320731f731d731c731b7319731873167315731373127311730f730e730c730b730973087307730573047302730172ff72fe72fd72fb72fa72f872f772f572f472f372f172f072ee72ed72eb72ea72e972e772e672e472e372e172e072df72dd72dc72da72d972d872d672d572d372d272d072cf72ce72cc72cb72c972c872c672c572c472c272c172bf72be72bc72bb72ba72b872b772b572b472b272b172b072ae72ad72ab72aa72a972a772a672a472a372a172a0729f729d729c729a7299729772967295729372927290728f728d728c728b7289728872867285728472827281727f727e727c727b727a7278727772757274727272717270726e726d726b726a72687267,
  0x754375427540753f753d753c753a7539753775367535753375327530752f752d752c752a7529752875267525752375227520751f751d751c751b7519751875167515751375127511750f750e750c750b750975087506750575047502750174ff74fe74fc74fb74f974f874f774f574f474f274f174ef74ee74ed74eb74ea74e874e774e574e474e274e174e074de74dd74db74da74d874d774d574d474d374d174d074ce74cd74cb74ca74c974c774c674c474c374c174c074be74bd74bc74ba74b974b774b674b474b374b174b074af74ad74ac74aa74a974a774a674a574a374a274a0749f749d749c749a7499749874967495749374927490748f748e748c748b7489748874867485748374827481747f747e747c747b7479747874777475747474727471746f746e746c746b746a7468746774657464746274617460745e745d745b745a7458745774557454745374517450744e744d744b744a7449744774467444744374417440743f743d743c743a7439743774367434743374327430742f742d742c742a7429742874267425742374227420741f741e741c741b7419741874167415741374127411740f740e740c740b740974087407740574047402740173ff73fe73fd73fb73fa73f873f773f573f473f373f173f073ee73ed73eb73ea73e873e773e673e473e373e173e073de73dd73dc73da73d973d773d673d4,
  0x76b676b476b376b176b076ae76ad76ab76aa76a976a776a676a476a376a176a0769e769d769b769a7699769776967694769376917690768e768d768c768a7689768776867684768376817680767e767d767c767a7679767776767674767376717670766e766d766c766a7669766776667664766376617660765f765d765c765a7659765776567654765376517650764f764d764c764a7649764776467644764376427640763f763d763c763a7639763776367634763376327630762f762d762c762a7629762776267625762376227620761f761d761c761a7619761776167615761376127610760f760d760c760a760976087606760576037602760075ff75fd75fc75fb75f975f875f675f575f375f275f075ef75ed75ec75eb75e975e875e675e575e375e275e075df75de75dc75db75d975d875d675d575d375d275d175cf75ce75cc75cb75c975c875c675c575c475c275c175bf75be75bc75bb75b975b875b775b575b475b275b175af75ae75ac75ab75aa75a875a775a575a475a275a1759f759e759d759b759a7598759775957594759275917590758e758d758b758a7588758775857584758375817580757e757d757b757a7578757775767574757375717570756e756d756b756a7569756775667564756375617560755e755d755c755a7559755775567554755375517550754f754d754c754a7549754775467544,
  0x782b7829782878277825782478227821781f781e781c781b7819781878167815781478127811780f780e780c780b780978087806780578037802780177ff77fe77fc77fb77f977f877f677f577f377f277f077ef77ee77ec77eb77e977e877e677e577e377e277e077df77dd77dc77db77d977d877d677d577d377d277d077cf77cd77cc77ca77c977c877c677c577c377c277c077bf77bd77bc77ba77b977b777b677b577b377b277b077af77ad77ac77aa77a977a777a677a477a377a277a0779f779d779c779a7799779777967794779377927790778f778d778c778a7789778777867784778377817780777f777d777c777a7779777777767774777377717770776e776d776c776a7769776777667764776377617760775e775d775c775a7759775777567754775377517750774e774d774c774a7749774777467744774377417740773e773d773b773a7739773777367734773377317730772e772d772b772a7729772777267724772377217720771e771d771b771a7719771777167714771377117710770e770d770b770a770977077706770477037701770076fe76fd76fb76fa76f976f776f676f476f376f176f076ee76ed76eb76ea76e976e776e676e476e376e176e076de76dd76db76da76d976d776d676d476d376d176d076ce76cd76cb76ca76c976c776c676c476c376c176c076be76bd76bb76ba76b976b7,
  0x79a379a179a0799e799d799c799a7999799779967994799379917990798e798d798b798a7988798779857984798279817980797e797d797b797a797879777975797479727971796f796e796c796b7969796879677965796479627961795f795e795c795b7959795879567955795379527950794f794d794c794b7949794879467945794379427940793f793d793c793a7939793779367934793379327930792f792d792c792a7929792779267924792379217920791e791d791b791a7919791779167914791379117910790e790d790b790a790879077905790479027901790078fe78fd78fb78fa78f878f778f578f478f278f178ef78ee78ec78eb78ea78e878e778e578e478e278e178df78de78dc78db78d978d878d678d578d378d278d178cf78ce78cc78cb78c978c878c678c578c378c278c078bf78bd78bc78bb78b978b878b678b578b378b278b078af78ad78ac78aa78a978a778a678a578a378a278a0789f789d789c789a7899789778967894789378917890788f788d788c788a7889788778867884788378817880787e787d787b787a7879787778767874787378717870786e786d786b786a7868786778667864786378617860785e785d785b785a7858785778557854785278517850784e784d784b784a784878477845784478427841783f783e783d783b783a783878377835783478327831782f782e782c,
  0x7b1e7b1c7b1b7b197b187b167b157b137b127b107b0f7b0d7b0c7b0a7b097b077b067b047b037b017b007afe7afd7afb7afa7af87af77af57af47af37af17af07aee7aed7aeb7aea7ae87ae77ae57ae47ae27ae17adf7ade7adc7adb7ad97ad87ad67ad57ad37ad27ad07acf7acd7acc7aca7ac97ac87ac67ac57ac37ac27ac07abf7abd7abc7aba7ab97ab77ab67ab47ab37ab17ab07aae7aad7aab7aaa7aa87aa77aa57aa47aa27aa17aa07a9e7a9d7a9b7a9a7a987a977a957a947a927a917a8f7a8e7a8c7a8b7a897a887a867a857a837a827a807a7f7a7d7a7c7a7b7a797a787a767a757a737a727a707a6f7a6d7a6c7a6a7a697a677a667a647a637a617a607a5e7a5d7a5b7a5a7a587a577a567a547a537a517a507a4e7a4d7a4b7a4a7a487a477a457a447a427a417a3f7a3e7a3c7a3b7a397a387a367a357a347a327a317a2f7a2e7a2c7a2b7a297a287a267a257a237a227a207a1f7a1d7a1c7a1a7a197a177a167a157a137a127a107a0f7a0d7a0c7a0a7a097a077a067a047a037a017a0079fe79fd79fb79fa79f879f779f579f479f379f179f079ee79ed79eb79ea79e879e779e579e479e279e179df79de79dc79db79d979d879d779d579d479d279d179cf79ce79cc79cb79c979c879c679c579c379c279c079bf79bd79bc79ba79b979b879b679b579b379b279b079af79ad79ac79aa79a979a779a679a4,
  0x7c9b7c997c987c967c957c937c927c907c8f7c8d7c8c7c8a7c897c877c867c847c837c817c807c7e7c7d7c7b7c7a7c787c777c757c747c727c717c707c6e7c6d7c6b7c6a7c687c677c657c647c627c617c5f7c5e7c5c7c5b7c597c587c567c557c537c527c507c4f7c4d7c4c7c4a7c497c477c467c447c437c417c407c3e7c3d7c3b7c3a7c387c377c357c347c327c317c2f7c2e7c2c7c2b7c297c287c267c257c237c227c207c1f7c1d7c1c7c1a7c197c177c167c147c137c117c107c0f7c0d7c0c7c0a7c097c077c067c047c037c017c007bfe7bfd7bfb7bfa7bf87bf77bf57bf47bf27bf17bef7bee7bec7beb7be97be87be67be57be37be27be07bdf7bdd7bdc7bda7bd97bd77bd67bd47bd37bd17bd07bce7bcd7bcb7bca7bc87bc77bc67bc47bc37bc17bc07bbe7bbd7bbb7bba7bb87bb77bb57bb47bb27bb17baf7bae7bac7bab7ba97ba87ba67ba57ba37ba27ba07b9f7b9d7b9c7b9a7b997b977b967b947b937b917b907b8e7b8d7b8b7b8a7b897b877b867b847b837b817b807b7e7b7d7b7b7b7a7b787b777b757b747b727b717b6f7b6e7b6c7b6b7b697b687b667b657b637b627b607b5f7b5d7b5c7b5a7b597b577b567b547b537b527b507b4f7b4d7b4c7b4a7b497b477b467b447b437b417b407b3e7b3d7b3b7b3a7b387b377b357b347b327b317b2f7b2e7b2c7b2b7b297b287b267b257b237b227b207b1f,
  0x7e1b7e197e187e167e157e137e127e107e0f7e0d7e0c7e0a7e097e077e067e047e037e017e007dfe7dfd7dfb7dfa7df87df77df57df47df27df17def7dee7dec7deb7de97de87de67de57de37de27de07ddf7ddd7ddc7dda7dd97dd77dd67dd47dd37dd17dd07dce7dcd7dcb7dca7dc87dc77dc57dc47dc27dc17dbf7dbe7dbc7dbb7db97db87db67db57db37db27db07daf7dad7dac7daa7da97da77da67da47da37da17da07d9e7d9d7d9b7d9a7d987d977d957d947d927d917d8f7d8e7d8c7d8b7d897d887d867d857d837d827d807d7f7d7d7d7b7d7a7d787d777d757d747d727d717d6f7d6e7d6c7d6b7d697d687d667d657d637d627d607d5f7d5d7d5c7d5a7d597d577d567d547d537d517d507d4e7d4d7d4b7d4a7d487d477d457d447d427d417d3f7d3e7d3c7d3b7d3a7d387d377d357d347d327d317d2f7d2e7d2c7d2b7d297d287d267d257d237d227d207d1f7d1d7d1c7d1a7d197d177d167d147d137d117d107d0e7d0d7d0b7d0a7d087d077d057d047d027d017cff7cfe7cfc7cfb7cf97cf87cf67cf57cf37cf27cf07cef7ced7cec7cea7ce97ce77ce67ce47ce37ce17ce07cde7cdd7cdb7cda7cd87cd77cd57cd47cd27cd17ccf7cce7ccc7ccb7cc97cc87cc67cc57cc37cc27cc07cbf7cbd7cbc7cba7cb97cb77cb67cb47cb37cb17cb07cae7cad7cab7caa7ca87ca77ca57ca47ca27ca17c9f7c9e7c9c,
  0x7f9d7f9c7f9a7f997f977f967f947f937f917f907f8e7f8d7f8b7f8a7f887f877f857f847f827f817f7f7f7e7f7c7f7b7f797f787f767f757f737f727f707f6f7f6d7f6b7f6a7f687f677f657f647f627f617f5f7f5e7f5c7f5b7f597f587f567f557f537f527f507f4f7f4d7f4c7f4a7f497f477f467f447f437f417f407f3e7f3d7f3b7f3a7f387f377f357f337f327f307f2f7f2d7f2c7f2a7f297f277f267f247f237f217f207f1e7f1d7f1b7f1a7f187f177f157f147f127f117f0f7f0e7f0c7f0b7f097f087f067f057f037f027f007eff7efd7efc7efa7ef97ef77ef57ef47ef27ef17eef7eee7eec7eeb7ee97ee87ee67ee57ee37ee27ee07edf7edd7edc7eda7ed97ed77ed67ed47ed37ed17ed07ece7ecd7ecb7eca7ec87ec77ec57ec47ec27ec17ebf7ebe7ebc7ebb7eb97eb87eb67eb57eb37eb27eb07eaf7ead7eab7eaa7ea87ea77ea57ea47ea27ea17e9f7e9e7e9c7e9b7e997e987e967e957e937e927e907e8f7e8d7e8c7e8a7e897e877e867e847e837e817e807e7e7e7d7e7b7e7a7e787e777e757e747e727e717e6f7e6e7e6c7e6b7e697e687e667e657e637e627e607e5f7e5d7e5c7e5a7e597e577e567e547e537e517e507e4e7e4d7e4b7e497e487e467e457e437e427e407e3f7e3d7e3c7e3a7e397e377e367e347e337e317e307e2e7e2d7e2b7e2a7e287e277e257e247e227e217e1f7e1e7e1c,
  0x812381218120811e811d811b811a811881178115811481128111810f810d810c810a810981078106810481038101810080fe80fd80fb80fa80f880f780f580f480f280f080ef80ed80ec80ea80e980e780e680e480e380e180e080de80dd80db80da80d880d780d580d480d280d080cf80cd80cc80ca80c980c780c680c480c380c180c080be80bd80bb80ba80b880b780b580b480b280b080af80ad80ac80aa80a980a780a680a480a380a180a0809e809d809b809a809880978095809480928091808f808d808c808a8089808780868084808380818080807e807d807b807a807880778075807480728071806f806e806c806a8069806780668064806380618060805e805d805b805a805880578055805480528051804f804e804c804b8049804780468044804380418040803e803d803b803a803880378035803480328031802f802e802c802b8029802880268025802380218020801e801d801b801a801880178015801480128011800f800e800c800b80098008800680058003800280007fff7ffd7ffc7ffa7ff87ff77ff57ff47ff27ff17fef7fee7fec7feb7fe97fe87fe67fe57fe37fe27fe07fdf7fdd7fdc7fda7fd97fd77fd67fd47fd37fd17fd07fce7fcc7fcb7fc97fc87fc67fc57fc37fc27fc07fbf7fbd7fbc7fba7fb97fb77fb67fb47fb37fb17fb07fae7fad7fab7faa7fa87fa77fa57fa47fa27fa17f9f,
  0x82ab82a982a882a682a582a382a282a0829f829d829c829a829882978295829482928291828f828e828c828b8289828882868284828382818280827e827d827b827a827882778275827482728271826f826d826c826a8269826782668264826382618260825e825d825b8259825882568255825382528250824f824d824c824a824982478246824482428241823f823e823c823b8239823882368235823382328230822f822d822b822a822882278225822482228221821f821e821c821b8219821882168214821382118210820e820d820b820a82088207820582048202820181ff81fd81fc81fa81f981f781f681f481f381f181f081ee81ed81eb81ea81e881e781e581e381e281e081df81dd81dc81da81d981d781d681d481d381d181d081ce81cc81cb81c981c881c681c581c381c281c081bf81bd81bc81ba81b981b781b681b481b281b181af81ae81ac81ab81a981a881a681a581a381a281a0819f819d819c819a819881978195819481928191818f818e818c818b8189818881868185818381828180817e817d817b817a817881778175817481728171816f816e816c816b8169816881668164816381618160815e815d815b815a815881578155815481528151814f814e814c814b8149814781468144814381418140813e813d813b813a813881378135813481328131812f812e812c812a8129812781268124,
  0x8436843484338431842f842e842c842b8429842884268425842384228420841e841d841b841a841884178415841484128410840f840d840c840a84098407840684048403840183ff83fe83fc83fb83f983f883f683f583f383f283f083ee83ed83eb83ea83e883e783e583e483e283e183df83dd83dc83da83d983d783d683d483d383d183d083ce83cd83cb83c983c883c683c583c383c283c083bf83bd83bc83ba83b883b783b583b483b283b183af83ae83ac83ab83a983a783a683a483a383a183a0839e839d839b839a839883968395839383928390838f838d838c838a838983878386838483828381837f837e837c837b8379837883768375837383718370836e836d836b836a836883678365836483628360835f835d835c835a8359835783568354835383518350834e834c834b8349834883468345834383428340833f833d833c833a833883378335833483328331832f832e832c832b8329832783268324832383218320831e831d831b831a831883178315831383128310830f830d830c830a83098307830683048303830182ff82fe82fc82fb82f982f882f682f582f382f282f082ef82ed82eb82ea82e882e782e582e482e282e182df82de82dc82db82d982d782d682d482d382d182d082ce82cd82cb82ca82c882c782c582c382c282c082bf82bd82bc82ba82b982b782b682b482b382b182af82ae82ac,
  0x85c385c285c085be85bd85bb85ba85b885b785b585b385b285b085af85ad85ac85aa85a985a785a585a485a285a1859f859e859c859b8599859785968594859385918590858e858d858b8589858885868585858385828580857f857d857b857a857885778575857485728571856f856d856c856a856985678566856485638561855f855e855c855b8559855885568555855385518550854e854d854b854a854885478545854385428540853f853d853c853a853985378535853485328531852f852e852c852b8529852785268524852385218520851e851d851b851a851885168515851385128510850f850d850c850a85088507850585048502850184ff84fe84fc84fa84f984f784f684f484f384f184f084ee84ec84eb84e984e884e684e584e384e284e084df84dd84db84da84d884d784d584d484d284d184cf84cd84cc84ca84c984c784c684c484c384c184bf84be84bc84bb84b984b884b684b584b384b284b084ae84ad84ab84aa84a884a784a584a484a284a0849f849d849c849a849984978496849484938491848f848e848c848b8489848884868485848384818480847e847d847b847a847884778475847484728470846f846d846c846a846984678466846484638461845f845e845c845b8459845884568455845384518450844e844d844b844a844884478445844484428440843f843d843c843a84398437,
  0x875387528750874f874d874b874a874887478745874487428740873f873d873c873a873987378735873487328731872f872e872c872a872987278726872487238721871f871e871c871b8719871887168715871387118710870e870d870b870a87088706870587038702870086ff86fd86fb86fa86f886f786f586f486f286f086ef86ed86ec86ea86e986e786e686e486e286e186df86de86dc86db86d986d786d686d486d386d186d086ce86cc86cb86c986c886c686c586c386c286c086be86bd86bb86ba86b886b786b586b386b286b086af86ad86ac86aa86a986a786a586a486a286a1869f869e869c869a869986978696869486938691868f868e868c868b8689868886868685868386818680867e867d867b867a867886768675867386728670866f866d866c866a866886678665866486628661865f865d865c865a865986578656865486538651864f864e864c864b8649864886468645864386418640863e863d863b863a863886368635863386328630862f862d862c862a862886278625862486228621861f861d861c861a861986178616861486138611860f860e860c860b860986088606860586038601860085fe85fd85fb85fa85f885f685f585f385f285f085ef85ed85ec85ea85e885e785e585e485e285e185df85de85dc85da85d985d785d685d485d385d185d085ce85cc85cb85c985c885c685c5,
  0x88e688e588e388e188e088de88dd88db88d988d888d688d588d388d288d088ce88cd88cb88ca88c888c788c588c388c288c088bf88bd88bb88ba88b888b788b588b488b288b088af88ad88ac88aa88a988a788a588a488a288a1889f889e889c889a889988978896889488928891888f888e888c888b8889888788868884888388818880887e887c887b8879887888768875887388718870886e886d886b8869886888668865886388628860885e885d885b885a885888578855885388528850884f884d884c884a884888478845884488428841883f883d883c883a883988378836883488328831882f882e882c882a882988278826882488238821881f881e881c881b8819881888168814881388118810880e880d880b880988088806880588038802880087fe87fd87fb87fa87f887f787f587f387f287f087ef87ed87ec87ea87e887e787e587e487e287e187df87dd87dc87da87d987d787d687d487d287d187cf87ce87cc87cb87c987c787c687c487c387c187c087be87bc87bb87b987b887b687b587b387b187b087ae87ad87ab87aa87a887a687a587a387a287a0879f879d879b879a879887978795879487928790878f878d878c878a878987878785878487828781877f877e877c877a877987778776877487738771876f876e876c876b8769876887668764876387618760875e875d875b8759875887568755,
  0x8a7c8a7a8a798a778a758a748a728a718a6f8a6d8a6c8a6a8a698a678a658a648a628a618a5f8a5d8a5c8a5a8a598a578a568a548a528a518a4f8a4e8a4c8a4a8a498a478a468a448a428a418a3f8a3e8a3c8a3b8a398a378a368a348a338a318a2f8a2e8a2c8a2b8a298a278a268a248a238a218a208a1e8a1c8a1b8a198a188a168a148a138a118a108a0e8a0d8a0b8a098a088a068a058a038a018a0089fe89fd89fb89f989f889f689f589f389f289f089ee89ed89eb89ea89e889e689e589e389e289e089df89dd89db89da89d889d789d589d389d289d089cf89cd89cb89ca89c889c789c589c489c289c089bf89bd89bc89ba89b889b789b589b489b289b189af89ad89ac89aa89a989a789a589a489a289a1899f899e899c899a899989978996899489928991898f898e898c898b898989878986898489838981897f897e897c897b8979897889768974897389718970896e896c896b8969896889668965896389618960895e895d895b8959895889568955895389528950894e894d894b894a894889468945894389428940893f893d893b893a893889378935893489328930892f892d892c892a892889278925892489228921891f891d891c891a891989178915891489128911890f890e890c890a89098907890689048903890188ff88fe88fc88fb88f988f788f688f488f388f188f088ee88ec88eb88e988e8,
  0x8c148c128c118c0f8c0e8c0c8c0a8c098c078c068c048c028c018bff8bfe8bfc8bfa8bf98bf78bf68bf48bf28bf18bef8bee8bec8bea8be98be78be68be48be28be18bdf8bde8bdc8bda8bd98bd78bd68bd48bd28bd18bcf8bce8bcc8bca8bc98bc78bc68bc48bc28bc18bbf8bbe8bbc8bba8bb98bb78bb68bb48bb28bb18baf8bae8bac8baa8ba98ba78ba68ba48ba28ba18b9f8b9e8b9c8b9a8b998b978b968b948b938b918b8f8b8e8b8c8b8b8b898b878b868b848b838b818b7f8b7e8b7c8b7b8b798b778b768b748b738b718b6f8b6e8b6c8b6b8b698b678b668b648b638b618b5f8b5e8b5c8b5b8b598b578b568b548b538b518b4f8b4e8b4c8b4b8b498b478b468b448b438b418b408b3e8b3c8b3b8b398b388b368b348b338b318b308b2e8b2c8b2b8b298b288b268b248b238b218b208b1e8b1c8b1b8b198b188b168b148b138b118b108b0e8b0d8b0b8b098b088b068b058b038b018b008afe8afd8afb8af98af88af68af58af38af18af08aee8aed8aeb8ae98ae88ae68ae58ae38ae28ae08ade8add8adb8ada8ad88ad68ad58ad38ad28ad08ace8acd8acb8aca8ac88ac68ac58ac38ac28ac08abe8abd8abb8aba8ab88ab78ab58ab38ab28ab08aaf8aad8aab8aaa8aa88aa78aa58aa38aa28aa08a9f8a9d8a9b8a9a8a988a978a958a948a928a908a8f8a8d8a8c8a8a8a888a878a858a848a828a808a7f8a7d,
  0x8daf8dad8dac8daa8da98da78da58da48da28da18d9f8d9d8d9c8d9a8d988d978d958d948d928d908d8f8d8d8d8c8d8a8d888d878d858d848d828d808d7f8d7d8d7c8d7a8d788d778d758d738d728d708d6f8d6d8d6b8d6a8d688d678d658d638d628d608d5f8d5d8d5b8d5a8d588d578d558d538d528d508d4e8d4d8d4b8d4a8d488d468d458d438d428d408d3e8d3d8d3b8d3a8d388d368d358d338d328d308d2e8d2d8d2b8d298d288d268d258d238d218d208d1e8d1d8d1b8d198d188d168d158d138d118d108d0e8d0d8d0b8d098d088d068d058d038d018d008cfe8cfc8cfb8cf98cf88cf68cf48cf38cf18cf08cee8cec8ceb8ce98ce88ce68ce48ce38ce18ce08cde8cdc8cdb8cd98cd88cd68cd48cd38cd18cd08cce8ccc8ccb8cc98cc78cc68cc48cc38cc18cbf8cbe8cbc8cbb8cb98cb78cb68cb48cb38cb18caf8cae8cac8cab8ca98ca78ca68ca48ca38ca18c9f8c9e8c9c8c9b8c998c978c968c948c938c918c8f8c8e8c8c8c8b8c898c878c868c848c838c818c7f8c7e8c7c8c7b8c798c778c768c748c728c718c6f8c6e8c6c8c6a8c698c678c668c648c628c618c5f8c5e8c5c8c5a8c598c578c568c548c528c518c4f8c4e8c4c8c4a8c498c478c468c448c428c418c3f8c3e8c3c8c3a8c398c378c368c348c328c318c2f8c2e8c2c8c2a8c298c278c268c248c228c218c1f8c1e8c1c8c1a8c198c178c16,
  0x8f4d8f4b8f4a8f488f468f458f438f418f408f3e8f3d8f3b8f398f388f368f358f338f318f308f2e8f2c8f2b8f298f288f268f248f238f218f1f8f1e8f1c8f1b8f198f178f168f148f128f118f0f8f0e8f0c8f0a8f098f078f068f048f028f018eff8efd8efc8efa8ef98ef78ef58ef48ef28ef08eef8eed8eec8eea8ee88ee78ee58ee48ee28ee08edf8edd8edb8eda8ed88ed78ed58ed38ed28ed08ece8ecd8ecb8eca8ec88ec68ec58ec38ec28ec08ebe8ebd8ebb8eb98eb88eb68eb58eb38eb18eb08eae8eac8eab8ea98ea88ea68ea48ea38ea18ea08e9e8e9c8e9b8e998e978e968e948e938e918e8f8e8e8e8c8e8b8e898e878e868e848e828e818e7f8e7e8e7c8e7a8e798e778e768e748e728e718e6f8e6d8e6c8e6a8e698e678e658e648e628e618e5f8e5d8e5c8e5a8e588e578e558e548e528e508e4f8e4d8e4c8e4a8e488e478e458e438e428e408e3f8e3d8e3b8e3a8e388e378e358e338e328e308e2e8e2d8e2b8e2a8e288e268e258e238e228e208e1e8e1d8e1b8e198e188e168e158e138e118e108e0e8e0d8e0b8e098e088e068e048e038e018e008dfe8dfc8dfb8df98df88df68df48df38df18df08dee8dec8deb8de98de78de68de48de38de18ddf8dde8ddc8ddb8dd98dd78dd68dd48dd38dd18dcf8dce8dcc8dca8dc98dc78dc68dc48dc28dc18dbf8dbe8dbc8dba8db98db78db58db48db28db1,
  0x90ed90ec90ea90e890e790e590e490e290e090df90dd90db90da90d890d790d590d390d290d090ce90cd90cb90c990c890c690c590c390c190c090be90bc90bb90b990b890b690b490b390b190af90ae90ac90aa90a990a790a690a490a290a1909f909d909c909a909990979095909490929090908f908d908b908a908890879085908390829080907e907d907b907a907890769075907390719070906e906d906b906990689066906490639061905f905e905c905b905990579056905490529051904f904e904c904a904990479045904490429041903f903d903c903a903890379035903490329030902f902d902b902a902890279025902390229020901e901d901b9019901890169015901390119010900e900c900b9009900890069004900390018fff8ffe8ffc8ffb8ff98ff78ff68ff48ff28ff18fef8fee8fec8fea8fe98fe78fe58fe48fe28fe18fdf8fdd8fdc8fda8fd88fd78fd58fd48fd28fd08fcf8fcd8fcb8fca8fc88fc78fc58fc38fc28fc08fbe8fbd8fbb8fba8fb88fb68fb58fb38fb18fb08fae8fad8fab8fa98fa88fa68fa48fa38fa18fa08f9e8f9c8f9b8f998f978f968f948f938f918f8f8f8e8f8c8f8a8f898f878f868f848f828f818f7f8f7d8f7c8f7a8f798f778f758f748f728f718f6f8f6d8f6c8f6a8f688f678f658f648f628f608f5f8f5d8f5b8f5a8f588f578f558f538f528f508f4e,
  0x9291928f928d928c928a928892879285928392829280927f927d927b927a927892769275927392719270926e926c926b926992689266926492639261925f925e925c925a925992579255925492529251924f924d924c924a924892479245924392429240923f923d923b923a923892369235923392319230922e922c922b922992289226922492239221921f921e921c921a921992179216921492129211920f920d920c920a92089207920592039202920091ff91fd91fb91fa91f891f691f591f391f191f091ee91ed91eb91e991e891e691e491e391e191df91de91dc91da91d991d791d691d491d291d191cf91cd91cc91ca91c891c791c591c491c291c091bf91bd91bb91ba91b891b691b591b391b291b091ae91ad91ab91a991a891a691a491a391a191a0919e919c919b919991979196919491929191918f918e918c918a918991879185918491829180917f917d917c917a917891779175917391729170916e916d916b916a916891669165916391619160915e915c915b915991589156915491539151914f914e914c914a914991479146914491429141913f913d913c913a913891379135913491329130912f912d912b912a912891279125912391229120911e911d911b9119911891169115911391119110910e910c910b91099107910691049103910190ff90fe90fc90fa90f990f790f690f490f290f190ef,
  0x94379435943394329430942e942d942b942994289426942494239421941f941e941c941b941994179416941494129411940f940d940c940a94089407940594039402940093fe93fd93fb93f993f893f693f593f393f193f093ee93ec93eb93e993e793e693e493e293e193df93dd93dc93da93d893d793d593d393d293d093cf93cd93cb93ca93c893c693c593c393c193c093be93bc93bb93b993b793b693b493b293b193af93ae93ac93aa93a993a793a593a493a293a0939f939d939b939a939893969395939393919390938e938d938b938993889386938493839381937f937e937c937a937993779375937493729370936f936d936c936a936893679365936393629360935e935d935b9359935893569354935393519350934e934c934b934993479346934493429341933f933d933c933a933893379335933393329330932f932d932b932a932893269325932393219320931e931c931b931993179316931493139311930f930e930c930a93099307930593049302930092ff92fd92fc92fa92f892f792f592f392f292f092ee92ed92eb92e992e892e692e492e392e192e092de92dc92db92d992d792d692d492d292d192cf92cd92cc92ca92c992c792c592c492c292c092bf92bd92bb92ba92b892b692b592b392b192b092ae92ad92ab92a992a892a692a492a392a1929f929e929c929a92999297929692949292,
  0x95df95de95dc95da95d995d795d595d495d295d095cf95cd95cb95ca95c895c695c595c395c195c095be95bc95bb95b995b795b695b495b295b195af95ad95ac95aa95a995a795a595a495a295a0959f959d959b959a959895969595959395919590958e958c958b958995879586958495829581957f957d957c957a957895779575957395729570956e956d956b956995689566956495639561955f955e955c955a955995579555955495529550954f954d954b954a954895469545954395419540953e953c953b953995389536953495339531952f952e952c952a952995279525952495229520951f951d951b951a951895169515951395119510950e950c950b95099507950695049502950194ff94fd94fc94fa94f894f794f594f394f294f094ee94ed94eb94ea94e894e694e594e394e194e094de94dc94db94d994d794d694d494d294d194cf94cd94cc94ca94c894c794c594c394c294c094be94bd94bb94b994b894b694b494b394b194af94ae94ac94ab94a994a794a694a494a294a1949f949d949c949a949894979495949394929490948e948d948b948994889486948494839481947f947e947c947a947994779476947494729471946f946d946c946a946894679465946394629460945e945d945b945994589456945494539451944f944e944c944a944994479446944494429441943f943d943c943a9438,
  0x978b978997889786978497839781977f977e977c977a977997779775977497729770976e976d976b976997689766976497639761975f975e975c975a975997579755975497529750974f974d974b974a974897469745974397419740973e973c973b973997379736973497329731972f972d972c972a972897269725972397219720971e971c971b971997179716971497129711970f970d970c970a97089707970597039702970096fe96fd96fb96f996f896f696f496f396f196ef96ee96ec96ea96e996e796e596e496e296e096df96dd96db96da96d896d696d596d396d196d096ce96cc96cb96c996c796c696c496c296c196bf96bd96bc96ba96b896b796b596b396b196b096ae96ac96ab96a996a796a696a496a296a1969f969d969c969a969896979695969396929690968e968d968b968996889686968496839681967f967e967c967a967996779675967496729670966f966d966b966a966896669665966396619660965e965c965b965996579656965496529651964f964d964c964a964896479645964396429640963e963d963b963996389636963496339631962f962e962c962a962996279625962496229620961f961d961b961a961896169615961396119610960e960c960b96099607960696049602960195ff95fd95fc95fa95f895f795f595f395f295f095ee95ed95eb95e995e895e695e495e395e1,
  0x993999389936993499339931992f992d992c992a992899279925992399229920991e991d991b991999189916991499129911990f990d990c990a99089907990599039902990098fe98fd98fb98f998f898f698f498f298f198ef98ed98ec98ea98e898e798e598e398e298e098de98dd98db98d998d898d698d498d298d198cf98cd98cc98ca98c898c798c598c398c298c098be98bd98bb98b998b898b698b498b298b198af98ad98ac98aa98a898a798a598a398a298a0989e989d989b989998989896989498939891988f988d988c988a988898879885988398829880987e987d987b987998789876987498739871986f986e986c986a986898679865986398629860985e985d985b985998589856985498539851984f984e984c984a984998479845984498429840983e983d983b983998389836983498339831982f982e982c982a982998279825982498229820981f981d981b981a98189816981498139811980f980e980c980a98099807980598049802980097ff97fd97fb97fa97f897f697f597f397f197f097ee97ec97eb97e997e797e597e497e297e097df97dd97db97da97d897d697d597d397d197d097ce97cc97cb97c997c797c697c497c297c197bf97bd97bc97ba97b897b797b597b397b197b097ae97ac97ab97a997a797a697a497a297a1979f979d979c979a979897979795979397929790978e978d,
  0x9aea9ae99ae79ae59ae49ae29ae09ade9add9adb9ad99ad89ad69ad49ad39ad19acf9acd9acc9aca9ac89ac79ac59ac39ac29ac09abe9abd9abb9ab99ab79ab69ab49ab29ab19aaf9aad9aac9aaa9aa89aa69aa59aa39aa19aa09a9e9a9c9a9b9a999a979a969a949a929a909a8f9a8d9a8b9a8a9a889a869a859a839a819a7f9a7e9a7c9a7a9a799a779a759a749a729a709a6f9a6d9a6b9a699a689a669a649a639a619a5f9a5e9a5c9a5a9a599a579a559a539a529a509a4e9a4d9a4b9a499a489a469a449a439a419a3f9a3d9a3c9a3a9a389a379a359a339a329a309a2e9a2d9a2b9a299a279a269a249a229a219a1f9a1d9a1c9a1a9a189a179a159a139a119a109a0e9a0c9a0b9a099a079a069a049a029a0199ff99fd99fb99fa99f899f699f599f399f199f099ee99ec99eb99e999e799e599e499e299e099df99dd99db99da99d899d699d599d399d199cf99ce99cc99ca99c999c799c599c499c299c099bf99bd99bb99ba99b899b699b499b399b199af99ae99ac99aa99a999a799a599a499a299a0999f999d999b999999989996999499939991998f998e998c998a998999879985998399829980997e997d997b997999789976997499739971996f996e996c996a996899679965996399629960995e995d995b995999589956995499539951994f994d994c994a994899479945994399429940993e993d993b,
  0x9c9e9c9c9c9b9c999c979c969c949c929c919c8f9c8d9c8b9c8a9c889c869c859c839c819c7f9c7e9c7c9c7a9c799c779c759c739c729c709c6e9c6d9c6b9c699c689c669c649c629c619c5f9c5d9c5c9c5a9c589c569c559c539c519c509c4e9c4c9c4b9c499c479c459c449c429c409c3f9c3d9c3b9c399c389c369c349c339c319c2f9c2e9c2c9c2a9c289c279c259c239c229c209c1e9c1c9c1b9c199c179c169c149c129c119c0f9c0d9c0b9c0a9c089c069c059c039c019c009bfe9bfc9bfa9bf99bf79bf59bf49bf29bf09bee9bed9beb9be99be89be69be49be39be19bdf9bdd9bdc9bda9bd89bd79bd59bd39bd29bd09bce9bcc9bcb9bc99bc79bc69bc49bc29bc09bbf9bbd9bbb9bba9bb89bb69bb59bb39bb19baf9bae9bac9baa9ba99ba79ba59ba49ba29ba09b9e9b9d9b9b9b999b989b969b949b939b919b8f9b8d9b8c9b8a9b889b879b859b839b829b809b7e9b7c9b7b9b799b779b769b749b729b719b6f9b6d9b6b9b6a9b689b669b659b639b619b609b5e9b5c9b5a9b599b579b559b549b529b509b4f9b4d9b4b9b499b489b469b449b439b419b3f9b3e9b3c9b3a9b389b379b359b339b329b309b2e9b2d9b2b9b299b279b269b249b229b219b1f9b1d9b1c9b1a9b189b169b159b139b119b109b0e9b0c9b0b9b099b079b059b049b029b009aff9afd9afb9afa9af89af69af59af39af19aef9aee9aec,
  0x9e559e539e519e509e4e9e4c9e4a9e499e479e459e449e429e409e3e9e3d9e3b9e399e389e369e349e329e319e2f9e2d9e2c9e2a9e289e269e259e239e219e209e1e9e1c9e1a9e199e179e159e149e129e109e0e9e0d9e0b9e099e089e069e049e029e019dff9dfd9dfb9dfa9df89df69df59df39df19def9dee9dec9dea9de99de79de59de39de29de09dde9ddd9ddb9dd99dd79dd69dd49dd29dd19dcf9dcd9dcb9dca9dc89dc69dc59dc39dc19dbf9dbe9dbc9dba9db99db79db59db39db29db09dae9dad9dab9da99da79da69da49da29da19d9f9d9d9d9b9d9a9d989d969d959d939d919d8f9d8e9d8c9d8a9d899d879d859d839d829d809d7e9d7d9d7b9d799d779d769d749d729d719d6f9d6d9d6b9d6a9d689d669d659d639d619d5f9d5e9d5c9d5a9d599d579d559d539d529d509d4e9d4d9d4b9d499d479d469d449d429d419d3f9d3d9d3b9d3a9d389d369d359d339d319d309d2e9d2c9d2a9d299d279d259d249d229d209d1e9d1d9d1b9d199d189d169d149d129d119d0f9d0d9d0c9d0a9d089d069d059d039d019d009cfe9cfc9cfa9cf99cf79cf59cf49cf29cf09cef9ced9ceb9ce99ce89ce69ce49ce39ce19cdf9cdd9cdc9cda9cd89cd79cd59cd39cd19cd09cce9ccc9ccb9cc99cc79cc59cc49cc29cc09cbf9cbd9cbb9cba9cb89cb69cb49cb39cb19caf9cae9cac9caa9ca89ca79ca59ca39ca29ca0,
  0xa00ea00da00ba009a007a006a004a002a0009fff9ffd9ffb9ff99ff89ff69ff49ff39ff19fef9fed9fec9fea9fe89fe69fe59fe39fe19fe09fde9fdc9fda9fd99fd79fd59fd39fd29fd09fce9fcd9fcb9fc99fc79fc69fc49fc29fc09fbf9fbd9fbb9fba9fb89fb69fb49fb39fb19faf9fad9fac9faa9fa89fa79fa59fa39fa19fa09f9e9f9c9f9a9f999f979f959f949f929f909f8e9f8d9f8b9f899f879f869f849f829f819f7f9f7d9f7b9f7a9f789f769f749f739f719f6f9f6e9f6c9f6a9f689f679f659f639f619f609f5e9f5c9f5b9f599f579f559f549f529f509f4e9f4d9f4b9f499f489f469f449f429f419f3f9f3d9f3c9f3a9f389f369f359f339f319f2f9f2e9f2c9f2a9f299f279f259f239f229f209f1e9f1c9f1b9f199f179f169f149f129f109f0f9f0d9f0b9f0a9f089f069f049f039f019eff9efd9efc9efa9ef89ef79ef59ef39ef19ef09eee9eec9eeb9ee99ee79ee59ee49ee29ee09ede9edd9edb9ed99ed89ed69ed49ed29ed19ecf9ecd9ecc9eca9ec89ec69ec59ec39ec19ebf9ebe9ebc9eba9eb99eb79eb59eb39eb29eb09eae9ead9eab9ea99ea79ea69ea49ea29ea09e9f9e9d9e9b9e9a9e989e969e949e939e919e8f9e8e9e8c9e8a9e889e879e859e839e829e809e7e9e7c9e7b9e799e779e759e749e729e709e6f9e6d9e6b9e699e689e669e649e639e619e5f9e5d9e5c9e5a9e589e57,
  0xa1caa1c9a1c7a1c5a1c3a1c2a1c0a1bea1bda1bba1b9a1b7a1b6a1b4a1b2a1b0a1afa1ada1aba1a9a1a8a1a6a1a4a1a2a1a1a19fa19da19ba19aa198a196a195a193a191a18fa18ea18ca18aa188a187a185a183a181a180a17ea17ca17aa179a177a175a173a172a170a16ea16da16ba169a167a166a164a162a160a15fa15da15ba159a158a156a154a152a151a14fa14da14ba14aa148a146a145a143a141a13fa13ea13ca13aa138a137a135a133a131a130a12ea12ca12aa129a127a125a124a122a120a11ea11da11ba119a117a116a114a112a110a10fa10da10ba109a108a106a104a103a101a0ffa0fda0fca0faa0f8a0f6a0f5a0f3a0f1a0efa0eea0eca0eaa0e9a0e7a0e5a0e3a0e2a0e0a0dea0dca0dba0d9a0d7a0d5a0d4a0d2a0d0a0cea0cda0cba0c9a0c8a0c6a0c4a0c2a0c1a0bfa0bda0bba0baa0b8a0b6a0b4a0b3a0b1a0afa0aea0aca0aaa0a8a0a7a0a5a0a3a0a1a0a0a09ea09ca09aa099a097a095a094a092a090a08ea08da08ba089a087a086a084a082a080a07fa07da07ba07aa078a076a074a073a071a06fa06da06ca06aa068a067a065a063a061a060a05ea05ca05aa059a057a055a053a052a050a04ea04da04ba049a047a046a044a042a040a03fa03da03ba039a038a036a034a033a031a02fa02da02ca02aa028a026a025a023a021a020a01ea01ca01aa019a017a015a013a012a010,
  0xa389a388a386a384a382a381a37fa37da37ba37aa378a376a374a373a371a36fa36da36ca36aa368a366a365a363a361a35fa35ea35ca35aa358a357a355a353a351a350a34ea34ca34aa349a347a345a343a342a340a33ea33ca33ba339a337a335a334a332a330a32ea32da32ba329a327a326a324a322a320a31fa31da31ba319a318a316a314a312a311a30fa30da30ba30aa308a306a304a303a301a2ffa2fda2fca2faa2f8a2f6a2f5a2f3a2f1a2efa2eea2eca2eaa2e8a2e7a2e5a2e3a2e1a2e0a2dea2dca2dba2d9a2d7a2d5a2d4a2d2a2d0a2cea2cda2cba2c9a2c7a2c6a2c4a2c2a2c0a2bfa2bda2bba2b9a2b8a2b6a2b4a2b2a2b1a2afa2ada2aba2aaa2a8a2a6a2a4a2a3a2a1a29fa29da29ca29aa298a296a295a293a291a28fa28ea28ca28aa288a287a285a283a281a280a27ea27ca27aa279a277a275a273a272a270a26ea26da26ba269a267a266a264a262a260a25fa25da25ba259a258a256a254a252a251a24fa24da24ba24aa248a246a244a243a241a23fa23da23ca23aa238a236a235a233a231a22fa22ea22ca22aa228a227a225a223a222a220a21ea21ca21ba219a217a215a214a212a210a20ea20da20ba209a207a206a204a202a200a1ffa1fda1fba1f9a1f8a1f6a1f4a1f2a1f1a1efa1eda1eca1eaa1e8a1e6a1e5a1e3a1e1a1dfa1dea1dca1daa1d8a1d7a1d5a1d3a1d1a1d0a1cea1cc,
  0xa54ba549a548a546a544a542a541a53fa53da53ba53aa538a536a534a533a531a52fa52da52ca52aa528a526a524a523a521a51fa51da51ca51aa518a516a515a513a511a50fa50ea50ca50aa508a507a505a503a501a500a4fea4fca4faa4f8a4f7a4f5a4f3a4f1a4f0a4eea4eca4eaa4e9a4e7a4e5a4e3a4e2a4e0a4dea4dca4dba4d9a4d7a4d5a4d3a4d2a4d0a4cea4cca4cba4c9a4c7a4c5a4c4a4c2a4c0a4bea4bda4bba4b9a4b7a4b6a4b4a4b2a4b0a4afa4ada4aba4a9a4a8a4a6a4a4a4a2a4a0a49fa49da49ba499a498a496a494a492a491a48fa48da48ba48aa488a486a484a483a481a47fa47da47ca47aa478a476a475a473a471a46fa46ea46ca46aa468a466a465a463a461a45fa45ea45ca45aa458a457a455a453a451a450a44ea44ca44aa449a447a445a443a442a440a43ea43ca43ba439a437a435a434a432a430a42ea42da42ba429a427a426a424a422a420a41ea41da41ba419a417a416a414a412a410a40fa40da40ba409a408a406a404a402a401a3ffa3fda3fba3faa3f8a3f6a3f4a3f3a3f1a3efa3eda3eca3eaa3e8a3e6a3e5a3e3a3e1a3dfa3dea3dca3daa3d8a3d7a3d5a3d3a3d1a3d0a3cea3cca3caa3c9a3c7a3c5a3c3a3c2a3c0a3bea3bca3bba3b9a3b7a3b5a3b3a3b2a3b0a3aea3aca3aba3a9a3a7a3a5a3a4a3a2a3a0a39ea39da39ba399a397a396a394a392a390a38fa38da38b,
  0xa710a70ea70ca70ba709a707a705a703a702a700a6fea6fca6fba6f9a6f7a6f5a6f4a6f2a6f0a6eea6eca6eba6e9a6e7a6e5a6e4a6e2a6e0a6dea6dca6dba6d9a6d7a6d5a6d4a6d2a6d0a6cea6cda6cba6c9a6c7a6c5a6c4a6c2a6c0a6bea6bda6bba6b9a6b7a6b5a6b4a6b2a6b0a6aea6ada6aba6a9a6a7a6a6a6a4a6a2a6a0a69ea69da69ba699a697a696a694a692a690a68fa68da68ba689a687a686a684a682a680a67fa67da67ba679a678a676a674a672a670a66fa66da66ba669a668a666a664a662a661a65fa65da65ba659a658a656a654a652a651a64fa64da64ba64aa648a646a644a642a641a63fa63da63ba63aa638a636a634a633a631a62fa62da62ba62aa628a626a624a623a621a61fa61da61ca61aa618a616a614a613a611a60fa60da60ca60aa608a606a605a603a601a5ffa5fda5fca5faa5f8a5f6a5f5a5f3a5f1a5efa5eea5eca5eaa5e8a5e7a5e5a5e3a5e1a5dfa5dea5dca5daa5d8a5d7a5d5a5d3a5d1a5d0a5cea5cca5caa5c8a5c7a5c5a5c3a5c1a5c0a5bea5bca5baa5b9a5b7a5b5a5b3a5b2a5b0a5aea5aca5aaa5a9a5a7a5a5a5a3a5a2a5a0a59ea59ca59ba599a597a595a594a592a590a58ea58ca58ba589a587a585a584a582a580a57ea57da57ba579a577a576a574a572a570a56fa56da56ba569a567a566a564a562a560a55fa55da55ba559a558a556a554a552a551a54fa54d,
  0xa8d7a8d6a8d4a8d2a8d0a8cea8cda8cba8c9a8c7a8c5a8c4a8c2a8c0a8bea8bda8bba8b9a8b7a8b5a8b4a8b2a8b0a8aea8aca8aba8a9a8a7a8a5a8a4a8a2a8a0a89ea89ca89ba899a897a895a894a892a890a88ea88ca88ba889a887a885a883a882a880a87ea87ca87ba879a877a875a873a872a870a86ea86ca86ba869a867a865a863a862a860a85ea85ca85aa859a857a855a853a852a850a84ea84ca84aa849a847a845a843a842a840a83ea83ca83aa839a837a835a833a832a830a82ea82ca82aa829a827a825a823a822a820a81ea81ca81aa819a817a815a813a811a810a80ea80ca80aa809a807a805a803a801a800a7fea7fca7faa7f9a7f7a7f5a7f3a7f1a7f0a7eea7eca7eaa7e9a7e7a7e5a7e3a7e1a7e0a7dea7dca7daa7d9a7d7a7d5a7d3a7d1a7d0a7cea7cca7caa7c9a7c7a7c5a7c3a7c1a7c0a7bea7bca7baa7b9a7b7a7b5a7b3a7b1a7b0a7aea7aca7aaa7a9a7a7a7a5a7a3a7a1a7a0a79ea79ca79aa799a797a795a793a791a790a78ea78ca78aa789a787a785a783a781a780a77ea77ca77aa779a777a775a773a771a770a76ea76ca76aa769a767a765a763a761a760a75ea75ca75aa759a757a755a753a752a750a74ea74ca74aa749a747a745a743a742a740a73ea73ca73aa739a737a735a733a732a730a72ea72ca72aa729a727a725a723a722a720a71ea71ca71ba719a717a715a713a712,
  0xaaa2aaa0aa9eaa9caa9aaa99aa97aa95aa93aa91aa90aa8eaa8caa8aaa88aa87aa85aa83aa81aa7faa7eaa7caa7aaa78aa76aa75aa73aa71aa6faa6daa6caa6aaa68aa66aa65aa63aa61aa5faa5daa5caa5aaa58aa56aa54aa53aa51aa4faa4daa4baa4aaa48aa46aa44aa42aa41aa3faa3daa3baa39aa38aa36aa34aa32aa31aa2faa2daa2baa29aa28aa26aa24aa22aa20aa1faa1daa1baa19aa17aa16aa14aa12aa10aa0eaa0daa0baa09aa07aa05aa04aa02aa00a9fea9fda9fba9f9a9f7a9f5a9f4a9f2a9f0a9eea9eca9eba9e9a9e7a9e5a9e3a9e2a9e0a9dea9dca9dba9d9a9d7a9d5a9d3a9d2a9d0a9cea9cca9caa9c9a9c7a9c5a9c3a9c1a9c0a9bea9bca9baa9b8a9b7a9b5a9b3a9b1a9b0a9aea9aca9aaa9a8a9a7a9a5a9a3a9a1a99fa99ea99ca99aa998a996a995a993a991a98fa98ea98ca98aa988a986a985a983a981a97fa97da97ca97aa978a976a974a973a971a96fa96da96ca96aa968a966a964a963a961a95fa95da95ba95aa958a956a954a953a951a94fa94da94ba94aa948a946a944a942a941a93fa93da93ba93aa938a936a934a932a931a92fa92da92ba929a928a926a924a922a920a91fa91da91ba919a918a916a914a912a910a90fa90da90ba909a907a906a904a902a900a8ffa8fda8fba8f9a8f7a8f6a8f4a8f2a8f0a8eea8eda8eba8e9a8e7a8e6a8e4a8e2a8e0a8dea8dda8dba8d9,
  0xac6fac6dac6bac69ac67ac66ac64ac62ac60ac5eac5dac5bac59ac57ac55ac54ac52ac50ac4eac4cac4aac49ac47ac45ac43ac41ac40ac3eac3cac3aac38ac37ac35ac33ac31ac2fac2eac2cac2aac28ac26ac25ac23ac21ac1fac1dac1cac1aac18ac16ac14ac13ac11ac0fac0dac0bac0aac08ac06ac04ac02ac00abffabfdabfbabf9abf7abf6abf4abf2abf0abeeabedabebabe9abe7abe5abe4abe2abe0abdeabdcabdbabd9abd7abd5abd3abd2abd0abceabccabcaabc9abc7abc5abc3abc1abc0abbeabbcabbaabb8abb7abb5abb3abb1abafabaeabacabaaaba8aba6aba5aba3aba1ab9fab9dab9cab9aab98ab96ab94ab93ab91ab8fab8dab8bab8aab88ab86ab84ab82ab81ab7fab7dab7bab79ab78ab76ab74ab72ab70ab6fab6dab6bab69ab67ab66ab64ab62ab60ab5eab5dab5bab59ab57ab55ab54ab52ab50ab4eab4cab4bab49ab47ab45ab43ab42ab40ab3eab3cab3aab39ab37ab35ab33ab31ab30ab2eab2cab2aab28ab27ab25ab23ab21ab1fab1eab1cab1aab18ab16ab15ab13ab11ab0fab0dab0cab0aab08ab06ab04ab03ab01aaffaafdaafbaafaaaf8aaf6aaf4aaf2aaf1aaefaaedaaebaae9aae8aae6aae4aae2aae0aadfaaddaadbaad9aad7aad6aad4aad2aad0aaceaacdaacbaac9aac7aac5aac4aac2aac0aabeaabcaabbaab9aab7aab5aab3aab2aab0aaaeaaacaaabaaa9aaa7aaa5aaa3,
  0xae3eae3dae3bae39ae37ae35ae34ae32ae30ae2eae2cae2aae29ae27ae25ae23ae21ae20ae1eae1cae1aae18ae17ae15ae13ae11ae0fae0dae0cae0aae08ae06ae04ae03ae01adffadfdadfbadf9adf8adf6adf4adf2adf0adefadedadebade9ade7ade5ade4ade2ade0addeaddcaddbadd9add7add5add3add2add0adceadccadcaadc8adc7adc5adc3adc1adbfadbeadbcadbaadb8adb6adb4adb3adb1adafadadadabadaaada8ada6ada4ada2ada1ad9fad9dad9bad99ad97ad96ad94ad92ad90ad8ead8dad8bad89ad87ad85ad84ad82ad80ad7ead7cad7aad79ad77ad75ad73ad71ad70ad6ead6cad6aad68ad67ad65ad63ad61ad5fad5dad5cad5aad58ad56ad54ad53ad51ad4fad4dad4bad4aad48ad46ad44ad42ad40ad3fad3dad3bad39ad37ad36ad34ad32ad30ad2ead2dad2bad29ad27ad25ad23ad22ad20ad1ead1cad1aad19ad17ad15ad13ad11ad10ad0ead0cad0aad08ad07ad05ad03ad01acffacfdacfcacfaacf8acf6acf4acf3acf1acefacedacebaceaace8ace6ace4ace2ace0acdfacddacdbacd9acd7acd6acd4acd2acd0acceaccdaccbacc9acc7acc5acc4acc2acc0acbeacbcacbbacb9acb7acb5acb3acb1acb0acaeacacacaaaca8aca7aca5aca3aca1ac9fac9eac9cac9aac98ac96ac95ac93ac91ac8fac8dac8cac8aac88ac86ac84ac82ac81ac7fac7dac7bac79ac78ac76ac74ac72ac70,
  0xb011b00fb00eb00cb00ab008b006b004b003b001afffaffdaffbaff9aff8aff6aff4aff2aff0afeeafedafebafe9afe7afe5afe4afe2afe0afdeafdcafdaafd9afd7afd5afd3afd1afcfafceafccafcaafc8afc6afc4afc3afc1afbfafbdafbbafb9afb8afb6afb4afb2afb0afafafadafabafa9afa7afa5afa4afa2afa0af9eaf9caf9aaf99af97af95af93af91af8faf8eaf8caf8aaf88af86af85af83af81af7faf7daf7baf7aaf78af76af74af72af70af6faf6daf6baf69af67af66af64af62af60af5eaf5caf5baf59af57af55af53af51af50af4eaf4caf4aaf48af46af45af43af41af3faf3daf3caf3aaf38af36af34af32af31af2faf2daf2baf29af27af26af24af22af20af1eaf1daf1baf19af17af15af13af12af10af0eaf0caf0aaf09af07af05af03af01aeffaefeaefcaefaaef8aef6aef4aef3aef1aeefaeedaeebaeeaaee8aee6aee4aee2aee0aedfaeddaedbaed9aed7aed5aed4aed2aed0aeceaeccaecbaec9aec7aec5aec3aec1aec0aebeaebcaebaaeb8aeb7aeb5aeb3aeb1aeafaeadaeacaeaaaea8aea6aea4aea3aea1ae9fae9dae9bae99ae98ae96ae94ae92ae90ae8fae8dae8bae89ae87ae85ae84ae82ae80ae7eae7cae7aae79ae77ae75ae73ae71ae70ae6eae6cae6aae68ae66ae65ae63ae61ae5fae5dae5cae5aae58ae56ae54ae52ae51ae4fae4dae4bae49ae48ae46ae44ae42ae40,
  0xb1e7b1e5b1e3b1e1b1dfb1deb1dcb1dab1d8b1d6b1d4b1d3b1d1b1cfb1cdb1cbb1c9b1c8b1c6b1c4b1c2b1c0b1beb1bcb1bbb1b9b1b7b1b5b1b3b1b1b1b0b1aeb1acb1aab1a8b1a6b1a5b1a3b1a1b19fb19db19bb19ab198b196b194b192b190b18fb18db18bb189b187b185b183b182b180b17eb17cb17ab178b177b175b173b171b16fb16db16cb16ab168b166b164b162b161b15fb15db15bb159b157b156b154b152b150b14eb14cb14bb149b147b145b143b141b140b13eb13cb13ab138b136b135b133b131b12fb12db12bb12ab128b126b124b122b120b11eb11db11bb119b117b115b113b112b110b10eb10cb10ab108b107b105b103b101b0ffb0fdb0fcb0fab0f8b0f6b0f4b0f2b0f1b0efb0edb0ebb0e9b0e7b0e6b0e4b0e2b0e0b0deb0dcb0dbb0d9b0d7b0d5b0d3b0d1b0d0b0ceb0ccb0cab0c8b0c6b0c5b0c3b0c1b0bfb0bdb0bbb0bab0b8b0b6b0b4b0b2b0b0b0afb0adb0abb0a9b0a7b0a5b0a4b0a2b0a0b09eb09cb09ab099b097b095b093b091b08fb08eb08cb08ab088b086b085b083b081b07fb07db07bb07ab078b076b074b072b070b06fb06db06bb069b067b065b064b062b060b05eb05cb05ab059b057b055b053b051b04fb04eb04cb04ab048b046b044b043b041b03fb03db03bb039b038b036b034b032b030b02eb02db02bb029b027b025b024b022b020b01eb01cb01ab019b017b015b013,
  0xb3bfb3bdb3bbb3bab3b8b3b6b3b4b3b2b3b0b3afb3adb3abb3a9b3a7b3a5b3a3b3a2b3a0b39eb39cb39ab398b396b395b393b391b38fb38db38bb38ab388b386b384b382b380b37eb37db37bb379b377b375b373b371b370b36eb36cb36ab368b366b365b363b361b35fb35db35bb359b358b356b354b352b350b34eb34db34bb349b347b345b343b341b340b33eb33cb33ab338b336b334b333b331b32fb32db32bb329b328b326b324b322b320b31eb31cb31bb319b317b315b313b311b310b30eb30cb30ab308b306b304b303b301b2ffb2fdb2fbb2f9b2f8b2f6b2f4b2f2b2f0b2eeb2ecb2ebb2e9b2e7b2e5b2e3b2e1b2e0b2deb2dcb2dab2d8b2d6b2d4b2d3b2d1b2cfb2cdb2cbb2c9b2c8b2c6b2c4b2c2b2c0b2beb2bcb2bbb2b9b2b7b2b5b2b3b2b1b2b0b2aeb2acb2aab2a8b2a6b2a4b2a3b2a1b29fb29db29bb299b298b296b294b292b290b28eb28db28bb289b287b285b283b281b280b27eb27cb27ab278b276b275b273b271b26fb26db26bb26ab268b266b264b262b260b25eb25db25bb259b257b255b253b252b250b24eb24cb24ab248b246b245b243b241b23fb23db23bb23ab238b236b234b232b230b22fb22db22bb229b227b225b224b222b220b21eb21cb21ab218b217b215b213b211b20fb20db20cb20ab208b206b204b202b201b1ffb1fdb1fbb1f9b1f7b1f5b1f4b1f2b1f0b1eeb1ecb1eab1e9,
  0xb59ab599b597b595b593b591b58fb58db58cb58ab588b586b584b582b580b57eb57db57bb579b577b575b573b571b570b56eb56cb56ab568b566b564b563b561b55fb55db55bb559b557b556b554b552b550b54eb54cb54ab549b547b545b543b541b53fb53db53cb53ab538b536b534b532b530b52eb52db52bb529b527b525b523b521b520b51eb51cb51ab518b516b514b513b511b50fb50db50bb509b507b506b504b502b500b4feb4fcb4fab4f9b4f7b4f5b4f3b4f1b4efb4edb4ecb4eab4e8b4e6b4e4b4e2b4e0b4dfb4ddb4dbb4d9b4d7b4d5b4d3b4d2b4d0b4ceb4ccb4cab4c8b4c6b4c5b4c3b4c1b4bfb4bdb4bbb4b9b4b8b4b6b4b4b4b2b4b0b4aeb4acb4abb4a9b4a7b4a5b4a3b4a1b49fb49eb49cb49ab498b496b494b492b491b48fb48db48bb489b487b485b484b482b480b47eb47cb47ab478b477b475b473b471b46fb46db46bb46ab468b466b464b462b460b45fb45db45bb459b457b455b453b452b450b44eb44cb44ab448b446b445b443b441b43fb43db43bb439b438b436b434b432b430b42eb42cb42bb429b427b425b423b421b41fb41eb41cb41ab418b416b414b413b411b40fb40db40bb409b407b406b404b402b400b3feb3fcb3fab3f9b3f7b3f5b3f3b3f1b3efb3edb3ecb3eab3e8b3e6b3e4b3e2b3e0b3dfb3ddb3dbb3d9b3d7b3d5b3d4b3d2b3d0b3ceb3ccb3cab3c8b3c7b3c5b3c3b3c1,
  0xb779b777b775b773b771b76fb76db76bb76ab768b766b764b762b760b75eb75cb75bb759b757b755b753b751b74fb74db74cb74ab748b746b744b742b740b73eb73db73bb739b737b735b733b731b72fb72eb72cb72ab728b726b724b722b721b71fb71db71bb719b717b715b713b712b710b70eb70cb70ab708b706b704b703b701b6ffb6fdb6fbb6f9b6f7b6f6b6f4b6f2b6f0b6eeb6ecb6eab6e8b6e7b6e5b6e3b6e1b6dfb6ddb6dbb6d9b6d8b6d6b6d4b6d2b6d0b6ceb6ccb6cbb6c9b6c7b6c5b6c3b6c1b6bfb6bdb6bcb6bab6b8b6b6b6b4b6b2b6b0b6aeb6adb6abb6a9b6a7b6a5b6a3b6a1b6a0b69eb69cb69ab698b696b694b692b691b68fb68db68bb689b687b685b684b682b680b67eb67cb67ab678b676b675b673b671b66fb66db66bb669b667b666b664b662b660b65eb65cb65ab659b657b655b653b651b64fb64db64bb64ab648b646b644b642b640b63eb63db63bb639b637b635b633b631b630b62eb62cb62ab628b626b624b622b621b61fb61db61bb619b617b615b614b612b610b60eb60cb60ab608b606b605b603b601b5ffb5fdb5fbb5f9b5f8b5f6b5f4b5f2b5f0b5eeb5ecb5ebb5e9b5e7b5e5b5e3b5e1b5dfb5ddb5dcb5dab5d8b5d6b5d4b5d2b5d0b5cfb5cdb5cbb5c9b5c7b5c5b5c3b5c2b5c0b5beb5bcb5bab5b8b5b6b5b4b5b3b5b1b5afb5adb5abb5a9b5a7b5a6b5a4b5a2b5a0b59eb59c,
  0xb959b958b956b954b952b950b94eb94cb94ab949b947b945b943b941b93fb93db93bb939b938b936b934b932b930b92eb92cb92ab928b927b925b923b921b91fb91db91bb919b918b916b914b912b910b90eb90cb90ab908b907b905b903b901b8ffb8fdb8fbb8f9b8f8b8f6b8f4b8f2b8f0b8eeb8ecb8eab8e8b8e7b8e5b8e3b8e1b8dfb8ddb8dbb8d9b8d8b8d6b8d4b8d2b8d0b8ceb8ccb8cab8c9b8c7b8c5b8c3b8c1b8bfb8bdb8bbb8b9b8b8b8b6b8b4b8b2b8b0b8aeb8acb8aab8a9b8a7b8a5b8a3b8a1b89fb89db89bb899b898b896b894b892b890b88eb88cb88ab889b887b885b883b881b87fb87db87bb87ab878b876b874b872b870b86eb86cb86bb869b867b865b863b861b85fb85db85bb85ab858b856b854b852b850b84eb84cb84bb849b847b845b843b841b83fb83db83cb83ab838b836b834b832b830b82eb82db82bb829b827b825b823b821b81fb81eb81cb81ab818b816b814b812b810b80fb80db80bb809b807b805b803b801b7ffb7feb7fcb7fab7f8b7f6b7f4b7f2b7f0b7efb7edb7ebb7e9b7e7b7e5b7e3b7e1b7e0b7deb7dcb7dab7d8b7d6b7d4b7d2b7d1b7cfb7cdb7cbb7c9b7c7b7c5b7c3b7c2b7c0b7beb7bcb7bab7b8b7b6b7b4b7b3b7b1b7afb7adb7abb7a9b7a7b7a5b7a4b7a2b7a0b79eb79cb79ab798b796b795b793b791b78fb78db78bb789b788b786b784b782b780b77eb77cb77a,
  0xbb3dbb3bbb39bb38bb36bb34bb32bb30bb2ebb2cbb2abb28bb27bb25bb23bb21bb1fbb1dbb1bbb19bb17bb15bb14bb12bb10bb0ebb0cbb0abb08bb06bb04bb03bb01baffbafdbafbbaf9baf7baf5baf3baf1baf0baeebaecbaeabae8bae6bae4bae2bae0badfbaddbadbbad9bad7bad5bad3bad1bacfbacebaccbacabac8bac6bac4bac2bac0babebabcbabbbab9bab7bab5bab3bab1baafbaadbaabbaaabaa8baa6baa4baa2baa0ba9eba9cba9aba99ba97ba95ba93ba91ba8fba8dba8bba89ba88ba86ba84ba82ba80ba7eba7cba7aba78ba77ba75ba73ba71ba6fba6dba6bba69ba67ba65ba64ba62ba60ba5eba5cba5aba58ba56ba54ba53ba51ba4fba4dba4bba49ba47ba45ba43ba42ba40ba3eba3cba3aba38ba36ba34ba32ba31ba2fba2dba2bba29ba27ba25ba23ba21ba20ba1eba1cba1aba18ba16ba14ba12ba10ba0fba0dba0bba09ba07ba05ba03ba01b9ffb9feb9fcb9fab9f8b9f6b9f4b9f2b9f0b9eeb9edb9ebb9e9b9e7b9e5b9e3b9e1b9dfb9ddb9dcb9dab9d8b9d6b9d4b9d2b9d0b9ceb9ccb9cbb9c9b9c7b9c5b9c3b9c1b9bfb9bdb9bcb9bab9b8b9b6b9b4b9b2b9b0b9aeb9acb9abb9a9b9a7b9a5b9a3b9a1b99fb99db99bb99ab998b996b994b992b990b98eb98cb98ab989b987b985b983b981b97fb97db97bb97ab978b976b974b972b970b96eb96cb96ab969b967b965b963b961b95fb95db95b,
  0xbd24bd22bd20bd1ebd1cbd1abd19bd17bd15bd13bd11bd0fbd0dbd0bbd09bd07bd05bd04bd02bd00bcfebcfcbcfabcf8bcf6bcf4bcf2bcf0bcefbcedbcebbce9bce7bce5bce3bce1bcdfbcddbcdcbcdabcd8bcd6bcd4bcd2bcd0bccebcccbccabcc8bcc7bcc5bcc3bcc1bcbfbcbdbcbbbcb9bcb7bcb5bcb4bcb2bcb0bcaebcacbcaabca8bca6bca4bca2bca1bc9fbc9dbc9bbc99bc97bc95bc93bc91bc8fbc8dbc8cbc8abc88bc86bc84bc82bc80bc7ebc7cbc7abc79bc77bc75bc73bc71bc6fbc6dbc6bbc69bc67bc66bc64bc62bc60bc5ebc5cbc5abc58bc56bc54bc52bc51bc4fbc4dbc4bbc49bc47bc45bc43bc41bc3fbc3ebc3cbc3abc38bc36bc34bc32bc30bc2ebc2cbc2bbc29bc27bc25bc23bc21bc1fbc1dbc1bbc19bc18bc16bc14bc12bc10bc0ebc0cbc0abc08bc06bc05bc03bc01bbffbbfdbbfbbbf9bbf7bbf5bbf3bbf2bbf0bbeebbecbbeabbe8bbe6bbe4bbe2bbe0bbdfbbddbbdbbbd9bbd7bbd5bbd3bbd1bbcfbbcdbbccbbcabbc8bbc6bbc4bbc2bbc0bbbebbbcbbbabbb9bbb7bbb5bbb3bbb1bbafbbadbbabbba9bba7bba6bba4bba2bba0bb9ebb9cbb9abb98bb96bb95bb93bb91bb8fbb8dbb8bbb89bb87bb85bb83bb82bb80bb7ebb7cbb7abb78bb76bb74bb72bb70bb6fbb6dbb6bbb69bb67bb65bb63bb61bb5fbb5ebb5cbb5abb58bb56bb54bb52bb50bb4ebb4cbb4bbb49bb47bb45bb43bb41bb3f,
  0xbf0ebf0cbf0abf08bf06bf04bf02bf00befebefcbefabef8bef6bef5bef3bef1beefbeedbeebbee9bee7bee5bee3bee1bedfbedebedcbedabed8bed6bed4bed2bed0becebeccbecabec8bec7bec5bec3bec1bebfbebdbebbbeb9beb7beb5beb3beb2beb0beaebeacbeaabea8bea6bea4bea2bea0be9ebe9cbe9bbe99be97be95be93be91be8fbe8dbe8bbe89be87be85be84be82be80be7ebe7cbe7abe78be76be74be72be70be6ebe6dbe6bbe69be67be65be63be61be5fbe5dbe5bbe59be58be56be54be52be50be4ebe4cbe4abe48be46be44be42be41be3fbe3dbe3bbe39be37be35be33be31be2fbe2dbe2cbe2abe28be26be24be22be20be1ebe1cbe1abe18be16be15be13be11be0fbe0dbe0bbe09be07be05be03be01be00bdfebdfcbdfabdf8bdf6bdf4bdf2bdf0bdeebdecbdeabde9bde7bde5bde3bde1bddfbdddbddbbdd9bdd7bdd5bdd4bdd2bdd0bdcebdccbdcabdc8bdc6bdc4bdc2bdc0bdbfbdbdbdbbbdb9bdb7bdb5bdb3bdb1bdafbdadbdabbdaabda8bda6bda4bda2bda0bd9ebd9cbd9abd98bd96bd95bd93bd91bd8fbd8dbd8bbd89bd87bd85bd83bd81bd80bd7ebd7cbd7abd78bd76bd74bd72bd70bd6ebd6cbd6bbd69bd67bd65bd63bd61bd5fbd5dbd5bbd59bd57bd56bd54bd52bd50bd4ebd4cbd4abd48bd46bd44bd42bd41bd3fbd3dbd3bbd39bd37bd35bd33bd31bd2fbd2dbd2cbd2abd28bd26,
  0xc0fac0f8c0f6c0f4c0f2c0f0c0eec0ecc0eac0e9c0e7c0e5c0e3c0e1c0dfc0ddc0dbc0d9c0d7c0d5c0d3c0d1c0cfc0cec0ccc0cac0c8c0c6c0c4c0c2c0c0c0bec0bcc0bac0b8c0b6c0b5c0b3c0b1c0afc0adc0abc0a9c0a7c0a5c0a3c0a1c09fc09dc09bc09ac098c096c094c092c090c08ec08cc08ac088c086c084c082c080c07fc07dc07bc079c077c075c073c071c06fc06dc06bc069c067c066c064c062c060c05ec05cc05ac058c056c054c052c050c04ec04cc04bc049c047c045c043c041c03fc03dc03bc039c037c035c033c032c030c02ec02cc02ac028c026c024c022c020c01ec01cc01ac019c017c015c013c011c00fc00dc00bc009c007c005c003c001c000bffebffcbffabff8bff6bff4bff2bff0bfeebfecbfeabfe8bfe7bfe5bfe3bfe1bfdfbfddbfdbbfd9bfd7bfd5bfd3bfd1bfcfbfcebfccbfcabfc8bfc6bfc4bfc2bfc0bfbebfbcbfbabfb8bfb6bfb5bfb3bfb1bfafbfadbfabbfa9bfa7bfa5bfa3bfa1bf9fbf9dbf9cbf9abf98bf96bf94bf92bf90bf8ebf8cbf8abf88bf86bf85bf83bf81bf7fbf7dbf7bbf79bf77bf75bf73bf71bf6fbf6dbf6cbf6abf68bf66bf64bf62bf60bf5ebf5cbf5abf58bf56bf54bf53bf51bf4fbf4dbf4bbf49bf47bf45bf43bf41bf3fbf3dbf3cbf3abf38bf36bf34bf32bf30bf2ebf2cbf2abf28bf26bf25bf23bf21bf1fbf1dbf1bbf19bf17bf15bf13bf11bf0f,
  0xc2e9c2e7c2e5c2e3c2e1c2e0c2dec2dcc2dac2d8c2d6c2d4c2d2c2d0c2cec2ccc2cac2c8c2c6c2c4c2c2c2c0c2bfc2bdc2bbc2b9c2b7c2b5c2b3c2b1c2afc2adc2abc2a9c2a7c2a5c2a3c2a1c2a0c29ec29cc29ac298c296c294c292c290c28ec28cc28ac288c286c284c282c281c27fc27dc27bc279c277c275c273c271c26fc26dc26bc269c267c265c263c262c260c25ec25cc25ac258c256c254c252c250c24ec24cc24ac248c246c244c243c241c23fc23dc23bc239c237c235c233c231c22fc22dc22bc229c227c225c224c222c220c21ec21cc21ac218c216c214c212c210c20ec20cc20ac208c207c205c203c201c1ffc1fdc1fbc1f9c1f7c1f5c1f3c1f1c1efc1edc1ebc1e9c1e8c1e6c1e4c1e2c1e0c1dec1dcc1dac1d8c1d6c1d4c1d2c1d0c1cec1ccc1cbc1c9c1c7c1c5c1c3c1c1c1bfc1bdc1bbc1b9c1b7c1b5c1b3c1b1c1afc1aec1acc1aac1a8c1a6c1a4c1a2c1a0c19ec19cc19ac198c196c194c192c191c18fc18dc18bc189c187c185c183c181c17fc17dc17bc179c177c175c174c172c170c16ec16cc16ac168c166c164c162c160c15ec15cc15ac159c157c155c153c151c14fc14dc14bc149c147c145c143c141c13fc13dc13cc13ac138c136c134c132c130c12ec12cc12ac128c126c124c122c121c11fc11dc11bc119c117c115c113c111c10fc10dc10bc109c107c106c104c102c100c0fec0fc,
  0xc4dbc4d9c4d8c4d6c4d4c4d2c4d0c4cec4ccc4cac4c8c4c6c4c4c4c2c4c0c4bec4bcc4bac4b8c4b6c4b4c4b2c4b0c4afc4adc4abc4a9c4a7c4a5c4a3c4a1c49fc49dc49bc499c497c495c493c491c48fc48dc48bc489c488c486c484c482c480c47ec47cc47ac478c476c474c472c470c46ec46cc46ac468c466c464c463c461c45fc45dc45bc459c457c455c453c451c44fc44dc44bc449c447c445c443c441c43fc43dc43cc43ac438c436c434c432c430c42ec42cc42ac428c426c424c422c420c41ec41cc41ac418c417c415c413c411c40fc40dc40bc409c407c405c403c401c3ffc3fdc3fbc3f9c3f7c3f5c3f3c3f2c3f0c3eec3ecc3eac3e8c3e6c3e4c3e2c3e0c3dec3dcc3dac3d8c3d6c3d4c3d2c3d0c3cfc3cdc3cbc3c9c3c7c3c5c3c3c3c1c3bfc3bdc3bbc3b9c3b7c3b5c3b3c3b1c3afc3adc3abc3aac3a8c3a6c3a4c3a2c3a0c39ec39cc39ac398c396c394c392c390c38ec38cc38ac388c387c385c383c381c37fc37dc37bc379c377c375c373c371c36fc36dc36bc369c367c366c364c362c360c35ec35cc35ac358c356c354c352c350c34ec34cc34ac348c346c344c343c341c33fc33dc33bc339c337c335c333c331c32fc32dc32bc329c327c325c323c322c320c31ec31cc31ac318c316c314c312c310c30ec30cc30ac308c306c304c302c301c2ffc2fdc2fbc2f9c2f7c2f5c2f3c2f1c2efc2edc2eb,
  0xc6d1c6cfc6cdc6cbc6c9c6c7c6c5c6c3c6c1c6bfc6bdc6bbc6b9c6b7c6b5c6b3c6b1c6afc6adc6abc6a9c6a7c6a5c6a3c6a1c69fc69dc69cc69ac698c696c694c692c690c68ec68cc68ac688c686c684c682c680c67ec67cc67ac678c676c674c672c670c66ec66cc66ac669c667c665c663c661c65fc65dc65bc659c657c655c653c651c64fc64dc64bc649c647c645c643c641c63fc63dc63bc639c638c636c634c632c630c62ec62cc62ac628c626c624c622c620c61ec61cc61ac618c616c614c612c610c60ec60cc60ac609c607c605c603c601c5ffc5fdc5fbc5f9c5f7c5f5c5f3c5f1c5efc5edc5ebc5e9c5e7c5e5c5e3c5e1c5dfc5ddc5dbc5dac5d8c5d6c5d4c5d2c5d0c5cec5ccc5cac5c8c5c6c5c4c5c2c5c0c5bec5bcc5bac5b8c5b6c5b4c5b2c5b0c5aec5adc5abc5a9c5a7c5a5c5a3c5a1c59fc59dc59bc599c597c595c593c591c58fc58dc58bc589c587c585c583c581c580c57ec57cc57ac578c576c574c572c570c56ec56cc56ac568c566c564c562c560c55ec55cc55ac558c556c555c553c551c54fc54dc54bc549c547c545c543c541c53fc53dc53bc539c537c535c533c531c52fc52dc52bc52ac528c526c524c522c520c51ec51cc51ac518c516c514c512c510c50ec50cc50ac508c506c504c502c501c4ffc4fdc4fbc4f9c4f7c4f5c4f3c4f1c4efc4edc4ebc4e9c4e7c4e5c4e3c4e1c4dfc4dd,
  0xc8c8c8c6c8c5c8c3c8c1c8bfc8bdc8bbc8b9c8b7c8b5c8b3c8b1c8afc8adc8abc8a9c8a7c8a5c8a3c8a1c89fc89dc89bc899c897c895c893c891c88fc88dc88bc889c887c885c883c881c87fc87dc87cc87ac878c876c874c872c870c86ec86cc86ac868c866c864c862c860c85ec85cc85ac858c856c854c852c850c84ec84cc84ac848c846c844c842c840c83ec83cc83ac838c837c835c833c831c82fc82dc82bc829c827c825c823c821c81fc81dc81bc819c817c815c813c811c80fc80dc80bc809c807c805c803c801c7ffc7fdc7fbc7f9c7f7c7f5c7f4c7f2c7f0c7eec7ecc7eac7e8c7e6c7e4c7e2c7e0c7dec7dcc7dac7d8c7d6c7d4c7d2c7d0c7cec7ccc7cac7c8c7c6c7c4c7c2c7c0c7bec7bcc7bac7b8c7b6c7b4c7b3c7b1c7afc7adc7abc7a9c7a7c7a5c7a3c7a1c79fc79dc79bc799c797c795c793c791c78fc78dc78bc789c787c785c783c781c77fc77dc77bc779c778c776c774c772c770c76ec76cc76ac768c766c764c762c760c75ec75cc75ac758c756c754c752c750c74ec74cc74ac748c746c744c742c740c73ec73dc73bc739c737c735c733c731c72fc72dc72bc729c727c725c723c721c71fc71dc71bc719c717c715c713c711c70fc70dc70bc709c707c706c704c702c700c6fec6fcc6fac6f8c6f6c6f4c6f2c6f0c6eec6ecc6eac6e8c6e6c6e4c6e2c6e0c6dec6dcc6dac6d8c6d6c6d4c6d2,
  0xcac3cac1cabfcabdcabbcab9cab7cab5cab3cab1caafcaaecaaccaaacaa8caa6caa4caa2caa0ca9eca9cca9aca98ca96ca94ca92ca90ca8eca8cca8aca88ca86ca84ca82ca80ca7eca7cca7aca78ca76ca74ca72ca70ca6eca6cca6aca68ca66ca64ca62ca60ca5eca5cca5aca58ca56ca54ca52ca50ca4eca4cca4aca48ca46ca44ca42ca40ca3eca3cca3aca38ca36ca34ca33ca31ca2fca2dca2bca29ca27ca25ca23ca21ca1fca1dca1bca19ca17ca15ca13ca11ca0fca0dca0bca09ca07ca05ca03ca01c9ffc9fdc9fbc9f9c9f7c9f5c9f3c9f1c9efc9edc9ebc9e9c9e7c9e5c9e3c9e1c9dfc9ddc9dbc9d9c9d7c9d5c9d3c9d1c9cfc9cdc9cbc9cac9c8c9c6c9c4c9c2c9c0c9bec9bcc9bac9b8c9b6c9b4c9b2c9b0c9aec9acc9aac9a8c9a6c9a4c9a2c9a0c99ec99cc99ac998c996c994c992c990c98ec98cc98ac988c986c984c982c980c97ec97cc97ac978c976c974c972c970c96ec96cc96bc969c967c965c963c961c95fc95dc95bc959c957c955c953c951c94fc94dc94bc949c947c945c943c941c93fc93dc93bc939c937c935c933c931c92fc92dc92bc929c927c925c923c921c91fc91dc91bc919c917c916c914c912c910c90ec90cc90ac908c906c904c902c900c8fec8fcc8fac8f8c8f6c8f4c8f2c8f0c8eec8ecc8eac8e8c8e6c8e4c8e2c8e0c8dec8dcc8dac8d8c8d6c8d4c8d2c8d0c8cec8ccc8ca,
  0xccc1ccbfccbdccbbccb9ccb7ccb5ccb3ccb1ccafccadccabcca9cca7cca5cca3cca1cc9fcc9dcc9bcc99cc97cc95cc93cc91cc8fcc8dcc8bcc89cc87cc85cc83cc81cc7fcc7dcc7bcc79cc77cc75cc73cc71cc6fcc6dcc6bcc69cc67cc65cc63cc61cc5fcc5dcc5bcc59cc57cc55cc53cc51cc4fcc4dcc4bcc49cc47cc45cc43cc41cc3fcc3dcc3bcc39cc37cc35cc33cc31cc2fcc2dcc2bcc29cc27cc25cc24cc22cc20cc1ecc1ccc1acc18cc16cc14cc12cc10cc0ecc0ccc0acc08cc06cc04cc02cc00cbfecbfccbfacbf8cbf6cbf4cbf2cbf0cbeecbeccbeacbe8cbe6cbe4cbe2cbe0cbdecbdccbdacbd8cbd6cbd4cbd2cbd0cbcecbcccbcacbc8cbc6cbc4cbc2cbc0cbbecbbccbbacbb8cbb6cbb4cbb2cbb0cbaecbaccbaacba8cba6cba4cba2cba0cb9ecb9ccb9acb98cb96cb94cb92cb90cb8ecb8ccb8acb88cb86cb84cb82cb80cb7ecb7ccb7acb78cb76cb74cb72cb70cb6ecb6ccb6acb68cb66cb64cb62cb60cb5ecb5ccb5acb58cb56cb54cb52cb50cb4ecb4ccb4acb48cb46cb45cb43cb41cb3fcb3dcb3bcb39cb37cb35cb33cb31cb2fcb2dcb2bcb29cb27cb25cb23cb21cb1fcb1dcb1bcb19cb17cb15cb13cb11cb0fcb0dcb0bcb09cb07cb05cb03cb01caffcafdcafbcaf9caf7caf5caf3caf1caefcaedcaebcae9cae7cae5cae3cae1cadfcaddcadbcad9cad7cad5cad3cad1cacfcacdcacbcac9cac7cac5,
  0xcec2cec0cebecebccebaceb8ceb6ceb4ceb2ceb0ceaeceacceaacea8cea6cea4cea2cea0ce9ece9cce9ace98ce96ce94ce92ce90ce8ece8cce8ace88ce86ce84ce82ce80ce7ece7cce7ace78ce76ce74ce72ce70ce6dce6bce69ce67ce65ce63ce61ce5fce5dce5bce59ce57ce55ce53ce51ce4fce4dce4bce49ce47ce45ce43ce41ce3fce3dce3bce39ce37ce35ce33ce31ce2fce2dce2bce29ce27ce25ce23ce21ce1fce1dce1bce19ce17ce15ce13ce11ce0fce0dce0bce09ce07ce05ce03ce01cdffcdfdcdfbcdf9cdf7cdf5cdf3cdf1cdefcdedcdebcde9cde7cde5cde3cde1cddfcdddcddbcdd9cdd7cdd5cdd3cdd1cdcfcdcdcdcbcdc9cdc7cdc5cdc3cdc1cdbfcdbdcdbbcdb9cdb7cdb5cdb3cdb1cdafcdadcdabcda9cda7cda5cda3cda1cd9fcd9dcd9bcd99cd97cd95cd93cd91cd8fcd8dcd8bcd89cd87cd85cd83cd81cd7fcd7dcd7bcd79cd77cd75cd73cd71cd6fcd6dcd6bcd69cd67cd65cd63cd61cd5fcd5dcd5bcd59cd57cd55cd53cd51cd4fcd4dcd4bcd49cd47cd45cd43cd41cd3fcd3dcd3bcd39cd37cd35cd33cd31cd2fcd2dcd2bcd29cd27cd25cd23cd21cd1fcd1dcd1bcd19cd17cd15cd13cd11cd0fcd0dcd0bcd09cd07cd05cd03cd01ccffccfdccfbccf9ccf7ccf5ccf3ccf1ccefccedccebcce9cce7cce5cce3cce1ccdfccddccdbccd9ccd7ccd5ccd3ccd1cccfcccdcccbccc9ccc7ccc5ccc3,
  0xd0c5d0c3d0c1d0bfd0bdd0bbd0b9d0b7d0b5d0b3d0b1d0afd0add0abd0a9d0a7d0a5d0a3d0a1d09fd09dd09bd099d097d095d093d091d08fd08dd08bd089d087d085d083d081d07fd07dd07bd079d077d075d073d071d06fd06dd06bd069d067d065d062d060d05ed05cd05ad058d056d054d052d050d04ed04cd04ad048d046d044d042d040d03ed03cd03ad038d036d034d032d030d02ed02cd02ad028d026d024d022d020d01ed01cd01ad018d016d014d012d010d00ed00cd00ad008d006d004d002d000cffecffccffacff8cff6cff4cff2cff0cfeecfeccfeacfe8cfe5cfe3cfe1cfdfcfddcfdbcfd9cfd7cfd5cfd3cfd1cfcfcfcdcfcbcfc9cfc7cfc5cfc3cfc1cfbfcfbdcfbbcfb9cfb7cfb5cfb3cfb1cfafcfadcfabcfa9cfa7cfa5cfa3cfa1cf9fcf9dcf9bcf99cf97cf95cf93cf91cf8fcf8dcf8bcf89cf87cf85cf83cf81cf7fcf7dcf7bcf79cf77cf75cf73cf71cf6fcf6dcf6bcf69cf67cf65cf63cf61cf5fcf5dcf5bcf59cf57cf55cf53cf51cf4ecf4ccf4acf48cf46cf44cf42cf40cf3ecf3ccf3acf38cf36cf34cf32cf30cf2ecf2ccf2acf28cf26cf24cf22cf20cf1ecf1ccf1acf18cf16cf14cf12cf10cf0ecf0ccf0acf08cf06cf04cf02cf00cefecefccefacef8cef6cef4cef2cef0ceeeceecceeacee8cee6cee4cee2cee0cedecedccedaced8ced6ced4ced2ced0cecececccecacec8cec6cec4,
  0xd2ccd2cad2c8d2c6d2c4d2c2d2c0d2bed2bcd2bad2b8d2b6d2b4d2b2d2afd2add2abd2a9d2a7d2a5d2a3d2a1d29fd29dd29bd299d297d295d293d291d28fd28dd28bd289d287d285d283d281d27fd27dd27bd279d277d275d273d271d26fd26dd26ad268d266d264d262d260d25ed25cd25ad258d256d254d252d250d24ed24cd24ad248d246d244d242d240d23ed23cd23ad238d236d234d232d230d22ed22cd22ad228d226d223d221d21fd21dd21bd219d217d215d213d211d20fd20dd20bd209d207d205d203d201d1ffd1fdd1fbd1f9d1f7d1f5d1f3d1f1d1efd1edd1ebd1e9d1e7d1e5d1e3d1e1d1dfd1ddd1dbd1d8d1d6d1d4d1d2d1d0d1ced1ccd1cad1c8d1c6d1c4d1c2d1c0d1bed1bcd1bad1b8d1b6d1b4d1b2d1b0d1aed1acd1aad1a8d1a6d1a4d1a2d1a0d19ed19cd19ad198d196d194d192d190d18ed18cd18ad187d185d183d181d17fd17dd17bd179d177d175d173d171d16fd16dd16bd169d167d165d163d161d15fd15dd15bd159d157d155d153d151d14fd14dd14bd149d147d145d143d141d13fd13dd13bd139d137d135d133d131d12ed12cd12ad128d126d124d122d120d11ed11cd11ad118d116d114d112d110d10ed10cd10ad108d106d104d102d100d0fed0fcd0fad0f8d0f6d0f4d0f2d0f0d0eed0ecd0ead0e8d0e6d0e4d0e2d0e0d0ded0dcd0dad0d8d0d6d0d4d0d2d0d0d0cdd0cbd0c9d0c7,
  0xd4d5d4d3d4d1d4cfd4cdd4cbd4c9d4c7d4c5d4c3d4c1d4bfd4bdd4bbd4b9d4b7d4b5d4b3d4b1d4afd4add4aad4a8d4a6d4a4d4a2d4a0d49ed49cd49ad498d496d494d492d490d48ed48cd48ad488d486d484d482d480d47ed47cd479d477d475d473d471d46fd46dd46bd469d467d465d463d461d45fd45dd45bd459d457d455d453d451d44fd44dd44bd449d446d444d442d440d43ed43cd43ad438d436d434d432d430d42ed42cd42ad428d426d424d422d420d41ed41cd41ad418d416d414d411d40fd40dd40bd409d407d405d403d401d3ffd3fdd3fbd3f9d3f7d3f5d3f3d3f1d3efd3edd3ebd3e9d3e7d3e5d3e3d3e1d3dfd3ddd3dad3d8d3d6d3d4d3d2d3d0d3ced3ccd3cad3c8d3c6d3c4d3c2d3c0d3bed3bcd3bad3b8d3b6d3b4d3b2d3b0d3aed3acd3aad3a8d3a6d3a3d3a1d39fd39dd39bd399d397d395d393d391d38fd38dd38bd389d387d385d383d381d37fd37dd37bd379d377d375d373d371d36fd36dd36ad368d366d364d362d360d35ed35cd35ad358d356d354d352d350d34ed34cd34ad348d346d344d342d340d33ed33cd33ad338d336d334d332d32fd32dd32bd329d327d325d323d321d31fd31dd31bd319d317d315d313d311d30fd30dd30bd309d307d305d303d301d2ffd2fdd2fbd2f9d2f7d2f5d2f3d2f0d2eed2ecd2ead2e8d2e6d2e4d2e2d2e0d2ded2dcd2dad2d8d2d6d2d4d2d2d2d0d2ce,
  0xd6e2d6e0d6ded6dcd6dad6d7d6d5d6d3d6d1d6cfd6cdd6cbd6c9d6c7d6c5d6c3d6c1d6bfd6bdd6bbd6b9d6b7d6b5d6b2d6b0d6aed6acd6aad6a8d6a6d6a4d6a2d6a0d69ed69cd69ad698d696d694d692d690d68ed68bd689d687d685d683d681d67fd67dd67bd679d677d675d673d671d66fd66dd66bd669d667d665d662d660d65ed65cd65ad658d656d654d652d650d64ed64cd64ad648d646d644d642d640d63ed63bd639d637d635d633d631d62fd62dd62bd629d627d625d623d621d61fd61dd61bd619d617d615d612d610d60ed60cd60ad608d606d604d602d600d5fed5fcd5fad5f8d5f6d5f4d5f2d5f0d5eed5ecd5ead5e7d5e5d5e3d5e1d5dfd5ddd5dbd5d9d5d7d5d5d5d3d5d1d5cfd5cdd5cbd5c9d5c7d5c5d5c3d5c1d5bed5bcd5bad5b8d5b6d5b4d5b2d5b0d5aed5acd5aad5a8d5a6d5a4d5a2d5a0d59ed59cd59ad598d596d594d591d58fd58dd58bd589d587d585d583d581d57fd57dd57bd579d577d575d573d571d56fd56dd56bd569d566d564d562d560d55ed55cd55ad558d556d554d552d550d54ed54cd54ad548d546d544d542d540d53ed53cd539d537d535d533d531d52fd52dd52bd529d527d525d523d521d51fd51dd51bd519d517d515d513d511d50fd50dd50ad508d506d504d502d500d4fed4fcd4fad4f8d4f6d4f4d4f2d4f0d4eed4ecd4ead4e8d4e6d4e4d4e2d4e0d4ded4dbd4d9d4d7,
  0xd8f1d8efd8edd8ebd8e9d8e7d8e5d8e3d8e0d8ded8dcd8dad8d8d8d6d8d4d8d2d8d0d8ced8ccd8cad8c8d8c6d8c4d8c2d8bfd8bdd8bbd8b9d8b7d8b5d8b3d8b1d8afd8add8abd8a9d8a7d8a5d8a3d8a1d89ed89cd89ad898d896d894d892d890d88ed88cd88ad888d886d884d882d87fd87dd87bd879d877d875d873d871d86fd86dd86bd869d867d865d863d861d85ed85cd85ad858d856d854d852d850d84ed84cd84ad848d846d844d842d840d83dd83bd839d837d835d833d831d82fd82dd82bd829d827d825d823d821d81fd81dd81ad818d816d814d812d810d80ed80cd80ad808d806d804d802d800d7fed7fcd7f9d7f7d7f5d7f3d7f1d7efd7edd7ebd7e9d7e7d7e5d7e3d7e1d7dfd7ddd7dbd7d9d7d6d7d4d7d2d7d0d7ced7ccd7cad7c8d7c6d7c4d7c2d7c0d7bed7bcd7bad7b8d7b6d7b3d7b1d7afd7add7abd7a9d7a7d7a5d7a3d7a1d79fd79dd79bd799d797d795d793d790d78ed78cd78ad788d786d784d782d780d77ed77cd77ad778d776d774d772d770d76dd76bd769d767d765d763d761d75fd75dd75bd759d757d755d753d751d74fd74dd74bd748d746d744d742d740d73ed73cd73ad738d736d734d732d730d72ed72cd72ad728d726d723d721d71fd71dd71bd719d717d715d713d711d70fd70dd70bd709d707d705d703d701d6fed6fcd6fad6f8d6f6d6f4d6f2d6f0d6eed6ecd6ead6e8d6e6d6e4,
  0xdb03db01daffdafddafbdaf9daf7daf5daf3daf1daeedaecdaeadae8dae6dae4dae2dae0dadedadcdadadad8dad6dad3dad1dacfdacddacbdac9dac7dac5dac3dac1dabfdabddabbdab9dab6dab4dab2dab0daaedaacdaaadaa8daa6daa4daa2daa0da9eda9bda99da97da95da93da91da8fda8dda8bda89da87da85da83da80da7eda7cda7ada78da76da74da72da70da6eda6cda6ada68da66da63da61da5fda5dda5bda59da57da55da53da51da4fda4dda4bda49da46da44da42da40da3eda3cda3ada38da36da34da32da30da2eda2bda29da27da25da23da21da1fda1dda1bda19da17da15da13da11da0eda0cda0ada08da06da04da02da00d9fed9fcd9fad9f8d9f6d9f4d9f1d9efd9edd9ebd9e9d9e7d9e5d9e3d9e1d9dfd9ddd9dbd9d9d9d7d9d4d9d2d9d0d9ced9ccd9cad9c8d9c6d9c4d9c2d9c0d9bed9bcd9bad9b8d9b5d9b3d9b1d9afd9add9abd9a9d9a7d9a5d9a3d9a1d99fd99dd99bd998d996d994d992d990d98ed98cd98ad988d986d984d982d980d97ed97cd979d977d975d973d971d96fd96dd96bd969d967d965d963d961d95fd95cd95ad958d956d954d952d950d94ed94cd94ad948d946d944d942d940d93dd93bd939d937d935d933d931d92fd92dd92bd929d927d925d923d921d91ed91cd91ad918d916d914d912d910d90ed90cd90ad908d906d904d902d8ffd8fdd8fbd8f9d8f7d8f5d8f3,
  0xdd18dd16dd14dd12dd10dd0edd0cdd0add08dd06dd04dd01dcffdcfddcfbdcf9dcf7dcf5dcf3dcf1dcefdceddceadce8dce6dce4dce2dce0dcdedcdcdcdadcd8dcd6dcd4dcd1dccfdccddccbdcc9dcc7dcc5dcc3dcc1dcbfdcbddcbadcb8dcb6dcb4dcb2dcb0dcaedcacdcaadca8dca6dca4dca1dc9fdc9ddc9bdc99dc97dc95dc93dc91dc8fdc8ddc8bdc88dc86dc84dc82dc80dc7edc7cdc7adc78dc76dc74dc72dc6fdc6ddc6bdc69dc67dc65dc63dc61dc5fdc5ddc5bdc58dc56dc54dc52dc50dc4edc4cdc4adc48dc46dc44dc42dc3fdc3ddc3bdc39dc37dc35dc33dc31dc2fdc2ddc2bdc29dc26dc24dc22dc20dc1edc1cdc1adc18dc16dc14dc12dc10dc0ddc0bdc09dc07dc05dc03dc01dbffdbfddbfbdbf9dbf7dbf4dbf2dbf0dbeedbecdbeadbe8dbe6dbe4dbe2dbe0dbdedbdbdbd9dbd7dbd5dbd3dbd1dbcfdbcddbcbdbc9dbc7dbc5dbc3dbc0dbbedbbcdbbadbb8dbb6dbb4dbb2dbb0dbaedbacdbaadba7dba5dba3dba1db9fdb9ddb9bdb99db97db95db93db91db8fdb8cdb8adb88db86db84db82db80db7edb7cdb7adb78db76db73db71db6fdb6ddb6bdb69db67db65db63db61db5fdb5ddb5bdb58db56db54db52db50db4edb4cdb4adb48db46db44db42db3fdb3ddb3bdb39db37db35db33db31db2fdb2ddb2bdb29db27db24db22db20db1edb1cdb1adb18db16db14db12db10db0edb0cdb09db07db05,
  0xdf31df2edf2cdf2adf28df26df24df22df20df1edf1cdf19df17df15df13df11df0fdf0ddf0bdf09df07df04df02df00defedefcdefadef8def6def4def2deefdeeddeebdee9dee7dee5dee3dee1dedfdedddedaded8ded6ded4ded2ded0decedeccdecadec8dec6dec3dec1debfdebddebbdeb9deb7deb5deb3deb1deaedeacdeaadea8dea6dea4dea2dea0de9ede9cde99de97de95de93de91de8fde8dde8bde89de87de85de82de80de7ede7cde7ade78de76de74de72de70de6dde6bde69de67de65de63de61de5fde5dde5bde58de56de54de52de50de4ede4cde4ade48de46de44de41de3fde3dde3bde39de37de35de33de31de2fde2dde2ade28de26de24de22de20de1ede1cde1ade18de15de13de11de0fde0dde0bde09de07de05de03de01ddfeddfcddfaddf8ddf6ddf4ddf2ddf0ddeeddecdde9dde7dde5dde3dde1dddfdddddddbddd9ddd7ddd5ddd2ddd0ddceddccddcaddc8ddc6ddc4ddc2ddc0ddbeddbbddb9ddb7ddb5ddb3ddb1ddafddadddabdda9dda7dda4dda2dda0dd9edd9cdd9add98dd96dd94dd92dd90dd8ddd8bdd89dd87dd85dd83dd81dd7fdd7ddd7bdd79dd76dd74dd72dd70dd6edd6cdd6add68dd66dd64dd62dd5fdd5ddd5bdd59dd57dd55dd53dd51dd4fdd4ddd4bdd48dd46dd44dd42dd40dd3edd3cdd3add38dd36dd34dd31dd2fdd2ddd2bdd29dd27dd25dd23dd21dd1fdd1ddd1b,
  0xe14ce14ae147e145e143e141e13fe13de13be139e136e134e132e130e12ee12ce12ae128e126e124e121e11fe11de11be119e117e115e113e111e10ee10ce10ae108e106e104e102e100e0fee0fbe0f9e0f7e0f5e0f3e0f1e0efe0ede0ebe0e8e0e6e0e4e0e2e0e0e0dee0dce0dae0d8e0d5e0d3e0d1e0cfe0cde0cbe0c9e0c7e0c5e0c2e0c0e0bee0bce0bae0b8e0b6e0b4e0b2e0afe0ade0abe0a9e0a7e0a5e0a3e0a1e09fe09de09ae098e096e094e092e090e08ee08ce08ae087e085e083e081e07fe07de07be079e077e074e072e070e06ee06ce06ae068e066e064e062e05fe05de05be059e057e055e053e051e04fe04ce04ae048e046e044e042e040e03ee03ce03ae037e035e033e031e02fe02de02be029e027e024e022e020e01ee01ce01ae018e016e014e011e00fe00de00be009e007e005e003e001dfffdffcdffadff8dff6dff4dff2dff0dfeedfecdfeadfe7dfe5dfe3dfe1dfdfdfdddfdbdfd9dfd7dfd4dfd2dfd0dfcedfccdfcadfc8dfc6dfc4dfc2dfbfdfbddfbbdfb9dfb7dfb5dfb3dfb1dfafdfaddfaadfa8dfa6dfa4dfa2dfa0df9edf9cdf9adf97df95df93df91df8fdf8ddf8bdf89df87df85df82df80df7edf7cdf7adf78df76df74df72df70df6ddf6bdf69df67df65df63df61df5fdf5ddf5bdf58df56df54df52df50df4edf4cdf4adf48df46df43df41df3fdf3ddf3bdf39df37df35df33,
  0xe36ae368e365e363e361e35fe35de35be359e357e354e352e350e34ee34ce34ae348e346e343e341e33fe33de33be339e337e335e332e330e32ee32ce32ae328e326e324e321e31fe31de31be319e317e315e313e311e30ee30ce30ae308e306e304e302e300e2fde2fbe2f9e2f7e2f5e2f3e2f1e2efe2ece2eae2e8e2e6e2e4e2e2e2e0e2dee2dce2d9e2d7e2d5e2d3e2d1e2cfe2cde2cbe2c8e2c6e2c4e2c2e2c0e2bee2bce2bae2b7e2b5e2b3e2b1e2afe2ade2abe2a9e2a7e2a4e2a2e2a0e29ee29ce29ae298e296e293e291e28fe28de28be289e287e285e283e280e27ee27ce27ae278e276e274e272e26fe26de26be269e267e265e263e261e25fe25ce25ae258e256e254e252e250e24ee24be249e247e245e243e241e23fe23de23be238e236e234e232e230e22ee22ce22ae227e225e223e221e21fe21de21be219e217e214e212e210e20ee20ce20ae208e206e203e201e1ffe1fde1fbe1f9e1f7e1f5e1f3e1f0e1eee1ece1eae1e8e1e6e1e4e1e2e1e0e1dde1dbe1d9e1d7e1d5e1d3e1d1e1cfe1cce1cae1c8e1c6e1c4e1c2e1c0e1bee1bce1b9e1b7e1b5e1b3e1b1e1afe1ade1abe1a9e1a6e1a4e1a2e1a0e19ee19ce19ae198e196e193e191e18fe18de18be189e187e185e183e180e17ee17ce17ae178e176e174e172e170e16de16be169e167e165e163e161e15fe15de15ae158e156e154e152e150e14e,
  0xe58be588e586e584e582e580e57ee57ce57ae577e575e573e571e56fe56de56be568e566e564e562e560e55ee55ce55ae557e555e553e551e54fe54de54be548e546e544e542e540e53ee53ce53ae537e535e533e531e52fe52de52be528e526e524e522e520e51ee51ce51ae517e515e513e511e50fe50de50be509e506e504e502e500e4fee4fce4fae4f7e4f5e4f3e4f1e4efe4ede4ebe4e9e4e6e4e4e4e2e4e0e4dee4dce4dae4d7e4d5e4d3e4d1e4cfe4cde4cbe4c9e4c6e4c4e4c2e4c0e4bee4bce4bae4b8e4b5e4b3e4b1e4afe4ade4abe4a9e4a6e4a4e4a2e4a0e49ee49ce49ae498e495e493e491e48fe48de48be489e487e484e482e480e47ee47ce47ae478e476e473e471e46fe46de46be469e467e464e462e460e45ee45ce45ae458e456e453e451e44fe44de44be449e447e445e442e440e43ee43ce43ae438e436e434e431e42fe42de42be429e427e425e423e420e41ee41ce41ae418e416e414e412e40fe40de40be409e407e405e403e400e3fee3fce3fae3f8e3f6e3f4e3f2e3efe3ede3ebe3e9e3e7e3e5e3e3e3e1e3dee3dce3dae3d8e3d6e3d4e3d2e3d0e3cde3cbe3c9e3c7e3c5e3c3e3c1e3bfe3bce3bae3b8e3b6e3b4e3b2e3b0e3aee3abe3a9e3a7e3a5e3a3e3a1e39fe39de39ae398e396e394e392e390e38ee38ce389e387e385e383e381e37fe37de37be379e376e374e372e370e36ee36c,
  0xe7afe7ace7aae7a8e7a6e7a4e7a2e7a0e79de79be799e797e795e793e791e78ee78ce78ae788e786e784e782e77fe77de77be779e777e775e773e770e76ee76ce76ae768e766e763e761e75fe75de75be759e757e754e752e750e74ee74ce74ae748e745e743e741e73fe73de73be739e736e734e732e730e72ee72ce72ae727e725e723e721e71fe71de71be718e716e714e712e710e70ee70ce709e707e705e703e701e6ffe6fde6fae6f8e6f6e6f4e6f2e6f0e6eee6ebe6e9e6e7e6e5e6e3e6e1e6dfe6dce6dae6d8e6d6e6d4e6d2e6d0e6cde6cbe6c9e6c7e6c5e6c3e6c1e6bee6bce6bae6b8e6b6e6b4e6b2e6b0e6ade6abe6a9e6a7e6a5e6a3e6a1e69ee69ce69ae698e696e694e692e68fe68de68be689e687e685e683e680e67ee67ce67ae678e676e674e671e66fe66de66be669e667e665e662e660e65ee65ce65ae658e656e653e651e64fe64de64be649e647e645e642e640e63ee63ce63ae638e636e633e631e62fe62de62be629e627e624e622e620e61ee61ce61ae618e615e613e611e60fe60de60be609e607e604e602e600e5fee5fce5fae5f8e5f5e5f3e5f1e5efe5ede5ebe5e9e5e6e5e4e5e2e5e0e5dee5dce5dae5d8e5d5e5d3e5d1e5cfe5cde5cbe5c9e5c6e5c4e5c2e5c0e5bee5bce5bae5b7e5b5e5b3e5b1e5afe5ade5abe5a9e5a6e5a4e5a2e5a0e59ee59ce59ae597e595e593e591e58fe58d,
  0xe9d5e9d3e9d1e9cfe9cde9cbe9c9e9c6e9c4e9c2e9c0e9bee9bce9b9e9b7e9b5e9b3e9b1e9afe9ade9aae9a8e9a6e9a4e9a2e9a0e99de99be999e997e995e993e990e98ee98ce98ae988e986e984e981e97fe97de97be979e977e974e972e970e96ee96ce96ae968e965e963e961e95fe95de95be958e956e954e952e950e94ee94be949e947e945e943e941e93fe93ce93ae938e936e934e932e92fe92de92be929e927e925e923e920e91ee91ce91ae918e916e913e911e90fe90de90be909e907e904e902e900e8fee8fce8fae8f7e8f5e8f3e8f1e8efe8ede8ebe8e8e8e6e8e4e8e2e8e0e8dee8dbe8d9e8d7e8d5e8d3e8d1e8cfe8cce8cae8c8e8c6e8c4e8c2e8c0e8bde8bbe8b9e8b7e8b5e8b3e8b0e8aee8ace8aae8a8e8a6e8a4e8a1e89fe89de89be899e897e894e892e890e88ee88ce88ae888e885e883e881e87fe87de87be879e876e874e872e870e86ee86ce869e867e865e863e861e85fe85de85ae858e856e854e852e850e84ee84be849e847e845e843e841e83ee83ce83ae838e836e834e832e82fe82de82be829e827e825e823e820e81ee81ce81ae818e816e814e811e80fe80de80be809e807e804e802e800e7fee7fce7fae7f8e7f5e7f3e7f1e7efe7ede7ebe7e9e7e6e7e4e7e2e7e0e7dee7dce7dae7d7e7d5e7d3e7d1e7cfe7cde7cae7c8e7c6e7c4e7c2e7c0e7bee7bbe7b9e7b7e7b5e7b3e7b1,
  0xebffebfdebfbebf9ebf7ebf5ebf2ebf0ebeeebecebeaebe8ebe5ebe3ebe1ebdfebddebdbebd8ebd6ebd4ebd2ebd0ebceebcbebc9ebc7ebc5ebc3ebc1ebbeebbcebbaebb8ebb6ebb4ebb1ebafebadebabeba9eba6eba4eba2eba0eb9eeb9ceb99eb97eb95eb93eb91eb8feb8ceb8aeb88eb86eb84eb82eb7feb7deb7beb79eb77eb75eb72eb70eb6eeb6ceb6aeb68eb65eb63eb61eb5feb5deb5beb58eb56eb54eb52eb50eb4eeb4beb49eb47eb45eb43eb41eb3eeb3ceb3aeb38eb36eb34eb32eb2feb2deb2beb29eb27eb25eb22eb20eb1eeb1ceb1aeb18eb15eb13eb11eb0feb0deb0beb08eb06eb04eb02eb00eafeeafbeaf9eaf7eaf5eaf3eaf1eaeeeaeceaeaeae8eae6eae4eae1eadfeaddeadbead9ead7ead4ead2ead0eaceeacceacaeac7eac5eac3eac1eabfeabdeabaeab8eab6eab4eab2eab0eaaeeaabeaa9eaa7eaa5eaa3eaa1ea9eea9cea9aea98ea96ea94ea91ea8fea8dea8bea89ea87ea84ea82ea80ea7eea7cea7aea77ea75ea73ea71ea6fea6dea6aea68ea66ea64ea62ea60ea5eea5bea59ea57ea55ea53ea51ea4eea4cea4aea48ea46ea44ea41ea3fea3dea3bea39ea37ea34ea32ea30ea2eea2cea2aea28ea25ea23ea21ea1fea1dea1bea18ea16ea14ea12ea10ea0eea0bea09ea07ea05ea03ea01e9ffe9fce9fae9f8e9f6e9f4e9f2e9efe9ede9ebe9e9e9e7e9e5e9e2e9e0e9dee9dce9dae9d8,
  0xee2cee2aee28ee26ee24ee21ee1fee1dee1bee19ee16ee14ee12ee10ee0eee0cee09ee07ee05ee03ee01edfeedfcedfaedf8edf6edf4edf1edefedededebede9ede6ede4ede2ede0eddeeddcedd9edd7edd5edd3edd1edcfedccedcaedc8edc6edc4edc1edbfedbdedbbedb9edb7edb4edb2edb0edaeedaceda9eda7eda5eda3eda1ed9fed9ced9aed98ed96ed94ed92ed8fed8ded8bed89ed87ed84ed82ed80ed7eed7ced7aed77ed75ed73ed71ed6fed6ded6aed68ed66ed64ed62ed5fed5ded5bed59ed57ed55ed52ed50ed4eed4ced4aed48ed45ed43ed41ed3fed3ded3aed38ed36ed34ed32ed30ed2ded2bed29ed27ed25ed23ed20ed1eed1ced1aed18ed15ed13ed11ed0fed0ded0bed08ed06ed04ed02ed00ecfeecfbecf9ecf7ecf5ecf3ecf0eceeecececeaece8ece6ece3ece1ecdfecddecdbecd9ecd6ecd4ecd2ecd0ecceecccecc9ecc7ecc5ecc3ecc1ecbeecbcecbaecb8ecb6ecb4ecb1ecafecadecabeca9eca7eca4eca2eca0ec9eec9cec9aec97ec95ec93ec91ec8fec8dec8aec88ec86ec84ec82ec7fec7dec7bec79ec77ec75ec72ec70ec6eec6cec6aec68ec65ec63ec61ec5fec5dec5bec58ec56ec54ec52ec50ec4eec4bec49ec47ec45ec43ec41ec3eec3cec3aec38ec36ec33ec31ec2fec2dec2bec29ec26ec24ec22ec20ec1eec1cec19ec17ec15ec13ec11ec0fec0cec0aec08ec06ec04ec02,
  0xf05cf05af058f056f053f051f04ff04df04bf048f046f044f042f040f03df03bf039f037f035f032f030f02ef02cf02af028f025f023f021f01ff01df01af018f016f014f012f00ff00df00bf009f007f004f002f000effeeffceffaeff7eff5eff3eff1efefefecefeaefe8efe6efe4efe1efdfefddefdbefd9efd6efd4efd2efd0efceefccefc9efc7efc5efc3efc1efbeefbcefbaefb8efb6efb3efb1efafefadefabefa8efa6efa4efa2efa0ef9eef9bef99ef97ef95ef93ef90ef8eef8cef8aef88ef85ef83ef81ef7fef7def7bef78ef76ef74ef72ef70ef6def6bef69ef67ef65ef62ef60ef5eef5cef5aef58ef55ef53ef51ef4fef4def4aef48ef46ef44ef42ef3fef3def3bef39ef37ef35ef32ef30ef2eef2cef2aef27ef25ef23ef21ef1fef1cef1aef18ef16ef14ef12ef0fef0def0bef09ef07ef04ef02ef00eefeeefceef9eef7eef5eef3eef1eeefeeeceeeaeee8eee6eee4eee1eedfeeddeedbeed9eed7eed4eed2eed0eeceeecceec9eec7eec5eec3eec1eebeeebceebaeeb8eeb6eeb4eeb1eeafeeadeeabeea9eea6eea4eea2eea0ee9eee9cee99ee97ee95ee93ee91ee8eee8cee8aee88ee86ee84ee81ee7fee7dee7bee79ee76ee74ee72ee70ee6eee6cee69ee67ee65ee63ee61ee5eee5cee5aee58ee56ee54ee51ee4fee4dee4bee49ee46ee44ee42ee40ee3eee3cee39ee37ee35ee33ee31ee2e,
  0xf28ff28df28bf288f286f284f282f280f27df27bf279f277f275f272f270f26ef26cf269f267f265f263f261f25ef25cf25af258f256f253f251f24ff24df24bf248f246f244f242f240f23df23bf239f237f235f232f230f22ef22cf22af227f225f223f221f21ff21cf21af218f216f214f211f20ff20df20bf209f206f204f202f200f1fef1fbf1f9f1f7f1f5f1f3f1f0f1eef1ecf1eaf1e8f1e5f1e3f1e1f1dff1ddf1daf1d8f1d6f1d4f1d2f1cff1cdf1cbf1c9f1c7f1c4f1c2f1c0f1bef1bcf1b9f1b7f1b5f1b3f1b1f1aef1acf1aaf1a8f1a6f1a3f1a1f19ff19df19bf198f196f194f192f190f18df18bf189f187f185f182f180f17ef17cf17af177f175f173f171f16ff16cf16af168f166f164f161f15ff15df15bf159f156f154f152f150f14ef14bf149f147f145f143f140f13ef13cf13af138f135f133f131f12ff12df12af128f126f124f122f11ff11df11bf119f117f114f112f110f10ef10cf109f107f105f103f101f0fff0fcf0faf0f8f0f6f0f4f0f1f0eff0edf0ebf0e9f0e6f0e4f0e2f0e0f0def0dbf0d9f0d7f0d5f0d3f0d0f0cef0ccf0caf0c8f0c5f0c3f0c1f0bff0bdf0baf0b8f0b6f0b4f0b2f0aff0adf0abf0a9f0a7f0a5f0a2f0a0f09ef09cf09af097f095f093f091f08ff08cf08af088f086f084f081f07ff07df07bf079f076f074f072f070f06ef06bf069f067f065f063f061f05e,
  0xf4c5f4c3f4c0f4bef4bcf4baf4b8f4b5f4b3f4b1f4aff4acf4aaf4a8f4a6f4a4f4a1f49ff49df49bf498f496f494f492f490f48df48bf489f487f485f482f480f47ef47cf479f477f475f473f471f46ef46cf46af468f466f463f461f45ff45df45af458f456f454f452f44ff44df44bf449f447f444f442f440f43ef43bf439f437f435f433f430f42ef42cf42af428f425f423f421f41ff41df41af418f416f414f411f40ff40df40bf409f406f404f402f400f3fef3fbf3f9f3f7f3f5f3f2f3f0f3eef3ecf3eaf3e7f3e5f3e3f3e1f3dff3dcf3daf3d8f3d6f3d4f3d1f3cff3cdf3cbf3c8f3c6f3c4f3c2f3c0f3bdf3bbf3b9f3b7f3b5f3b2f3b0f3aef3acf3a9f3a7f3a5f3a3f3a1f39ef39cf39af398f396f393f391f38ff38df38bf388f386f384f382f380f37df37bf379f377f374f372f370f36ef36cf369f367f365f363f361f35ef35cf35af358f356f353f351f34ff34df34af348f346f344f342f33ff33df33bf339f337f334f332f330f32ef32cf329f327f325f323f321f31ef31cf31af318f316f313f311f30ff30df30af308f306f304f302f2fff2fdf2fbf2f9f2f7f2f4f2f2f2f0f2eef2ecf2e9f2e7f2e5f2e3f2e1f2def2dcf2daf2d8f2d6f2d3f2d1f2cff2cdf2caf2c8f2c6f2c4f2c2f2bff2bdf2bbf2b9f2b7f2b4f2b2f2b0f2aef2acf2a9f2a7f2a5f2a3f2a1f29ef29cf29af298f296f293f291,
  0xf6fef6fbf6f9f6f7f6f5f6f2f6f0f6eef6ecf6eaf6e7f6e5f6e3f6e1f6def6dcf6daf6d8f6d6f6d3f6d1f6cff6cdf6caf6c8f6c6f6c4f6c1f6bff6bdf6bbf6b9f6b6f6b4f6b2f6b0f6adf6abf6a9f6a7f6a5f6a2f6a0f69ef69cf699f697f695f693f691f68ef68cf68af688f685f683f681f67ff67cf67af678f676f674f671f66ff66df66bf668f666f664f662f660f65df65bf659f657f654f652f650f64ef64cf649f647f645f643f640f63ef63cf63af638f635f633f631f62ff62cf62af628f626f624f621f61ff61df61bf618f616f614f612f610f60df60bf609f607f604f602f600f5fef5fcf5f9f5f7f5f5f5f3f5f0f5eef5ecf5eaf5e8f5e5f5e3f5e1f5dff5dcf5daf5d8f5d6f5d4f5d1f5cff5cdf5cbf5c8f5c6f5c4f5c2f5c0f5bdf5bbf5b9f5b7f5b4f5b2f5b0f5aef5acf5a9f5a7f5a5f5a3f5a0f59ef59cf59af598f595f593f591f58ff58cf58af588f586f584f581f57ff57df57bf578f576f574f572f570f56df56bf569f567f564f562f560f55ef55cf559f557f555f553f551f54ef54cf54af548f545f543f541f53ff53df53af538f536f534f531f52ff52df52bf529f526f524f522f520f51df51bf519f517f515f512f510f50ef50cf50af507f505f503f501f4fef4fcf4faf4f8f4f6f4f3f4f1f4eff4edf4eaf4e8f4e6f4e4f4e2f4dff4ddf4dbf4d9f4d7f4d4f4d2f4d0f4cef4cbf4c9f4c7,
  0xf939f937f935f933f931f92ef92cf92af928f925f923f921f91ff91cf91af918f916f913f911f90ff90df90af908f906f904f901f8fff8fdf8fbf8f9f8f6f8f4f8f2f8f0f8edf8ebf8e9f8e7f8e4f8e2f8e0f8def8dbf8d9f8d7f8d5f8d2f8d0f8cef8ccf8caf8c7f8c5f8c3f8c1f8bef8bcf8baf8b8f8b5f8b3f8b1f8aff8acf8aaf8a8f8a6f8a4f8a1f89ff89df89bf898f896f894f892f88ff88df88bf889f886f884f882f880f87ef87bf879f877f875f872f870f86ef86cf869f867f865f863f860f85ef85cf85af858f855f853f851f84ff84cf84af848f846f843f841f83ff83df83af838f836f834f832f82ff82df82bf829f826f824f822f820f81df81bf819f817f814f812f810f80ef80cf809f807f805f803f800f7fef7fcf7faf7f7f7f5f7f3f7f1f7eef7ecf7eaf7e8f7e6f7e3f7e1f7dff7ddf7daf7d8f7d6f7d4f7d1f7cff7cdf7cbf7c9f7c6f7c4f7c2f7c0f7bdf7bbf7b9f7b7f7b4f7b2f7b0f7aef7acf7a9f7a7f7a5f7a3f7a0f79ef79cf79af797f795f793f791f78ff78cf78af788f786f783f781f77ff77df77af778f776f774f772f76ff76df76bf769f766f764f762f760f75df75bf759f757f755f752f750f74ef74cf749f747f745f743f740f73ef73cf73af738f735f733f731f72ff72cf72af728f726f724f721f71ff71df71bf718f716f714f712f70ff70df70bf709f707f704f702f700,
  0xfb78fb76fb74fb72fb6ffb6dfb6bfb69fb66fb64fb62fb60fb5dfb5bfb59fb57fb54fb52fb50fb4efb4bfb49fb47fb45fb42fb40fb3efb3cfb39fb37fb35fb33fb30fb2efb2cfb2afb27fb25fb23fb21fb1efb1cfb1afb18fb15fb13fb11fb0ffb0cfb0afb08fb06fb03fb01fafffafdfafafaf8faf6faf4faf1faeffaedfaebfae8fae6fae4fae2fadffaddfadbfad9fad6fad4fad2fad0facdfacbfac9fac7fac4fac2fac0fabefabbfab9fab7fab5fab2fab0faaefaacfaa9faa7faa5faa3faa0fa9efa9cfa9afa97fa95fa93fa91fa8efa8cfa8afa88fa85fa83fa81fa7ffa7cfa7afa78fa76fa73fa71fa6ffa6dfa6afa68fa66fa64fa61fa5ffa5dfa5bfa59fa56fa54fa52fa50fa4dfa4bfa49fa47fa44fa42fa40fa3efa3bfa39fa37fa35fa32fa30fa2efa2cfa29fa27fa25fa23fa20fa1efa1cfa1afa17fa15fa13fa11fa0efa0cfa0afa08fa05fa03fa01f9fff9fcf9faf9f8f9f6f9f4f9f1f9eff9edf9ebf9e8f9e6f9e4f9e2f9dff9ddf9dbf9d9f9d6f9d4f9d2f9d0f9cdf9cbf9c9f9c7f9c4f9c2f9c0f9bef9bbf9b9f9b7f9b5f9b2f9b0f9aef9acf9aaf9a7f9a5f9a3f9a1f99ef99cf99af998f995f993f991f98ff98cf98af988f986f983f981f97ff97df97af978f976f974f971f96ff96df96bf969f966f964f962f960f95df95bf959f957f954f952f950f94ef94bf949f947f945f942f940f93ef93c,
  0xfdbafdb8fdb6fdb3fdb1fdaffdadfdaafda8fda6fda4fda1fd9ffd9dfd9afd98fd96fd94fd91fd8ffd8dfd8bfd88fd86fd84fd82fd7ffd7dfd7bfd79fd76fd74fd72fd6ffd6dfd6bfd69fd66fd64fd62fd60fd5dfd5bfd59fd57fd54fd52fd50fd4efd4bfd49fd47fd45fd42fd40fd3efd3bfd39fd37fd35fd32fd30fd2efd2cfd29fd27fd25fd23fd20fd1efd1cfd1afd17fd15fd13fd11fd0efd0cfd0afd08fd05fd03fd01fcfefcfcfcfafcf8fcf5fcf3fcf1fceffcecfceafce8fce6fce3fce1fcdffcddfcdafcd8fcd6fcd4fcd1fccffccdfccbfcc8fcc6fcc4fcc1fcbffcbdfcbbfcb8fcb6fcb4fcb2fcaffcadfcabfca9fca6fca4fca2fca0fc9dfc9bfc99fc97fc94fc92fc90fc8efc8bfc89fc87fc85fc82fc80fc7efc7bfc79fc77fc75fc72fc70fc6efc6cfc69fc67fc65fc63fc60fc5efc5cfc5afc57fc55fc53fc51fc4efc4cfc4afc48fc45fc43fc41fc3ffc3cfc3afc38fc36fc33fc31fc2ffc2dfc2afc28fc26fc24fc21fc1ffc1dfc1bfc18fc16fc14fc11fc0ffc0dfc0bfc08fc06fc04fc02fbfffbfdfbfbfbf9fbf6fbf4fbf2fbf0fbedfbebfbe9fbe7fbe4fbe2fbe0fbdefbdbfbd9fbd7fbd5fbd2fbd0fbcefbccfbc9fbc7fbc5fbc3fbc0fbbefbbcfbbafbb7fbb5fbb3fbb1fbaefbacfbaafba8fba5fba3fba1fb9ffb9cfb9afb98fb96fb93fb91fb8ffb8dfb8afb88fb86fb84fb81fb7ffb7dfb7b,
  0xfffffffdfffafff8fff6fff4fff1ffefffedffebffe8ffe6ffe4ffe1ffdfffddffdbffd8ffd6ffd4ffd2ffcfffcdffcbffc8ffc6ffc4ffc2ffbfffbdffbbffb9ffb6ffb4ffb2ffafffadffabffa9ffa6ffa4ffa2ffa0ff9dff9bff99ff96ff94ff92ff90ff8dff8bff89ff86ff84ff82ff80ff7dff7bff79ff77ff74ff72ff70ff6eff6bff69ff67ff64ff62ff60ff5eff5bff59ff57ff55ff52ff50ff4eff4bff49ff47ff45ff42ff40ff3eff3cff39ff37ff35ff32ff30ff2eff2cff29ff27ff25ff23ff20ff1eff1cff19ff17ff15ff13ff10ff0eff0cff0aff07ff05ff03ff01fefefefcfefafef7fef5fef3fef1feeefeecfeeafee8fee5fee3fee1fedefedcfedafed8fed5fed3fed1fecffeccfecafec8fec6fec3fec1febffebcfebafeb8feb6feb3feb1feaffeadfeaafea8fea6fea3fea1fe9ffe9dfe9afe98fe96fe94fe91fe8ffe8dfe8bfe88fe86fe84fe81fe7ffe7dfe7bfe78fe76fe74fe72fe6ffe6dfe6bfe69fe66fe64fe62fe5ffe5dfe5bfe59fe56fe54fe52fe50fe4dfe4bfe49fe47fe44fe42fe40fe3dfe3bfe39fe37fe34fe32fe30fe2efe2bfe29fe27fe25fe22fe20fe1efe1cfe19fe17fe15fe12fe10fe0efe0cfe09fe07fe05fe03fe00fdfefdfcfdfafdf7fdf5fdf3fdf0fdeefdecfdeafde7fde5fde3fde1fddefddcfddafdd8fdd5fdd3fdd1fdcffdccfdcafdc8fdc5fdc3fdc1fdbffdbc]

/-- complete-domain check: end points fixed, every consecutive pair ordered -/
theorem srgb_fwd_u16_u16_ok : Fir.tableOk 65536 16 srgb_fwd_u16_u16 = true :=
  Fir.Proofs.tableOk_of_tableAsc (by decide +kernel)

end Fir.Gen.Color
