/-
  GENERATED by /verif/tools/extract_tables.py from the tables of the running implementation - do not edit.
-/
import Fir.Proofs.ColorLemmas
namespace Fir.Gen.Color

/-- table `gamma22_fwd_u8_u16` (256 entries of 16 bits), packed 256 entries per numeral -/
def gamma22_fwd_u8_u16 : List Nat := [
  0xfffffdcbfb9af96bf73ff515f2eef0caeea9ec8aea6ee854e63de429e217e008ddfcdbf2d9ebd7e6d5e4d3e5d1e8cfeecdf7cc02ca10c820c633c449c261c07bbe99bcb9badbb900b728b552b37fb1afafe1ae15ac4caa86a8c2a701a542a386a1cda0169e629cb09b00995497a99602945d92ba911a8f7c8de18c498ab3891f878e8600847482ea81647fdf7e5d7cde7b6179e6786e76f97586741572a7713c6fd36e6c6d086ba66a4768ea6790663864e2638f623f60f15fa55e5c5d155bd05a8e594f581256d7559f54695335520450d64fa94e7f4d584c334b1049f048d247b6469d45864471435f424f414240373f2e3e283d243c223b223a25392b3832373c364835573468337b329031a830c22fde2efd2e1e2d412c662b8e2ab829e429132843277626ac25e3251d2459239722d7221a215f20a61fef1f3a1e881dd81d2a1c7e1bd41b2d1a8819e5194418a51808176e16d5163f15ab1519148913fb137012e6125f11da115610d510560fd90f5e0ee50e6e0dfa0d870d160ca80c3b0bd00b680b010a9d0a3a09d9097b091e08c3086b081407bf076c071b06cc067f063305ea05a3055d051904d704970459041d03e303aa0373033e030b02d902a9027b024f022501fc01d501b0018c016a014a012b010e00f200d800c000a900940081006f005e004f00410035002a002000180011000b00070004000200000000]

/-- complete-domain check: end points fixed, every consecutive pair ordered -/
theorem gamma22_fwd_u8_u16_ok : Fir.tableOk 256 16 gamma22_fwd_u8_u16 = true :=
  Fir.Proofs.tableOk_of_tableAsc (by decide +kernel)

end Fir.Gen.Color
