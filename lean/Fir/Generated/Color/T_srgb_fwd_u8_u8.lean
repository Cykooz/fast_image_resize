/-
  GENERATED by /verif/tools/extract_tables.py from the tables of the running implementation - do not edit.
-/
import Fir.Proofs.ColorLemmas
namespace Fir.Gen.Color

/-- table `srgb_fwd_u8_u8` (256 entries of 8 bits), packed 256 entries per numeral -/
def srgb_fwd_u8_u8 : List Nat := [
  0xfffdfaf8f6f4f2efedebe9e7e5e2e0dedcdad8d6d4d2d0cecccac8c6c4c2c0bebcbab8b7b5b3b1afadabaaa8a6a4a3a19f9d9c9a9897959392908e8d8b8a8886858382807f7d7c7a797776747372706f6d6c6b69686765646361605f5d5c5b5a58575655545251504f4e4d4c4a494847464544434241403f3e3d3c3b3a39383736353433333231302f2e2d2d2c2b2a29292827262525242323222120201f1e1e1d1d1c1b1b1a19191818171716161514141313121211111110100f0f0e0e0d0d0d0c0c0c0b0b0a0a0a09090908080808070707060606060505050504040404040303030303030202020202020202010101010101010101010100000000000000]

/-- complete-domain check: end points fixed, every consecutive pair ordered -/
theorem srgb_fwd_u8_u8_ok : Fir.tableOk 256 8 srgb_fwd_u8_u8 = true :=
  Fir.Proofs.tableOk_of_tableAsc (by decide +kernel)

end Fir.Gen.Color
