/-
  GENERATED by /verif/tools/extract_tables.py from the tables of the running implementation - do not edit.
-/
import Fir.Proofs.ColorLemmas
namespace Fir.Gen.Color

/-- table `gamma22_bwd_u16_u16` (65536 entries of 16 bits), packed 256 entries per numeral -/
def gamma22_bwd_u16_u16 : List Nat := [
  0x148d1483147a14711467145e1454144b14411438142e1424141b1411140713fe13f413ea13e113d713cd13c313b913b013a6139c13921388137e1374136a13601356134c13411337132d13231319130e130412fa12f012e512db12d012c612bb12b112a6129c12911287127c12711267125c12511246123c12311226121b1210120511fa11ef11e411d911ce11c311b811ac11a11196118a117f11741168115d11511146113a112f11231117110c110010f410e810dc10d010c410b810ac10a010941088107c107010631057104b103e103210251019100c10000ff30fe60fd90fcd0fc00fb30fa60f990f8c0f7e0f710f640f570f490f3c0f2f0f210f130f060ef80eea0edd0ecf0ec10eb30ea50e970e880e7a0e6c0e5e0e4f0e410e320e230e150e060df70de80dd90dca0dbb0dab0d9c0d8d0d7d0d6e0d5e0d4e0d3e0d2e0d1e0d0e0cfe0cee0cdd0ccd0cbc0cac0c9b0c8a0c790c680c560c450c340c220c100bff0bed0bda0bc80bb60ba30b910b7e0b6b0b580b450b320b1e0b0a0af60ae20ace0aba0aa50a910a7c0a670a510a3c0a260a1009fa09e309cd09b6099e0987096f0957093f0926090d08f408db08c108a6088c087108550839081d080007e307c507a60787076807480727070506e306bf069b067606500629060005d605ab057e0550051f04ec04b7047f0443040203bd0371031c02ba024501a80000,
  0x1c301c291c231c1c1c161c0f1c091c021bfc1bf51bef1be91be21bdb1bd51bce1bc81bc11bbb1bb41bae1ba71ba11b9a1b931b8d1b861b801b791b721b6c1b651b5f1b581b511b4b1b441b3d1b361b301b291b221b1c1b151b0e1b071b011afa1af31aec1ae61adf1ad81ad11aca1ac41abd1ab61aaf1aa81aa11a9a1a941a8d1a861a7f1a781a711a6a1a631a5c1a551a4e1a471a401a391a321a2b1a241a1d1a161a0f1a081a0119fa19f319ec19e519de19d619cf19c819c119ba19b319ab19a4199d1996198f1987198019791972196a1963195c1955194d1946193f1937193019291921191a1913190b190418fc18f518ee18e618df18d718d018c818c118b918b218aa18a3189b1894188c1884187d1875186e1866185e1857184f18471840183818301828182118191811180a180217fa17f217ea17e317db17d317cb17c317bb17b317ab17a3179c1794178c1784177c1774176c1764175c1754174c1743173b1733172b1723171b1713170b170216fa16f216ea16e216d916d116c916c016b816b016a7169f1697168e1686167e1675166d1664165c1653164b1642163a1631162916201618160f160615fe15f515ec15e415db15d215c915c115b815af15a6159e1595158c1583157a15711568155f1556154d1544153b1532152915201517150e150514fc14f314ea14e014d714ce14c514bb14b214a9149f1496,
  0x21e621e121dc21d721d221cd21c721c221bd21b821b321ae21a821a3219e21992194218e21892184217f217a2174216f216a2165215f215a21552150214a21452140213b21352130212b21262120211b21162110210b2106210020fb20f620f020eb20e620e020db20d620d020cb20c620c020bb20b620b020ab20a620a0209b20952090208b20852080207a20752070206a2065205f205a2054204f20492044203f20392034202e20292023201e20182013200d200820021ffd1ff71ff21fec1fe71fe11fdc1fd61fd01fcb1fc51fc01fba1fb51faf1fa91fa41f9e1f991f931f8e1f881f821f7d1f771f711f6c1f661f611f5b1f551f501f4a1f441f3f1f391f331f2e1f281f221f1c1f171f111f0b1f061f001efa1ef41eef1ee91ee31edd1ed81ed21ecc1ec61ec11ebb1eb51eaf1ea91ea41e9e1e981e921e8c1e871e811e7b1e751e6f1e691e631e5e1e581e521e4c1e461e401e3a1e341e2e1e291e231e1d1e171e111e0b1e051dff1df91df31ded1de71de11ddb1dd51dcf1dc91dc31dbd1db71db11dab1da51d9f1d991d931d8d1d871d811d7b1d741d6e1d681d621d5c1d561d501d4a1d441d3d1d371d311d2b1d251d1f1d181d121d0c1d061d001cfa1cf31ced1ce71ce11cda1cd41cce1cc81cc11cbb1cb51caf1ca81ca21c9c1c951c8f1c891c821c7c1c761c6f1c691c631c5c1c561c501c491c431c3c1c36,
  0x26a426a0269b26972693268e268a26852681267d26782674266f266b26662662265e265926552650264c26472643263e263a26362631262d26282624261f261b26162612260d26092604260025fb25f725f225ee25e925e525e025dc25d725d325ce25ca25c525c125bc25b825b325af25aa25a625a1259d25982594258f258a25862581257d25782574256f256b25662561255d25582554254f254b25462541253d25382534252f252a25262521251d25182513250f250a2505250124fc24f824f324ee24ea24e524e024dc24d724d224ce24c924c424c024bb24b624b224ad24a824a4249f249a24962491248c24872483247e247924752470246b24662462245d24582454244f244a24452441243c24372432242e24292424241f241b24162411240c2407240323fe23f923f423f023eb23e623e123dc23d823d323ce23c923c423bf23bb23b623b123ac23a723a2239e23992394238f238a23852380237c23772372236d23682363235e235923552350234b23462341233c23372332232d23282323231e231a23152310230b2306230122fc22f722f222ed22e822e322de22d922d422cf22ca22c522c022bb22b622b122ac22a722a2229d22982293228e22892284227f227a22752270226b22662261225c22572252224d22472242223d22382233222e22292224221f221a2215220f220a2205220021fb21f621f121ec,
  0x2ac52ac12abd2ab92ab62ab22aae2aaa2aa62aa22a9e2a9a2a962a922a8f2a8b2a872a832a7f2a7b2a772a732a6f2a6b2a672a632a5f2a5b2a582a542a502a4c2a482a442a402a3c2a382a342a302a2c2a282a242a202a1c2a182a142a102a0c2a082a042a0029fd29f929f529f129ed29e929e529e129dd29d929d529d129cd29c929c529c129bd29b929b529b129ad29a929a529a1299d299829942990298c298829842980297c297829742970296c296829642960295c295829542950294c294829442940293b29372933292f292b29272923291f291b29172913290f290b2906290228fe28fa28f628f228ee28ea28e628e228dd28d928d528d128cd28c928c528c128bd28b828b428b028ac28a828a428a0289b28972893288f288b28872883287e287a28762872286e286a28652861285d285928552851284c284828442840283c28372833282f282b28272822281e281a28162812280d28092805280127fd27f827f427f027ec27e727e327df27db27d727d227ce27ca27c627c127bd27b927b527b027ac27a827a4279f279b27972792278e278a27862781277d277927752770276c27682763275f275b27562752274e274a27452741273d273827342730272b27272723271e271a27162711270d27092704270026fc26f726f326ef26ea26e626e226dd26d926d426d026cc26c726c326bf26ba26b626b126ad26a9,
  0x2e782e742e712e6d2e6a2e662e632e5f2e5c2e582e552e512e4e2e4a2e462e432e3f2e3c2e382e352e312e2e2e2a2e272e232e1f2e1c2e182e152e112e0e2e0a2e072e032dff2dfc2df82df52df12dee2dea2de62de32ddf2ddc2dd82dd52dd12dcd2dca2dc62dc32dbf2dbb2db82db42db12dad2da92da62da22d9f2d9b2d972d942d902d8d2d892d852d822d7e2d7b2d772d732d702d6c2d682d652d612d5e2d5a2d562d532d4f2d4b2d482d442d412d3d2d392d362d322d2e2d2b2d272d232d202d1c2d182d152d112d0e2d0a2d062d032cff2cfb2cf82cf42cf02ced2ce92ce52ce22cde2cda2cd72cd32ccf2ccc2cc82cc42cc02cbd2cb92cb52cb22cae2caa2ca72ca32c9f2c9c2c982c942c902c8d2c892c852c822c7e2c7a2c762c732c6f2c6b2c682c642c602c5c2c592c552c512c4e2c4a2c462c422c3f2c3b2c372c332c302c2c2c282c242c212c1d2c192c152c122c0e2c0a2c062c032bff2bfb2bf72bf42bf02bec2be82be42be12bdd2bd92bd52bd22bce2bca2bc62bc22bbf2bbb2bb72bb32bb02bac2ba82ba42ba02b9d2b992b952b912b8d2b8a2b862b822b7e2b7a2b762b732b6f2b6b2b672b632b602b5c2b582b542b502b4c2b492b452b412b3d2b392b352b312b2e2b2a2b262b222b1e2b1a2b172b132b0f2b0b2b072b032aff2afb2af82af42af02aec2ae82ae42ae02adc2ad92ad52ad12acd2ac9,
  0x31d831d531d131ce31cb31c831c431c131be31bb31b731b431b131ae31aa31a731a431a1319d319a319731943190318d318a318731833180317d317a317631733170316c316931663163315f315c315931563152314f314c314831453142313f313b313831353131312e312b312831243121311e311a311731143110310d310a31073103310030fd30f930f630f330ef30ec30e930e530e230df30dc30d830d530d230ce30cb30c830c430c130be30ba30b730b430b030ad30aa30a630a330a0309c309930963092308f308c308830853082307e307b307830743071306e306a306730633060305d305930563053304f304c304930453042303e303b303830343031302e302a302730233020301d301930163013300f300c3008300530022ffe2ffb2ff82ff42ff12fed2fea2fe72fe32fe02fdc2fd92fd62fd22fcf2fcb2fc82fc52fc12fbe2fba2fb72fb32fb02fad2fa92fa62fa22f9f2f9c2f982f952f912f8e2f8a2f872f842f802f7d2f792f762f722f6f2f6c2f682f652f612f5e2f5a2f572f532f502f4d2f492f462f422f3f2f3b2f382f342f312f2d2f2a2f272f232f202f1c2f192f152f122f0e2f0b2f072f042f002efd2ef92ef62ef22eef2eec2ee82ee52ee12ede2eda2ed72ed32ed02ecc2ec92ec52ec22ebe2ebb2eb72eb42eb02ead2ea92ea62ea22e9f2e9b2e982e942e912e8d2e8a2e862e822e7f2e7b,
  0x34f734f434f134ee34eb34e834e534e234df34dc34d934d634d334d034cd34ca34c734c334c034bd34ba34b734b434b134ae34ab34a834a534a2349f349c3499349634933490348d348a348734843481347e347b347834753472346e346b346834653462345f345c3459345634533450344d344a344734443441343e343b343734343431342e342b342834253422341f341c3419341634133410340d340934063403340033fd33fa33f733f433f133ee33eb33e833e433e133de33db33d833d533d233cf33cc33c933c633c233bf33bc33b933b633b333b033ad33aa33a733a433a0339d339a339733943391338e338b338833843381337e337b337833753372336f336b336833653362335f335c335933563353334f334c3349334633433340333d3339333633333330332d332a332733243320331d331a331733143311330e330a33073304330132fe32fb32f732f432f132ee32eb32e832e532e132de32db32d832d532d232ce32cb32c832c532c232bf32bb32b832b532b232af32ac32a832a532a2329f329c329832953292328f328c328932853282327f327c327932753272326f326c326932653262325f325c325932553252324f324c324932453242323f323c323932353232322f322c322932253222321f321c321832153212320f320c32083205320231ff31fb31f831f531f231ef31eb31e831e531e231de31db,
  0x37e137de37db37d837d637d337d037cd37ca37c737c537c237bf37bc37b937b637b437b137ae37ab37a837a537a337a0379d379a379737943792378f378c3789378637833780377e377b377837753772376f376d376a376737643761375e375b3759375637533750374d374a374737453742373f373c3739373637333730372e372b372837253722371f371c371a371737143711370e370b370837053703370036fd36fa36f736f436f136ee36ec36e936e636e336e036dd36da36d736d436d236cf36cc36c936c636c336c036bd36ba36b736b536b236af36ac36a936a636a336a0369d369b369836953692368f368c3689368636833680367d367b367836753672366f366c3669366636633660365d365a365836553652364f364c3649364636433640363d363a363736343632362f362c3629362636233620361d361a361736143611360e360b360836063603360035fd35fa35f735f435f135ee35eb35e835e535e235df35dc35d935d635d335d035ce35cb35c835c535c235bf35bc35b935b635b335b035ad35aa35a735a435a1359e359b359835953592358f358c3589358635833580357d357a357835753572356f356c3569356635633560355d355a355735543551354e354b354835453542353f353c3539353635333530352d352a352735243521351e351b351835153512350f350c350935063503350034fd34fa,
  0x3a9f3a9c3a9a3a973a943a923a8f3a8c3a8a3a873a843a823a7f3a7c3a793a773a743a713a6f3a6c3a693a673a643a613a5f3a5c3a593a573a543a513a4f3a4c3a493a473a443a413a3f3a3c3a393a363a343a313a2e3a2c3a293a263a243a213a1e3a1c3a193a163a133a113a0e3a0b3a093a063a033a0139fe39fb39f839f639f339f039ee39eb39e839e639e339e039dd39db39d839d539d339d039cd39ca39c839c539c239c039bd39ba39b739b539b239af39ad39aa39a739a439a2399f399c399a399739943991398f398c3989398739843981397e397c3979397639733971396e396b3968396639633960395e395b3958395539533950394d394a394839453942393f393d393a393739343932392f392c3929392739243921391e391c3919391639133911390e390b390839063903390038fd38fb38f838f538f238f038ed38ea38e738e538e238df38dc38da38d738d438d138ce38cc38c938c638c338c138be38bb38b838b638b338b038ad38aa38a838a538a2389f389d389a389738943891388f388c3889388638833881387e387b3878387638733870386d386a386838653862385f385c385a385738543851384e384c3849384638433840383e383b3838383538323830382d382a382738243822381f381c3819381638143811380e380b380838053803380037fd37fa37f737f537f237ef37ec37e937e637e4,
  0x3d383d353d323d303d2d3d2b3d283d263d233d213d1e3d1c3d193d173d143d123d0f3d0c3d0a3d073d053d023d003cfd3cfb3cf83cf63cf33cf13cee3ceb3ce93ce63ce43ce13cdf3cdc3cda3cd73cd43cd23ccf3ccd3cca3cc83cc53cc33cc03cbe3cbb3cb83cb63cb33cb13cae3cac3ca93ca73ca43ca13c9f3c9c3c9a3c973c953c923c8f3c8d3c8a3c883c853c833c803c7d3c7b3c783c763c733c713c6e3c6c3c693c663c643c613c5f3c5c3c5a3c573c543c523c4f3c4d3c4a3c473c453c423c403c3d3c3b3c383c353c333c303c2e3c2b3c293c263c233c213c1e3c1c3c193c163c143c113c0f3c0c3c093c073c043c023bff3bfd3bfa3bf73bf53bf23bf03bed3bea3be83be53be33be03bdd3bdb3bd83bd63bd33bd03bce3bcb3bc93bc63bc33bc13bbe3bbc3bb93bb63bb43bb13bae3bac3ba93ba73ba43ba13b9f3b9c3b9a3b973b943b923b8f3b8d3b8a3b873b853b823b7f3b7d3b7a3b783b753b723b703b6d3b6a3b683b653b633b603b5d3b5b3b583b553b533b503b4e3b4b3b483b463b433b403b3e3b3b3b393b363b333b313b2e3b2b3b293b263b233b213b1e3b1c3b193b163b143b113b0e3b0c3b093b063b043b013afe3afc3af93af73af43af13aef3aec3ae93ae73ae43ae13adf3adc3ad93ad73ad43ad13acf3acc3ac93ac73ac43ac13abf3abc3ab93ab73ab43ab23aaf3aac3aaa3aa73aa43aa2,
  0x3fb03fae3fab3fa93fa63fa43fa23f9f3f9d3f9a3f983f953f933f913f8e3f8c3f893f873f853f823f803f7d3f7b3f783f763f743f713f6f3f6c3f6a3f673f653f633f603f5e3f5b3f593f563f543f523f4f3f4d3f4a3f483f453f433f413f3e3f3c3f393f373f343f323f303f2d3f2b3f283f263f233f213f1e3f1c3f1a3f173f153f123f103f0d3f0b3f083f063f043f013eff3efc3efa3ef73ef53ef23ef03eee3eeb3ee93ee63ee43ee13edf3edc3eda3ed83ed53ed33ed03ece3ecb3ec93ec63ec43ec13ebf3ebd3eba3eb83eb53eb33eb03eae3eab3ea93ea63ea43ea13e9f3e9d3e9a3e983e953e933e903e8e3e8b3e893e863e843e813e7f3e7c3e7a3e783e753e733e703e6e3e6b3e693e663e643e613e5f3e5c3e5a3e573e553e523e503e4d3e4b3e493e463e443e413e3f3e3c3e3a3e373e353e323e303e2d3e2b3e283e263e233e213e1e3e1c3e193e173e143e123e0f3e0d3e0a3e083e053e033e003dfe3dfb3df93df63df43df13def3dec3dea3de83de53de33de03dde3ddb3dd93dd63dd43dd13dcf3dcc3dca3dc73dc53dc23dbf3dbd3dba3db83db53db33db03dae3dab3da93da63da43da13d9f3d9c3d9a3d973d953d923d903d8d3d8b3d883d863d833d813d7e3d7c3d793d773d743d723d6f3d6d3d6a3d683d653d633d603d5d3d5b3d583d563d533d513d4e3d4c3d493d473d443d423d3f3d3d3d3a,
  0x420c420a420842054203420141fe41fc41fa41f841f541f341f141ee41ec41ea41e741e541e341e041de41dc41d941d741d541d241d041ce41cb41c941c741c541c241c041be41bb41b941b741b441b241b041ad41ab41a941a641a441a2419f419d419b4198419641944191418f418d418a4188418641834181417f417c417a4178417541734171416e416c416a4167416541634160415e415c41594157415541524150414e414b41494147414441424140413d413b4139413641344131412f412d412a4128412641234121411f411c411a4118411541134111410e410c410a410741054102410040fe40fb40f940f740f440f240f040ed40eb40e940e640e440e140df40dd40da40d840d640d340d140cf40cc40ca40c740c540c340c040be40bc40b940b740b540b240b040ad40ab40a940a640a440a2409f409d409a4098409640934091408f408c408a4087408540834080407e407c40794077407440724070406d406b4069406640644061405f405d405a4058405640534051404e404c404a4047404540424040403e403b4039403640344032402f402d402b4028402640234021401f401c401a4017401540134010400e400b40094007400440023fff3ffd3ffb3ff83ff63ff33ff13fef3fec3fea3fe73fe53fe33fe03fde3fdb3fd93fd73fd43fd23fcf3fcd3fcb3fc83fc63fc33fc13fbe3fbc3fba3fb73fb53fb2,
  0x4450444e444b44494447444544424440443e443c443a4437443544334431442e442c442a4428442644234421441f441d441a4418441644144412440f440d440b4409440644044402440043fd43fb43f943f743f543f243f043ee43ec43e943e743e543e343e043de43dc43da43d743d543d343d143cf43cc43ca43c843c643c343c143bf43bd43ba43b843b643b443b143af43ad43ab43a843a643a443a2439f439d439b43994396439443924390438d438b43894387438443824380437e437b43794377437543724370436e436c43694367436543634360435e435c435a4357435543534351434e434c434a4348434543434341433f433c433a4338433543334331432f432c432a4328432643234321431f431d431a4318431643144311430f430d430a430843064304430142ff42fd42fb42f842f642f442f142ef42ed42eb42e842e642e442e242df42dd42db42d842d642d442d242cf42cd42cb42c842c642c442c242bf42bd42bb42b942b642b442b242af42ad42ab42a942a642a442a2429f429d429b4299429642944292428f428d428b4289428642844282427f427d427b4278427642744272426f426d426b4268426642644262425f425d425b4258425642544251424f424d424b4248424642444241423f423d423a4238423642344231422f422d422a4228422642234221421f421c421a4218421642134211420f,
  0x467d467b46794677467446724670466e466c466a4668466546634661465f465d465b46594657465446524650464e464c464a4648464546434641463f463d463b46384636463446324630462e462c46294627462546234621461f461d461a46184616461446124610460e460b4609460746054603460145fe45fc45fa45f845f645f445f145ef45ed45eb45e945e745e545e245e045de45dc45da45d845d545d345d145cf45cd45cb45c845c645c445c245c045be45bb45b945b745b545b345b145ae45ac45aa45a845a645a445a1459f459d459b45994597459445924590458e458c458a4587458545834581457f457d457a45784576457445724570456d456b45694567456545624560455e455c455a4558455545534551454f454d454b45484546454445424540453d453b45394537453545324530452e452c452a4528452545234521451f451d451a45184516451445124510450d450b4509450745054502450044fe44fc44fa44f744f544f344f144ef44ec44ea44e844e644e444e144df44dd44db44d944d644d444d244d044ce44cb44c944c744c544c344c044be44bc44ba44b844b544b344b144af44ad44aa44a844a644a444a2449f449d449b44994497449444924490448e448c44894487448544834480447e447c447a4478447544734471446f446d446a4468446644644461445f445d445b4459445644544452,
  0x4896489448924890488e488c488a48884886488448824880487e487c48794877487548734871486f486d486b48694867486548634861485f485c485a48584856485448524850484e484c484a4848484648444842483f483d483b48394837483548334831482f482d482b48294827482448224820481e481c481a48184816481448124810480e480c4809480748054803480147ff47fd47fb47f947f747f547f347f047ee47ec47ea47e847e647e447e247e047de47dc47da47d747d547d347d147cf47cd47cb47c947c747c547c347c047be47bc47ba47b847b647b447b247b047ae47ac47a947a747a547a347a1479f479d479b47994797479447924790478e478c478a4788478647844782477f477d477b47794777477547734771476f476d476a47684766476447624760475e475c475a4757475547534751474f474d474b47494747474547424740473e473c473a4738473647344732472f472d472b47294727472547234721471f471c471a47184716471447124710470e470b4709470747054703470146ff46fd46fb46f846f646f446f246f046ee46ec46ea46e746e546e346e146df46dd46db46d946d646d446d246d046ce46cc46ca46c846c546c346c146bf46bd46bb46b946b746b446b246b046ae46ac46aa46a846a646a346a1469f469d469b46994697469546924690468e468c468a4688468646834681467f,
  0x4a9e4a9c4a9a4a984a964a944a924a904a8e4a8c4a8a4a884a864a844a824a804a7e4a7c4a7a4a784a764a744a724a704a6e4a6c4a6a4a684a664a644a624a604a5e4a5c4a5a4a584a564a544a524a504a4e4a4c4a4a4a484a464a444a424a404a3e4a3c4a3a4a384a364a344a324a304a2e4a2c4a2a4a274a254a234a214a1f4a1d4a1b4a194a174a154a134a114a0f4a0d4a0b4a094a074a054a034a0149ff49fd49fb49f949f749f549f349f149ef49ed49eb49e949e749e549e349e149df49dd49db49d949d749d549d349d149cf49cd49cb49c949c749c549c349c149bf49bd49bb49b949b749b449b249b049ae49ac49aa49a849a649a449a249a0499e499c499a49984996499449924990498e498c498a49884986498449824980497e497c497a4978497649744972496f496d496b49694967496549634961495f495d495b49594957495549534951494f494d494b49494947494549434941493f493d493b49384936493449324930492e492c492a49284926492449224920491e491c491a49184916491449124910490e490b4909490749054903490148ff48fd48fb48f948f748f548f348f148ef48ed48eb48e948e748e548e248e048de48dc48da48d848d648d448d248d048ce48cc48ca48c848c648c448c248c048be48bb48b948b748b548b348b148af48ad48ab48a948a748a548a348a1489f489d489a4898,
  0x4c954c934c914c8f4c8d4c8b4c894c874c854c834c814c7f4c7d4c7b4c794c784c764c744c724c704c6e4c6c4c6a4c684c664c644c624c604c5e4c5c4c5a4c584c574c554c534c514c4f4c4d4c4b4c494c474c454c434c414c3f4c3d4c3b4c394c374c364c344c324c304c2e4c2c4c2a4c284c264c244c224c204c1e4c1c4c1a4c184c164c144c124c114c0f4c0d4c0b4c094c074c054c034c014bff4bfd4bfb4bf94bf74bf54bf34bf14bef4bed4beb4be94be84be64be44be24be04bde4bdc4bda4bd84bd64bd44bd24bd04bce4bcc4bca4bc84bc64bc44bc24bc04bbe4bbc4bba4bb94bb74bb54bb34bb14baf4bad4bab4ba94ba74ba54ba34ba14b9f4b9d4b9b4b994b974b954b934b914b8f4b8d4b8b4b894b874b854b834b824b804b7e4b7c4b7a4b784b764b744b724b704b6e4b6c4b6a4b684b664b644b624b604b5e4b5c4b5a4b584b564b544b524b504b4e4b4c4b4a4b484b464b444b424b404b3f4b3d4b3b4b394b374b354b334b314b2f4b2d4b2b4b294b274b254b234b214b1f4b1d4b1b4b194b174b154b134b114b0f4b0d4b0b4b094b074b054b034b014aff4afd4afb4af94af74af54af34af14aef4aed4aeb4ae94ae74ae54ae34ae14adf4add4adb4ad94ad74ad54ad34ad14acf4acd4acc4aca4ac84ac64ac44ac24ac04abe4abc4aba4ab84ab64ab44ab24ab04aae4aac4aaa4aa84aa64aa44aa24aa0,
  0x4e7c4e7b4e794e774e754e734e714e6f4e6d4e6c4e6a4e684e664e644e624e604e5e4e5c4e5b4e594e574e554e534e514e4f4e4d4e4c4e4a4e484e464e444e424e404e3e4e3c4e3b4e394e374e354e334e314e2f4e2d4e2b4e2a4e284e264e244e224e204e1e4e1c4e1b4e194e174e154e134e114e0f4e0d4e0b4e094e084e064e044e024e004dfe4dfc4dfa4df84df74df54df34df14def4ded4deb4de94de74de64de44de24de04dde4ddc4dda4dd84dd64dd44dd34dd14dcf4dcd4dcb4dc94dc74dc54dc34dc14dc04dbe4dbc4dba4db84db64db44db24db04dae4dad4dab4da94da74da54da34da14d9f4d9d4d9b4d9a4d984d964d944d924d904d8e4d8c4d8a4d884d864d854d834d814d7f4d7d4d7b4d794d774d754d734d724d704d6e4d6c4d6a4d684d664d644d624d604d5e4d5d4d5b4d594d574d554d534d514d4f4d4d4d4b4d494d474d464d444d424d404d3e4d3c4d3a4d384d364d344d324d314d2f4d2d4d2b4d294d274d254d234d214d1f4d1d4d1b4d194d184d164d144d124d104d0e4d0c4d0a4d084d064d044d024d014cff4cfd4cfb4cf94cf74cf54cf34cf14cef4ced4ceb4ce94ce84ce64ce44ce24ce04cde4cdc4cda4cd84cd64cd44cd24cd04cce4ccd4ccb4cc94cc74cc54cc34cc14cbf4cbd4cbb4cb94cb74cb54cb34cb24cb04cae4cac4caa4ca84ca64ca44ca24ca04c9e4c9c4c9a4c984c97,
  0x5057505550535051504f504d504c504a50485046504450425041503f503d503b503950375036503450325030502e502c502b502950275025502350215020501e501c501a50185016501550135011500f500d500b500a500850065004500250004fff4ffd4ffb4ff94ff74ff54ff44ff24ff04fee4fec4fea4fe94fe74fe54fe34fe14fdf4fde4fdc4fda4fd84fd64fd44fd34fd14fcf4fcd4fcb4fc94fc74fc64fc44fc24fc04fbe4fbc4fbb4fb94fb74fb54fb34fb14fb04fae4fac4faa4fa84fa64fa44fa34fa14f9f4f9d4f9b4f994f984f964f944f924f904f8e4f8c4f8b4f894f874f854f834f814f7f4f7e4f7c4f7a4f784f764f744f734f714f6f4f6d4f6b4f694f674f664f644f624f604f5e4f5c4f5a4f594f574f554f534f514f4f4f4d4f4c4f4a4f484f464f444f424f404f3f4f3d4f3b4f394f374f354f334f324f304f2e4f2c4f2a4f284f264f254f234f214f1f4f1d4f1b4f194f184f164f144f124f104f0e4f0c4f0b4f094f074f054f034f014eff4efe4efc4efa4ef84ef64ef44ef24ef04eef4eed4eeb4ee94ee74ee54ee34ee24ee04ede4edc4eda4ed84ed64ed44ed34ed14ecf4ecd4ecb4ec94ec74ec64ec44ec24ec04ebe4ebc4eba4eb84eb74eb54eb34eb14eaf4ead4eab4ea94ea84ea64ea44ea24ea04e9e4e9c4e9a4e994e974e954e934e914e8f4e8d4e8b4e8a4e884e864e844e824e804e7e,
  0x522452225220521e521d521b521952175216521452125210520e520d520b52095207520652045202520051fe51fd51fb51f951f751f651f451f251f051ee51ed51eb51e951e751e551e451e251e051de51dd51db51d951d751d551d451d251d051ce51cc51cb51c951c751c551c451c251c051be51bc51bb51b951b751b551b351b251b051ae51ac51aa51a951a751a551a351a251a0519e519c519a519951975195519351915190518e518c518a51885187518551835181517f517e517c517a51785176517551735171516f516d516c516a51685166516451635161515f515d515b515a51585156515451525151514f514d514b514951485146514451425140513f513d513b513951375136513451325130512e512d512b512951275125512451225120511e511c511b511951175115511351125110510e510c510a51095107510551035101510050fe50fc50fa50f850f650f550f350f150ef50ed50ec50ea50e850e650e450e350e150df50dd50db50d950d850d650d450d250d050cf50cd50cb50c950c750c650c450c250c050be50bc50bb50b950b750b550b350b250b050ae50ac50aa50a850a750a550a350a1509f509e509c509a50985096509450935091508f508d508b508a50885086508450825080507f507d507b507950775076507450725070506e506c506b506950675065506350615060505e505c505a5058,
  0x53e553e453e253e053de53dd53db53d953d753d653d453d253d053cf53cd53cb53c953c853c653c453c353c153bf53bd53bc53ba53b853b653b553b353b153af53ae53ac53aa53a853a753a553a353a253a0539e539c539b539953975395539453925390538e538d538b538953875386538453825380537f537d537b537953785376537453725371536f536d536b536a53685366536553635361535f535e535c535a535853575355535353515350534e534c534a534953475345534353425340533e533c533b533953375335533453325330532e532d532b532953275326532453225320531f531d531b531953185316531453125310530f530d530b53095308530653045302530152ff52fd52fb52fa52f852f652f452f352f152ef52ed52ec52ea52e852e652e552e352e152df52de52dc52da52d852d652d552d352d152cf52ce52cc52ca52c852c752c552c352c152c052be52bc52ba52b952b752b552b352b152b052ae52ac52aa52a952a752a552a352a252a0529e529c529b529952975295529352925290528e528c528b528952875285528452825280527e527c527b527952775275527452725270526e526d526b526952675265526452625260525e525d525b525952575256525452525250524e524d524b524952475246524452425240523e523d523b523952375236523452325230522e522d522b522952275226,
  0x559c559a559855975595559355925590558e558c558b558955875586558455825581557f557d557c557a557855765575557355715570556e556c556b556955675565556455625560555f555d555b555a55585556555455535551554f554e554c554a554955475545554455425540553e553d553b553955385536553455325531552f552d552c552a552855275525552355215520551e551c551b551955175516551455125510550f550d550b550a5508550655045503550154ff54fe54fc54fa54f954f754f554f354f254f054ee54ed54eb54e954e754e654e454e254e154df54dd54db54da54d854d654d554d354d154d054ce54cc54ca54c954c754c554c454c254c054be54bd54bb54b954b854b654b454b254b154af54ad54ac54aa54a854a654a554a354a154a0549e549c549a549954975495549454925490548e548d548b548954875486548454825481547f547d547b547a54785476547554735471546f546e546c546a546954675465546354625460545e545c545b545954575456545454525450544f544d544b544a54485446544454435441543f543d543c543a543854375435543354315430542e542c542a542954275425542454225420541e541d541b541954175416541454125411540f540d540b540a5408540654045403540153ff53fe53fc53fa53f853f753f553f353f153f053ee53ec53ea53e953e7,
  0x574857465745574357415740573e573c573b573957375736573457325731572f572d572c572a572857275725572357225720571e571d571b571a571857165715571357115710570e570c570b57095707570657045702570156ff56fd56fc56fa56f856f756f556f356f256f056ee56ed56eb56e956e856e656e456e356e156df56de56dc56da56d956d756d556d456d256d056cf56cd56cb56ca56c856c656c556c356c156c056be56bc56bb56b956b756b656b456b256b156af56ad56ac56aa56a856a756a556a356a256a0569e569d569b569956985696569456935691568f568e568c568a568956875685568456825680567f567d567b567a567856765675567356715670566e566c566b566956675666566456625661565f565d565c565a565856575655565356525650564e564d564b564956475646564456425641563f563d563c563a563856375635563356325630562e562d562b562956285626562456235621561f561e561c561a561856175615561356125610560e560d560b56095608560656045603560155ff55fe55fc55fa55f955f755f555f355f255f055ee55ed55eb55e955e855e655e455e355e155df55de55dc55da55d955d755d555d355d255d055ce55cd55cb55c955c855c655c455c355c155bf55be55bc55ba55b855b755b555b355b255b055ae55ad55ab55a955a855a655a455a255a1559f559d,
  0x58ea58e958e758e658e458e258e158df58dd58dc58da58d958d758d558d458d258d158cf58cd58cc58ca58c858c758c558c458c258c058bf58bd58bb58ba58b858b758b558b358b258b058ae58ad58ab58aa58a858a658a558a358a258a0589e589d589b5899589858965895589358915890588e588c588b588958885886588458835881587f587e587c587b587958775876587458725871586f586d586c586a586958675865586458625860585f585d585c585a585858575855585358525850584f584d584b584a584858465845584358425840583e583d583b5839583858365834583358315830582e582c582b582958275826582458225821581f581e581c581a581958175815581458125810580f580d580c580a58085807580558035802580057fe57fd57fb57fa57f857f657f557f357f157f057ee57ec57eb57e957e857e657e457e357e157df57de57dc57da57d957d757d657d457d257d157cf57cd57cc57ca57c857c757c557c357c257c057bf57bd57bb57ba57b857b657b557b357b157b057ae57ac57ab57a957a857a657a457a357a1579f579e579c579a579957975795579457925790578f578d578c578a578857875785578357825780577e577d577b5779577857765774577357715770576e576c576b576957675766576457625761575f575d575c575a575857575755575357525750574e574d574b574a,
  0x5a845a825a815a7f5a7e5a7c5a7a5a795a775a765a745a725a715a6f5a6e5a6c5a6b5a695a675a665a645a635a615a5f5a5e5a5c5a5b5a595a585a565a545a535a515a505a4e5a4c5a4b5a495a485a465a445a435a415a405a3e5a3d5a3b5a395a385a365a355a335a315a305a2e5a2d5a2b5a295a285a265a255a235a225a205a1e5a1d5a1b5a1a5a185a165a155a135a125a105a0e5a0d5a0b5a0a5a085a065a055a035a025a0059ff59fd59fb59fa59f859f759f559f359f259f059ef59ed59eb59ea59e859e759e559e359e259e059df59dd59db59da59d859d759d559d359d259d059cf59cd59cb59ca59c859c759c559c359c259c059bf59bd59bb59ba59b859b759b559b359b259b059af59ad59ab59aa59a859a759a559a359a259a0599f599d599b599a599859975995599359925990598f598d598b598a598859875985598359825980597f597d597b597a597859775975597359725970596f596d596b596a596859675965596359625960595e595d595b595a595859565955595359525950594e594d594b594a594859465945594359425940593e593d593b5939593859365935593359315930592e592d592b5929592859265925592359215920591e591c591b5919591859165914591359115910590e590c590b59095907590659045903590158ff58fe58fc58fb58f958f758f658f458f258f158ef58ee58ec,
  0x5c155c135c125c105c0f5c0d5c0c5c0a5c095c075c055c045c025c015bff5bfe5bfc5bfb5bf95bf75bf65bf45bf35bf15bf05bee5bed5beb5be95be85be65be55be35be25be05bdf5bdd5bdb5bda5bd85bd75bd55bd45bd25bd15bcf5bcd5bcc5bca5bc95bc75bc65bc45bc35bc15bbf5bbe5bbc5bbb5bb95bb85bb65bb55bb35bb15bb05bae5bad5bab5baa5ba85ba75ba55ba35ba25ba05b9f5b9d5b9c5b9a5b985b975b955b945b925b915b8f5b8e5b8c5b8a5b895b875b865b845b835b815b7f5b7e5b7c5b7b5b795b785b765b755b735b715b705b6e5b6d5b6b5b6a5b685b665b655b635b625b605b5f5b5d5b5c5b5a5b585b575b555b545b525b515b4f5b4d5b4c5b4a5b495b475b465b445b425b415b3f5b3e5b3c5b3b5b395b385b365b345b335b315b305b2e5b2d5b2b5b295b285b265b255b235b225b205b1e5b1d5b1b5b1a5b185b175b155b135b125b105b0f5b0d5b0c5b0a5b085b075b055b045b025b015aff5afd5afc5afa5af95af75af65af45af25af15aef5aee5aec5aeb5ae95ae75ae65ae45ae35ae15adf5ade5adc5adb5ad95ad85ad65ad45ad35ad15ad05ace5acd5acb5ac95ac85ac65ac55ac35ac25ac05abe5abd5abb5aba5ab85ab65ab55ab35ab25ab05aaf5aad5aab5aaa5aa85aa75aa55aa45aa25aa05a9f5a9d5a9c5a9a5a985a975a955a945a925a915a8f5a8d5a8c5a8a5a895a875a85,
  0x5d9e5d9c5d9b5d995d985d965d955d935d925d905d8f5d8d5d8c5d8a5d895d875d865d845d835d815d7f5d7e5d7c5d7b5d795d785d765d755d735d725d705d6f5d6d5d6c5d6a5d695d675d665d645d635d615d5f5d5e5d5c5d5b5d595d585d565d555d535d525d505d4f5d4d5d4c5d4a5d495d475d465d445d425d415d3f5d3e5d3c5d3b5d395d385d365d355d335d325d305d2f5d2d5d2c5d2a5d285d275d255d245d225d215d1f5d1e5d1c5d1b5d195d185d165d155d135d125d105d0e5d0d5d0b5d0a5d085d075d055d045d025d015cff5cfe5cfc5cfb5cf95cf85cf65cf45cf35cf15cf05cee5ced5ceb5cea5ce85ce75ce55ce45ce25ce15cdf5cdd5cdc5cda5cd95cd75cd65cd45cd35cd15cd05cce5ccd5ccb5cc95cc85cc65cc55cc35cc25cc05cbf5cbd5cbc5cba5cb95cb75cb55cb45cb25cb15caf5cae5cac5cab5ca95ca85ca65ca55ca35ca15ca05c9e5c9d5c9b5c9a5c985c975c955c945c925c915c8f5c8d5c8c5c8a5c895c875c865c845c835c815c805c7e5c7d5c7b5c795c785c765c755c735c725c705c6f5c6d5c6c5c6a5c685c675c655c645c625c615c5f5c5e5c5c5c5b5c595c575c565c545c535c515c505c4e5c4d5c4b5c4a5c485c465c455c435c425c405c3f5c3d5c3c5c3a5c395c375c355c345c325c315c2f5c2e5c2c5c2b5c295c285c265c245c235c215c205c1e5c1d5c1b5c1a5c185c16,
  0x5f1f5f1e5f1c5f1b5f195f185f165f155f135f125f105f0f5f0d5f0c5f0a5f095f075f065f045f035f015f005efe5efd5efb5efa5ef85ef75ef55ef45ef25ef15eef5eee5eed5eeb5eea5ee85ee75ee55ee45ee25ee15edf5ede5edc5edb5ed95ed85ed65ed55ed35ed25ed05ecf5ecd5ecc5eca5ec95ec75ec65ec45ec35ec15ec05ebe5ebd5ebb5eba5eb85eb75eb55eb45eb25eb15eaf5eae5eac5eab5ea95ea85ea65ea55ea35ea25ea05e9f5e9d5e9c5e9a5e995e975e965e945e935e915e905e8e5e8d5e8b5e8a5e885e875e855e845e825e815e7f5e7e5e7c5e7b5e795e785e765e755e735e725e705e6f5e6d5e6c5e6a5e695e675e665e645e635e615e5f5e5e5e5c5e5b5e595e585e565e555e535e525e505e4f5e4d5e4c5e4a5e495e475e465e445e435e415e405e3e5e3d5e3b5e3a5e385e375e355e345e325e315e2f5e2e5e2c5e2b5e295e285e265e255e235e225e205e1f5e1d5e1c5e1a5e195e175e165e145e135e115e105e0e5e0d5e0b5e0a5e085e065e055e035e025e005dff5dfd5dfc5dfa5df95df75df65df45df35df15df05dee5ded5deb5dea5de85de75de55de45de25de15ddf5dde5ddc5ddb5dd95dd85dd65dd55dd35dd15dd05dce5dcd5dcb5dca5dc85dc75dc55dc45dc25dc15dbf5dbe5dbc5dbb5db95db85db65db55db35db25db05daf5dad5dac5daa5da95da75da55da45da25da15d9f,
  0x6099609860976095609460926091608f608e608c608b6089608860866085608460826081607f607e607c607b6079607860766075607360726070606f606e606c606b6069606860666065606360626060605f605d605c605a6059605760566055605360526050604f604d604c604a6049604760466044604360416040603f603d603c603a6039603760366034603360316030602e602d602b602a6028602760266024602360216020601e601d601b601a601860176015601460126011600f600e600c600b600a6008600760056004600260015fff5ffe5ffc5ffb5ff95ff85ff65ff55ff35ff25ff05fef5fed5fec5feb5fe95fe85fe65fe55fe35fe25fe05fdf5fdd5fdc5fda5fd95fd75fd65fd45fd35fd15fd05fce5fcd5fcc5fca5fc95fc75fc65fc45fc35fc15fc05fbe5fbd5fbb5fba5fb85fb75fb55fb45fb25fb15faf5fae5fac5fab5fa95fa85fa75fa55fa45fa25fa15f9f5f9e5f9c5f9b5f995f985f965f955f935f925f905f8f5f8d5f8c5f8a5f895f875f865f845f835f815f805f7e5f7d5f7c5f7a5f795f775f765f745f735f715f705f6e5f6d5f6b5f6a5f685f675f655f645f625f615f5f5f5e5f5c5f5b5f595f585f565f555f535f525f505f4f5f4d5f4c5f4a5f495f475f465f455f435f425f405f3f5f3d5f3c5f3a5f395f375f365f345f335f315f305f2e5f2d5f2b5f2a5f285f275f255f245f225f21,
  0x620d620b620a620962076206620462036201620061fe61fd61fc61fa61f961f761f661f461f361f261f061ef61ed61ec61ea61e961e761e661e561e361e261e061df61dd61dc61da61d961d861d661d561d361d261d061cf61cd61cc61cb61c961c861c661c561c361c261c161bf61be61bc61bb61b961b861b661b561b461b261b161af61ae61ac61ab61a961a861a761a561a461a261a1619f619e619c619b619a619861976195619461926191618f618e618c618b618a618861876185618461826181617f617e617d617b617a6178617761756174617261716170616e616d616b616a6168616761656164616261616160615e615d615b615a6158615761556154615361516150614e614d614b614a6148614761456144614361416140613e613d613b613a6138613761366134613361316130612e612d612b612a6128612761266124612361216120611e611d611b611a6118611761166114611361116110610e610d610b610a610861076106610461036101610060fe60fd60fb60fa60f860f760f560f460f360f160f060ee60ed60eb60ea60e860e760e560e460e360e160e060de60dd60db60da60d860d760d560d460d260d160d060ce60cd60cb60ca60c860c760c560c460c260c160bf60be60bd60bb60ba60b860b760b560b460b260b160af60ae60ac60ab60aa60a860a760a560a460a260a1609f609e609c609b,
  0x637a6378637763766374637363716370636e636d636c636a6369636763666365636363626360635f635d635c635b6359635863566355635463526351634f634e634c634b634a6348634763456344634363416340633e633d633b633a6339633763366334633363326330632f632d632c632a6329632863266325632363226321631f631e631c631b63196318631763156314631263116310630e630d630b630a630863076306630463036301630062fe62fd62fc62fa62f962f762f662f562f362f262f062ef62ed62ec62eb62e962e862e662e562e362e262e162df62de62dc62db62d962d862d762d562d462d262d162d062ce62cd62cb62ca62c862c762c662c462c362c162c062be62bd62bc62ba62b962b762b662b462b362b262b062af62ad62ac62aa62a962a862a662a562a362a262a0629f629e629c629b6299629862966295629462926291628f628e628c628b628a6288628762856284628262816280627e627d627b627a6278627762766274627362716270626e626d626c626a6269626762666264626362626260625f625d625c625a6259625762566255625362526250624f624d624c624b6249624862466245624362426241623f623e623c623b6239623862376235623462326231622f622e622c622b622a6228622762256224622262216220621e621d621b621a6218621762156214621362116210620e,
  0x64e164df64de64dc64db64da64d864d764d564d464d364d164d064ce64cd64cc64ca64c964c764c664c564c364c264c164bf64be64bc64bb64ba64b864b764b564b464b364b164b064ae64ad64ac64aa64a964a764a664a564a364a264a0649f649e649c649b649a6498649764956494649364916490648e648d648c648a6489648764866485648364826480647f647e647c647b64796478647764756474647264716470646e646d646b646a6469646764666464646364626460645f645d645c645b6459645864566455645464526451644f644e644d644b644a6448644764466444644364416440643f643d643c643a6439643864366435643364326431642f642e642c642b642a6428642764256424642364216420641e641d641c641a6419641764166415641364126410640f640e640c640b6409640864076405640464026401640063fe63fd63fb63fa63f963f763f663f463f363f263f063ef63ed63ec63eb63e963e863e663e563e363e263e163df63de63dc63db63da63d863d763d563d463d363d163d063ce63cd63cc63ca63c963c763c663c563c363c263c063bf63bd63bc63bb63b963b863b663b563b463b263b163af63ae63ad63ab63aa63a863a763a663a463a363a163a0639e639d639c639a6399639763966395639363926390638f638e638c638b6389638863866385638463826381637f637e637d637b,
  0x66416640663f663d663c663b66396638663666356634663266316630662e662d662b662a6629662766266625662366226621661f661e661c661b661a6618661766166614661366116610660f660d660c660b6609660866066605660466026601660065fe65fd65fc65fa65f965f765f665f565f365f265f165ef65ee65ec65eb65ea65e865e765e665e465e365e165e065df65dd65dc65db65d965d865d665d565d465d265d165d065ce65cd65cb65ca65c965c765c665c565c365c265c065bf65be65bc65bb65ba65b865b765b565b465b365b165b065af65ad65ac65aa65a965a865a665a565a465a265a1659f659e659d659b659a6599659765966594659365926590658f658e658c658b65896588658765856584658265816580657e657d657c657a6579657765766575657365726571656f656e656c656b656a6568656765666564656365616560655f655d655c655a6559655865566555655465526551654f654e654d654b654a6548654765466544654365426540653f653d653c653b65396538653665356534653265316530652e652d652b652a6529652765266524652365226520651f651e651c651b65196518651765156514651265116510650e650d650c650a650965076506650565036502650064ff64fe64fc64fb64fa64f864f764f564f464f364f164f064ee64ed64ec64ea64e964e764e664e564e364e2,
  0x679d679b679a6799679767966795679367926790678f678e678c678b678a6788678767866784678367826780677f677e677c677b677a6778677767766774677367716770676f676d676c676b67696768676767656764676367616760675f675d675c675b67596758675767556754675267516750674e674d674c674a67496748674667456744674267416740673e673d673b673a6739673767366735673367326731672f672e672d672b672a6729672767266725672367226720671f671e671c671b671a6718671767166714671367126710670f670d670c670b6709670867076705670467036701670066ff66fd66fc66fb66f966f866f666f566f466f266f166f066ee66ed66ec66ea66e966e866e666e566e366e266e166df66de66dd66db66da66d966d766d666d566d366d266d066cf66ce66cc66cb66ca66c866c766c666c466c366c266c066bf66bd66bc66bb66b966b866b766b566b466b366b166b066ae66ad66ac66aa66a966a866a666a566a466a266a1669f669e669d669b669a6699669766966695669366926691668f668e668c668b668a6688668766866684668366826680667f667d667c667b66796678667766756674667366716670666e666d666c666a6669666866666665666466626661665f665e665d665b665a6659665766566654665366526650664f664e664c664b664a66486647664566446643,
  0x68f268f168f068ee68ed68ec68eb68e968e868e768e568e468e368e168e068df68dd68dc68db68d968d868d768d568d468d368d168d068cf68cd68cc68cb68c968c868c768c568c468c368c168c068bf68bd68bc68bb68b968b868b768b568b468b368b168b068af68ad68ac68ab68a968a868a768a568a468a368a168a0689f689d689c689b689a6898689768966894689368926890688f688e688c688b688a6888688768866884688368826880687f687e687c687b687a6878687768766874687368726870686f686e686c686b686a6868686768666864686368626860685f685e685c685b685a6858685768566854685368526850684f684e684c684b684a6848684768466844684368426840683f683e683c683b683a6838683768356834683368316830682f682d682c682b68296828682768256824682368216820681f681d681c681b68196818681768156814681368116810680f680d680c680b6809680868076805680468036801680067ff67fd67fc67fb67f967f867f767f567f467f367f167f067ef67ed67ec67eb67e967e867e667e567e467e267e167e067de67dd67dc67da67d967d867d667d567d467d267d167d067ce67cd67cc67ca67c967c867c667c567c467c267c167c067be67bd67bc67ba67b967b867b667b567b367b267b167af67ae67ad67ab67aa67a967a767a667a567a367a267a1679f679e,
  0x6a436a426a416a3f6a3e6a3d6a3b6a3a6a396a376a366a356a346a326a316a306a2e6a2d6a2c6a2a6a296a286a266a256a246a236a216a206a1f6a1d6a1c6a1b6a196a186a176a156a146a136a126a106a0f6a0e6a0c6a0b6a0a6a086a076a066a046a036a026a0169ff69fe69fd69fb69fa69f969f769f669f569f369f269f169ef69ee69ed69ec69ea69e969e869e669e569e469e269e169e069de69dd69dc69db69d969d869d769d569d469d369d169d069cf69cd69cc69cb69c969c869c769c669c469c369c269c069bf69be69bc69bb69ba69b869b769b669b469b369b269b069af69ae69ad69ab69aa69a969a769a669a569a369a269a1699f699e699d699b699a69996998699669956994699269916990698e698d698c698a69896988698669856984698269816980697f697d697c697b69796978697769756974697369716970696f696d696c696b69696968696769656964696369626960695f695e695c695b695a6958695769566954695369526950694f694e694c694b694a6948694769466944694369426941693f693e693d693b693a6939693769366935693369326931692f692e692d692b692a6929692769266925692369226921691f691e691d691c691a69196918691669156914691269116910690e690d690c690a6909690869066905690469026901690068fe68fd68fc68fa68f968f868f668f568f4,
  0x6b8f6b8e6b8c6b8b6b8a6b896b876b866b856b836b826b816b806b7e6b7d6b7c6b7a6b796b786b776b756b746b736b716b706b6f6b6e6b6c6b6b6b6a6b686b676b666b646b636b626b616b5f6b5e6b5d6b5b6b5a6b596b586b566b556b546b526b516b506b4f6b4d6b4c6b4b6b496b486b476b466b446b436b426b406b3f6b3e6b3c6b3b6b3a6b396b376b366b356b336b326b316b306b2e6b2d6b2c6b2a6b296b286b276b256b246b236b216b206b1f6b1d6b1c6b1b6b1a6b186b176b166b146b136b126b116b0f6b0e6b0d6b0b6b0a6b096b076b066b056b046b026b016b006afe6afd6afc6afb6af96af86af76af56af46af36af16af06aef6aee6aec6aeb6aea6ae86ae76ae66ae56ae36ae26ae16adf6ade6add6adb6ada6ad96ad86ad66ad56ad46ad26ad16ad06ace6acd6acc6acb6ac96ac86ac76ac56ac46ac36ac16ac06abf6abe6abc6abb6aba6ab86ab76ab66ab46ab36ab26ab16aaf6aae6aad6aab6aaa6aa96aa86aa66aa56aa46aa26aa16aa06a9e6a9d6a9c6a9b6a996a986a976a956a946a936a916a906a8f6a8d6a8c6a8b6a8a6a886a876a866a846a836a826a806a7f6a7e6a7d6a7b6a7a6a796a776a766a756a736a726a716a706a6e6a6d6a6c6a6a6a696a686a666a656a646a636a616a606a5f6a5d6a5c6a5b6a596a586a576a556a546a536a526a506a4f6a4e6a4c6a4b6a4a6a486a476a466a45,
  0x6cd66cd56cd46cd26cd16cd06cce6ccd6ccc6ccb6cc96cc86cc76cc66cc46cc36cc26cc06cbf6cbe6cbd6cbb6cba6cb96cb86cb66cb56cb46cb36cb16cb06caf6cad6cac6cab6caa6ca86ca76ca66ca56ca36ca26ca16c9f6c9e6c9d6c9c6c9a6c996c986c976c956c946c936c916c906c8f6c8e6c8c6c8b6c8a6c896c876c866c856c836c826c816c806c7e6c7d6c7c6c7b6c796c786c776c756c746c736c726c706c6f6c6e6c6d6c6b6c6a6c696c676c666c656c646c626c616c606c5f6c5d6c5c6c5b6c596c586c576c566c546c536c526c506c4f6c4e6c4d6c4b6c4a6c496c486c466c456c446c426c416c406c3f6c3d6c3c6c3b6c396c386c376c366c346c336c326c316c2f6c2e6c2d6c2b6c2a6c296c286c266c256c246c226c216c206c1f6c1d6c1c6c1b6c1a6c186c176c166c146c136c126c116c0f6c0e6c0d6c0b6c0a6c096c086c066c056c046c036c016c006bff6bfd6bfc6bfb6bfa6bf86bf76bf66bf46bf36bf26bf16bef6bee6bed6beb6bea6be96be86be66be56be46be26be16be06bdf6bdd6bdc6bdb6bda6bd86bd76bd66bd46bd36bd26bd16bcf6bce6bcd6bcb6bca6bc96bc86bc66bc56bc46bc26bc16bc06bbf6bbd6bbc6bbb6bb96bb86bb76bb66bb46bb36bb26bb06baf6bae6bad6bab6baa6ba96ba76ba66ba56ba46ba26ba16ba06b9e6b9d6b9c6b9b6b996b986b976b956b946b936b926b90,
  0x6e196e176e166e156e146e126e116e106e0f6e0d6e0c6e0b6e0a6e086e076e066e056e036e026e016e006dfe6dfd6dfc6dfb6df96df86df76df66df46df36df26df16def6dee6ded6deb6dea6de96de86de66de56de46de36de16de06ddf6dde6ddc6ddb6dda6dd96dd76dd66dd56dd46dd26dd16dd06dcf6dcd6dcc6dcb6dca6dc86dc76dc66dc56dc36dc26dc16dc06dbe6dbd6dbc6dbb6db96db86db76db66db46db36db26db16daf6dae6dad6dab6daa6da96da86da66da56da46da36da16da06d9f6d9e6d9c6d9b6d9a6d996d976d966d956d946d926d916d906d8f6d8d6d8c6d8b6d8a6d886d876d866d846d836d826d816d7f6d7e6d7d6d7c6d7a6d796d786d776d756d746d736d726d706d6f6d6e6d6d6d6b6d6a6d696d676d666d656d646d626d616d606d5f6d5d6d5c6d5b6d5a6d586d576d566d556d536d526d516d506d4e6d4d6d4c6d4a6d496d486d476d456d446d436d426d406d3f6d3e6d3d6d3b6d3a6d396d386d366d356d346d326d316d306d2f6d2d6d2c6d2b6d2a6d286d276d266d256d236d226d216d206d1e6d1d6d1c6d1a6d196d186d176d156d146d136d126d106d0f6d0e6d0d6d0b6d0a6d096d076d066d056d046d026d016d006cff6cfd6cfc6cfb6cfa6cf86cf76cf66cf46cf36cf26cf16cef6cee6ced6cec6cea6ce96ce86ce76ce56ce46ce36ce16ce06cdf6cde6cdc6cdb6cda6cd96cd7,
  0x6f576f566f546f536f526f516f4f6f4e6f4d6f4c6f4a6f496f486f476f456f446f436f426f416f3f6f3e6f3d6f3c6f3a6f396f386f376f356f346f336f326f306f2f6f2e6f2d6f2b6f2a6f296f286f276f256f246f236f226f206f1f6f1e6f1d6f1b6f1a6f196f186f166f156f146f136f126f106f0f6f0e6f0d6f0b6f0a6f096f086f066f056f046f036f016f006eff6efe6efc6efb6efa6ef96ef76ef66ef56ef46ef36ef16ef06eef6eee6eec6eeb6eea6ee96ee76ee66ee56ee46ee26ee16ee06edf6edd6edc6edb6eda6ed86ed76ed66ed56ed46ed26ed16ed06ecf6ecd6ecc6ecb6eca6ec86ec76ec66ec56ec36ec26ec16ec06ebe6ebd6ebc6ebb6eb96eb86eb76eb66eb46eb36eb26eb16eaf6eae6ead6eac6eab6ea96ea86ea76ea66ea46ea36ea26ea16e9f6e9e6e9d6e9c6e9a6e996e986e976e956e946e936e926e906e8f6e8e6e8d6e8b6e8a6e896e886e866e856e846e836e816e806e7f6e7e6e7c6e7b6e7a6e796e776e766e756e746e726e716e706e6f6e6e6e6c6e6b6e6a6e696e676e666e656e646e626e616e606e5f6e5d6e5c6e5b6e5a6e586e576e566e556e536e526e516e506e4e6e4d6e4c6e4b6e496e486e476e466e446e436e426e416e3f6e3e6e3d6e3c6e3a6e396e386e376e356e346e336e326e306e2f6e2e6e2d6e2b6e2a6e296e286e266e256e246e236e216e206e1f6e1e6e1c6e1b6e1a,
  0x7091708f708e708d708c708b708970887087708670857083708270817080707e707d707c707b707a70787077707670757073707270717070706f706d706c706b706a70687067706670657064706270617060705f705d705c705b705a70597057705670557054705270517050704f704e704c704b704a70497047704670457044704370417040703f703e703c703b703a70397038703670357034703370317030702f702e702d702b702a70297028702670257024702370227020701f701e701d701b701a70197018701770157014701370127010700f700e700d700c700a700970087007700570047003700270006fff6ffe6ffd6ffc6ffa6ff96ff86ff76ff56ff46ff36ff26ff16fef6fee6fed6fec6fea6fe96fe86fe76fe66fe46fe36fe26fe16fdf6fde6fdd6fdc6fda6fd96fd86fd76fd66fd46fd36fd26fd16fcf6fce6fcd6fcc6fca6fc96fc86fc76fc66fc46fc36fc26fc16fbf6fbe6fbd6fbc6fbb6fb96fb86fb76fb66fb46fb36fb26fb16faf6fae6fad6fac6fab6fa96fa86fa76fa66fa46fa36fa26fa16f9f6f9e6f9d6f9c6f9b6f996f986f976f966f946f936f926f916f8f6f8e6f8d6f8c6f8b6f896f886f876f866f846f836f826f816f7f6f7e6f7d6f7c6f7b6f796f786f776f766f746f736f726f716f6f6f6e6f6d6f6c6f6a6f696f686f676f666f646f636f626f616f5f6f5e6f5d6f5c6f5a6f596f58,
  0x71c771c571c471c371c271c171bf71be71bd71bc71bb71b971b871b771b671b571b371b271b171b071af71ad71ac71ab71aa71a871a771a671a571a471a271a171a0719f719e719c719b719a71997198719671957194719371927190718f718e718d718c718a718971887187718671847183718271817180717e717d717c717b717971787177717671757173717271717170716f716d716c716b716a71697167716671657164716371617160715f715e715d715b715a71597158715671557154715371527150714f714e714d714c714a71497148714771467144714371427141713f713e713d713c713b713971387137713671357133713271317130712f712d712c712b712a71297127712671257124712271217120711f711e711c711b711a71197118711671157114711371117110710f710e710d710b710a7109710871077105710471037102710170ff70fe70fd70fc70fa70f970f870f770f670f470f370f270f170f070ee70ed70ec70eb70e970e870e770e670e570e370e270e170e070df70dd70dc70db70da70d870d770d670d570d470d270d170d070cf70ce70cc70cb70ca70c970c770c670c570c470c370c170c070bf70be70bd70bb70ba70b970b870b670b570b470b370b270b070af70ae70ad70ab70aa70a970a870a770a570a470a370a270a1709f709e709d709c709a7099709870977096709470937092,
  0x72f972f772f672f572f472f372f172f072ef72ee72ed72ec72ea72e972e872e772e672e472e372e272e172e072de72dd72dc72db72da72d872d772d672d572d472d372d172d072cf72ce72cd72cb72ca72c972c872c772c572c472c372c272c172bf72be72bd72bc72bb72ba72b872b772b672b572b472b272b172b072af72ae72ac72ab72aa72a972a872a672a572a472a372a272a1729f729e729d729c729b729972987297729672957293729272917290728f728d728c728b728a72897287728672857284728372827280727f727e727d727c727a727972787277727672747273727272717270726e726d726c726b726a72687267726672657264726272617260725f725e725c725b725a72597258725672557254725372527251724f724e724d724c724b724972487247724672457243724272417240723f723d723c723b723a72397237723672357234723372317230722f722e722d722b722a72297228722772257224722372227221721f721e721d721c721b721972187217721672157213721272117210720f720d720c720b720a7209720772067205720472037201720071ff71fe71fd71fb71fa71f971f871f771f571f471f371f271f171ef71ee71ed71ec71eb71e971e871e771e671e571e371e271e171e071df71dd71dc71db71da71d971d771d671d571d471d371d171d071cf71ce71cd71cb71ca71c971c8,
  0x7427742674247423742274217420741f741d741c741b741a74197418741674157414741374127410740f740e740d740c740b74097408740774067405740474027401740073ff73fe73fd73fb73fa73f973f873f773f573f473f373f273f173f073ee73ed73ec73eb73ea73e973e773e673e573e473e373e173e073df73de73dd73dc73da73d973d873d773d673d573d373d273d173d073cf73cd73cc73cb73ca73c973c873c673c573c473c373c273c073bf73be73bd73bc73bb73b973b873b773b673b573b473b273b173b073af73ae73ac73ab73aa73a973a873a773a573a473a373a273a1739f739e739d739c739b739a73987397739673957394739373917390738f738e738d738b738a738973887387738673847383738273817380737e737d737c737b737a73797377737673757374737373717370736f736e736d736c736a736973687367736673647363736273617360735f735d735c735b735a73597357735673557354735373517350734f734e734d734c734a734973487347734673447343734273417340733f733d733c733b733a73397337733673357334733373327330732f732e732d732c732a732973287327732673247323732273217320731f731d731c731b731a73197317731673157314731373127310730f730e730d730c730a73097308730773067304730373027301730072ff72fd72fc72fb72fa,
  0x75517550754f754e754d754c754a754975487547754675457543754275417540753f753e753c753b753a753975387537753675347533753275317530752f752d752c752b752a75297528752675257524752375227521751f751e751d751c751b751a75187517751675157514751375127510750f750e750d750c750b75097508750775067505750475027501750074ff74fe74fd74fb74fa74f974f874f774f674f474f374f274f174f074ef74ed74ec74eb74ea74e974e874e674e574e474e374e274e174df74de74dd74dc74db74da74d974d774d674d574d474d374d274d074cf74ce74cd74cc74cb74c974c874c774c674c574c474c274c174c074bf74be74bd74bb74ba74b974b874b774b674b474b374b274b174b074af74ad74ac74ab74aa74a974a874a674a574a474a374a274a1749f749e749d749c749b749a74987497749674957494749374917490748f748e748d748b748a748974887487748674847483748274817480747f747d747c747b747a74797478747674757474747374727471746f746e746d746c746b746a74687467746674657464746374617460745f745e745d745c745a745974587457745674557453745274517450744f744d744c744b744a74497448744674457444744374427441743f743e743d743c743b743a74387437743674357434743374317430742f742e742d742b742a74297428,
  0x76787677767676757674767376727670766f766e766d766c766b766a76687667766676657664766376617660765f765e765d765c765b765976587657765676557654765376517650764f764e764d764c764b764976487647764676457644764376417640763f763e763d763c763a763976387637763676357634763276317630762f762e762d762c762a762976287627762676257623762276217620761f761e761d761b761a761976187617761676157613761276117610760f760e760c760b760a76097608760776067604760376027601760075ff75fe75fc75fb75fa75f975f875f775f575f475f375f275f175f075ef75ed75ec75eb75ea75e975e875e675e575e475e375e275e175e075de75dd75dc75db75da75d975d775d675d575d475d375d275d175cf75ce75cd75cc75cb75ca75c975c775c675c575c475c375c275c075bf75be75bd75bc75bb75b975b875b775b675b575b475b375b175b075af75ae75ad75ac75aa75a975a875a775a675a575a475a275a175a0759f759e759d759b759a759975987597759675957593759275917590758f758e758c758b758a758975887587758575847583758275817580757f757d757c757b757a75797578757675757574757375727571756f756e756d756c756b756a75697567756675657564756375627560755f755e755d755c755b7559755875577556755575547553,
  0x779c779b779a779977987796779577947793779277917790778e778d778c778b778a778977887787778577847783778277817780777f777d777c777b777a777977787777777677747773777277717770776f776e776c776b776a776977687767776677657763776277617760775f775e775d775b775a775977587757775677557753775277517750774f774e774d774c774a774977487747774677457744774277417740773f773e773d773c773a773977387737773677357734773377317730772f772e772d772c772b772977287727772677257724772377217720771f771e771d771c771b771977187717771677157714771377127710770f770e770d770c770b770a7708770777067705770477037702770076ff76fe76fd76fc76fb76fa76f876f776f676f576f476f376f276f076ef76ee76ed76ec76eb76ea76e876e776e676e576e476e376e276e076df76de76dd76dc76db76da76d876d776d676d576d476d376d276d176cf76ce76cd76cc76cb76ca76c976c776c676c576c476c376c276c176bf76be76bd76bc76bb76ba76b976b776b676b576b476b376b276b176af76ae76ad76ac76ab76aa76a976a776a676a576a476a376a276a1769f769e769d769c769b769a76987697769676957694769376927690768f768e768d768c768b768a76887687768676857684768376827680767f767e767d767c767b767a,
  0x78bc78bb78ba78b978b878b778b678b578b378b278b178b078af78ae78ad78ac78ab78a978a878a778a678a578a478a378a278a0789f789e789d789c789b789a789978977896789578947893789278917890788e788d788c788b788a788978887887788578847883788278817880787f787e787d787b787a787978787877787678757874787278717870786f786e786d786c786b786978687867786678657864786378627860785f785e785d785c785b785a785978577856785578547853785278517850784e784d784c784b784a784978487847784578447843784278417840783f783e783c783b783a783978387837783678357833783278317830782f782e782d782c782a782978287827782678257824782378217820781f781e781d781c781b781a78187817781678157814781378127810780f780e780d780c780b780a78097807780678057804780378027801780077fe77fd77fc77fb77fa77f977f877f777f577f477f377f277f177f077ef77ee77ec77eb77ea77e977e877e777e677e477e377e277e177e077df77de77dd77db77da77d977d877d777d677d577d477d277d177d077cf77ce77cd77cc77ca77c977c877c777c677c577c477c377c177c077bf77be77bd77bc77bb77ba77b877b777b677b577b477b377b277b077af77ae77ad77ac77ab77aa77a977a777a677a577a477a377a277a1779f779e779d,
  0x79da79d879d779d679d579d479d379d279d179d079cf79cd79cc79cb79ca79c979c879c779c679c579c379c279c179c079bf79be79bd79bc79bb79b979b879b779b679b579b479b379b279b179af79ae79ad79ac79ab79aa79a979a879a779a579a479a379a279a179a0799f799e799d799b799a799979987997799679957994799379917990798f798e798d798c798b798a798979877986798579847983798279817980797f797d797c797b797a797979787977797679757973797279717970796f796e796d796c796b796979687967796679657964796379627961795f795e795d795c795b795a795979587957795579547953795279517950794f794e794d794b794a794979487947794679457944794279417940793f793e793d793c793b793a793879377936793579347933793279317930792e792d792c792b792a792979287927792679247923792279217920791f791e791d791b791a791979187917791679157914791379117910790f790e790d790c790b790a79087907790679057904790379027901790078fe78fd78fc78fb78fa78f978f878f778f578f478f378f278f178f078ef78ee78ed78eb78ea78e978e878e778e678e578e478e278e178e078df78de78dd78dc78db78da78d878d778d678d578d478d378d278d178cf78ce78cd78cc78cb78ca78c978c878c778c578c478c378c278c178c078bf78be,
  0x7af47af37af17af07aef7aee7aed7aec7aeb7aea7ae97ae87ae77ae57ae47ae37ae27ae17ae07adf7ade7add7adc7ada7ad97ad87ad77ad67ad57ad47ad37ad27ad17acf7ace7acd7acc7acb7aca7ac97ac87ac77ac67ac47ac37ac27ac17ac07abf7abe7abd7abc7abb7aba7ab87ab77ab67ab57ab47ab37ab27ab17ab07aaf7aad7aac7aab7aaa7aa97aa87aa77aa67aa57aa47aa27aa17aa07a9f7a9e7a9d7a9c7a9b7a9a7a997a977a967a957a947a937a927a917a907a8f7a8e7a8c7a8b7a8a7a897a887a877a867a857a847a837a817a807a7f7a7e7a7d7a7c7a7b7a7a7a797a787a767a757a747a737a727a717a707a6f7a6e7a6d7a6b7a6a7a697a687a677a667a657a647a637a627a607a5f7a5e7a5d7a5c7a5b7a5a7a597a587a567a557a547a537a527a517a507a4f7a4e7a4d7a4b7a4a7a497a487a477a467a457a447a437a427a407a3f7a3e7a3d7a3c7a3b7a3a7a397a387a367a357a347a337a327a317a307a2f7a2e7a2d7a2b7a2a7a297a287a277a267a257a247a237a227a207a1f7a1e7a1d7a1c7a1b7a1a7a197a187a167a157a147a137a127a117a107a0f7a0e7a0d7a0b7a0a7a097a087a077a067a057a047a037a017a0079ff79fe79fd79fc79fb79fa79f979f779f679f579f479f379f279f179f079ef79ee79ec79eb79ea79e979e879e779e679e579e479e279e179e079df79de79dd79dc79db,
  0x7c0b7c0a7c097c077c067c057c047c037c027c017c007bff7bfe7bfd7bfc7bfa7bf97bf87bf77bf67bf57bf47bf37bf27bf17bf07bef7bed7bec7beb7bea7be97be87be77be67be57be47be37be17be07bdf7bde7bdd7bdc7bdb7bda7bd97bd87bd77bd67bd47bd37bd27bd17bd07bcf7bce7bcd7bcc7bcb7bca7bc97bc77bc67bc57bc47bc37bc27bc17bc07bbf7bbe7bbd7bbb7bba7bb97bb87bb77bb67bb57bb47bb37bb27bb17baf7bae7bad7bac7bab7baa7ba97ba87ba77ba67ba57ba47ba27ba17ba07b9f7b9e7b9d7b9c7b9b7b9a7b997b987b967b957b947b937b927b917b907b8f7b8e7b8d7b8c7b8a7b897b887b877b867b857b847b837b827b817b807b7e7b7d7b7c7b7b7b7a7b797b787b777b767b757b747b727b717b707b6f7b6e7b6d7b6c7b6b7b6a7b697b687b667b657b647b637b627b617b607b5f7b5e7b5d7b5c7b5a7b597b587b577b567b557b547b537b527b517b507b4e7b4d7b4c7b4b7b4a7b497b487b477b467b457b447b427b417b407b3f7b3e7b3d7b3c7b3b7b3a7b397b387b367b357b347b337b327b317b307b2f7b2e7b2d7b2c7b2a7b297b287b277b267b257b247b237b227b217b1f7b1e7b1d7b1c7b1b7b1a7b197b187b177b167b157b137b127b117b107b0f7b0e7b0d7b0c7b0b7b0a7b087b077b067b057b047b037b027b017b007aff7afe7afc7afb7afa7af97af87af77af67af5,
  0x7d1f7d1e7d1d7d1c7d1b7d1a7d187d177d167d157d147d137d127d117d107d0f7d0e7d0d7d0c7d0a7d097d087d077d067d057d047d037d027d017d007cff7cfe7cfd7cfb7cfa7cf97cf87cf77cf67cf57cf47cf37cf27cf17cf07cef7ced7cec7ceb7cea7ce97ce87ce77ce67ce57ce47ce37ce27ce17cdf7cde7cdd7cdc7cdb7cda7cd97cd87cd77cd67cd57cd47cd37cd27cd07ccf7cce7ccd7ccc7ccb7cca7cc97cc87cc77cc67cc57cc47cc27cc17cc07cbf7cbe7cbd7cbc7cbb7cba7cb97cb87cb77cb67cb47cb37cb27cb17cb07caf7cae7cad7cac7cab7caa7ca97ca87ca67ca57ca47ca37ca27ca17ca07c9f7c9e7c9d7c9c7c9b7c997c987c977c967c957c947c937c927c917c907c8f7c8e7c8d7c8b7c8a7c897c887c877c867c857c847c837c827c817c807c7f7c7d7c7c7c7b7c7a7c797c787c777c767c757c747c737c727c707c6f7c6e7c6d7c6c7c6b7c6a7c697c687c677c667c657c647c627c617c607c5f7c5e7c5d7c5c7c5b7c5a7c597c587c577c557c547c537c527c517c507c4f7c4e7c4d7c4c7c4b7c4a7c487c477c467c457c447c437c427c417c407c3f7c3e7c3d7c3b7c3a7c397c387c377c367c357c347c337c327c317c307c2e7c2d7c2c7c2b7c2a7c297c287c277c267c257c247c237c217c207c1f7c1e7c1d7c1c7c1b7c1a7c197c187c177c167c147c137c127c117c107c0f7c0e7c0d7c0c,
  0x7e307e2f7e2e7e2d7e2c7e2b7e2a7e297e287e277e267e257e237e227e217e207e1f7e1e7e1d7e1c7e1b7e1a7e197e187e177e167e157e147e127e117e107e0f7e0e7e0d7e0c7e0b7e0a7e097e087e077e067e057e047e037e017e007dff7dfe7dfd7dfc7dfb7dfa7df97df87df77df67df57df47df37df17df07def7dee7ded7dec7deb7dea7de97de87de77de67de57de47de37de17de07ddf7dde7ddd7ddc7ddb7dda7dd97dd87dd77dd67dd57dd47dd37dd27dd07dcf7dce7dcd7dcc7dcb7dca7dc97dc87dc77dc67dc57dc47dc37dc27dc07dbf7dbe7dbd7dbc7dbb7dba7db97db87db77db67db57db47db37db27db07daf7dae7dad7dac7dab7daa7da97da87da77da67da57da47da37da17da07d9f7d9e7d9d7d9c7d9b7d9a7d997d987d977d967d957d947d937d917d907d8f7d8e7d8d7d8c7d8b7d8a7d897d887d877d867d857d847d837d817d807d7f7d7e7d7d7d7c7d7b7d7a7d797d787d777d767d757d747d727d717d707d6f7d6e7d6d7d6c7d6b7d6a7d697d687d677d667d657d637d627d617d607d5f7d5e7d5d7d5c7d5b7d5a7d597d587d577d567d547d537d527d517d507d4f7d4e7d4d7d4c7d4b7d4a7d497d487d477d457d447d437d427d417d407d3f7d3e7d3d7d3c7d3b7d3a7d397d387d367d357d347d337d327d317d307d2f7d2e7d2d7d2c7d2b7d2a7d297d277d267d257d247d237d227d217d20,
  0x7f3f7f3e7f3d7f3c7f3b7f3a7f387f377f367f357f347f337f327f317f307f2f7f2e7f2d7f2c7f2b7f2a7f297f287f277f267f247f237f227f217f207f1f7f1e7f1d7f1c7f1b7f1a7f197f187f177f167f157f147f137f127f107f0f7f0e7f0d7f0c7f0b7f0a7f097f087f077f067f057f047f037f027f017f007eff7efe7efc7efb7efa7ef97ef87ef77ef67ef57ef47ef37ef27ef17ef07eef7eee7eed7eec7eeb7ee97ee87ee77ee67ee57ee47ee37ee27ee17ee07edf7ede7edd7edc7edb7eda7ed97ed87ed67ed57ed47ed37ed27ed17ed07ecf7ece7ecd7ecc7ecb7eca7ec97ec87ec77ec67ec57ec37ec27ec17ec07ebf7ebe7ebd7ebc7ebb7eba7eb97eb87eb77eb67eb57eb47eb37eb27eb07eaf7eae7ead7eac7eab7eaa7ea97ea87ea77ea67ea57ea47ea37ea27ea17ea07e9e7e9d7e9c7e9b7e9a7e997e987e977e967e957e947e937e927e917e907e8f7e8e7e8c7e8b7e8a7e897e887e877e867e857e847e837e827e817e807e7f7e7e7e7d7e7c7e7a7e797e787e777e767e757e747e737e727e717e707e6f7e6e7e6d7e6c7e6b7e6a7e687e677e667e657e647e637e627e617e607e5f7e5e7e5d7e5c7e5b7e5a7e597e577e567e557e547e537e527e517e507e4f7e4e7e4d7e4c7e4b7e4a7e497e487e477e457e447e437e427e417e407e3f7e3e7e3d7e3c7e3b7e3a7e397e387e377e367e347e337e327e31,
  0x804b804a804980488047804680448043804280418040803f803e803d803c803b803a8039803880378036803580348033803280318030802f802e802c802b802a8029802880278026802580248023802280218020801f801e801d801c801b801a801980188017801680158013801280118010800f800e800d800c800b800a80098008800780068005800480038002800180007fff7ffe7ffc7ffb7ffa7ff97ff87ff77ff67ff57ff47ff37ff27ff17ff07fef7fee7fed7fec7feb7fea7fe97fe87fe77fe67fe47fe37fe27fe17fe07fdf7fde7fdd7fdc7fdb7fda7fd97fd87fd77fd67fd57fd47fd37fd27fd17fd07fce7fcd7fcc7fcb7fca7fc97fc87fc77fc67fc57fc47fc37fc27fc17fc07fbf7fbe7fbd7fbc7fbb7fba7fb97fb77fb67fb57fb47fb37fb27fb17fb07faf7fae7fad7fac7fab7faa7fa97fa87fa77fa67fa57fa47fa37fa17fa07f9f7f9e7f9d7f9c7f9b7f9a7f997f987f977f967f957f947f937f927f917f907f8f7f8e7f8d7f8b7f8a7f897f887f877f867f857f847f837f827f817f807f7f7f7e7f7d7f7c7f7b7f7a7f797f787f767f757f747f737f727f717f707f6f7f6e7f6d7f6c7f6b7f6a7f697f687f677f667f657f647f637f617f607f5f7f5e7f5d7f5c7f5b7f5a7f597f587f577f567f557f547f537f527f517f507f4f7f4e7f4c7f4b7f4a7f497f487f477f467f457f447f437f427f417f40,
  0x81548153815281518150814f814e814d814c814b814a814981488147814681458144814281418140813f813e813d813c813b813a8139813881378136813581348133813281318130812f812e812d812c812b812a812981288127812681258124812281218120811f811e811d811c811b811a8119811881178116811581148113811281118110810f810e810d810c810b810a81098108810781068104810381028101810080ff80fe80fd80fc80fb80fa80f980f880f780f680f580f480f380f280f180f080ef80ee80ed80ec80eb80ea80e980e880e680e580e480e380e280e180e080df80de80dd80dc80db80da80d980d880d780d680d580d480d380d280d180d080cf80ce80cd80cc80cb80c980c880c780c680c580c480c380c280c180c080bf80be80bd80bc80bb80ba80b980b880b780b680b580b480b380b280b180b080af80ad80ac80ab80aa80a980a880a780a680a580a480a380a280a180a0809f809e809d809c809b809a809980988097809680958094809280918090808f808e808d808c808b808a8089808880878086808580848083808280818080807f807e807d807c807b807a807880778076807580748073807280718070806f806e806d806c806b806a8069806880678066806580648063806280618060805e805d805c805b805a8059805880578056805580548053805280518050804f804e804d804c,
  0x825b825a8259825882578256825582548253825282518250824f824e824d824b824a8249824882478246824582448243824282418240823f823e823d823c823b823a8239823882378236823582348233823282318230822f822e822d822c822b822a822982288227822682258224822382228221821f821e821d821c821b821a8219821882178216821582148213821282118210820f820e820d820c820b820a820982088207820682058204820382028201820081ff81fe81fd81fc81fb81fa81f981f881f781f581f481f381f281f181f081ef81ee81ed81ec81eb81ea81e981e881e781e681e581e481e381e281e181e081df81de81dd81dc81db81da81d981d881d781d681d581d481d381d281d181d081ce81cd81cc81cb81ca81c981c881c781c681c581c481c381c281c181c081bf81be81bd81bc81bb81ba81b981b881b781b681b581b481b381b281b181b081af81ae81ad81ac81ab81a981a881a781a681a581a481a381a281a181a0819f819e819d819c819b819a8199819881978196819581948193819281918190818f818e818d818c818b818a818981888187818581848183818281818180817f817e817d817c817b817a8179817881778176817581748173817281718170816f816e816d816c816b816a816981688167816681658163816281618160815f815e815d815c815b815a81598158815781568155,
  0x835f835e835d835c835b835a8359835883578356835583548353835283518350834f834e834d834c834b834a8349834883478346834583448343834283418340833f833e833d833c833b833a8339833883378336833583348333833283318330832f832d832c832b832a8329832883278326832583248323832283218320831f831e831d831c831b831a8319831883178316831583148313831283118310830f830e830d830c830b830a830983088307830683058304830383028301830082ff82fe82fd82fc82fb82fa82f982f882f782f682f582f482f382f282f182f082ef82ee82ed82ec82ea82e982e882e782e682e582e482e382e282e182e082df82de82dd82dc82db82da82d982d882d782d682d582d482d382d282d182d082cf82ce82cd82cc82cb82ca82c982c882c782c682c582c482c382c282c182c082bf82be82bd82bc82bb82ba82b982b882b782b682b582b482b382b282b082af82ae82ad82ac82ab82aa82a982a882a782a682a582a482a382a282a182a0829f829e829d829c829b829a8299829882978296829582948293829282918290828f828e828d828c828b828a8289828882878286828582848283828282818280827f827e827d827b827a8279827882778276827582748273827282718270826f826e826d826c826b826a8269826882678266826582648263826282618260825f825e825d825c,
  0x84618460845f845e845d845c845b845a8459845884578456845584548453845284518450844f844e844d844c844b844a8449844884478446844584448443844284418440843f843e843d843c843b843a8439843884378436843584348433843284318430842f842e842d842c842b842a8429842884278426842584248423842284218420841f841e841d841c841b841a8419841884178416841584148413841284118410840f840e840d840c840b840a840984088407840684058404840384028401840083ff83fe83fd83fc83fb83fa83f983f883f783f683f583f483f383f283f183f083ee83ed83ec83eb83ea83e983e883e783e683e583e483e383e283e183e083df83de83dd83dc83db83da83d983d883d783d683d583d483d383d283d183d083cf83ce83cd83cc83cb83ca83c983c883c783c683c583c483c383c283c183c083bf83be83bd83bc83bb83ba83b983b883b783b683b583b483b383b283b183b083af83ae83ad83ac83ab83aa83a983a883a783a683a583a483a383a283a183a0839f839e839d839c839b839a8399839883978396839583948393839283918390838f838e838d838c838b838a8389838883878386838583848383838283818380837e837d837c837b837a8379837883778376837583748373837283718370836f836e836d836c836b836a8369836883678366836583648363836283618360,
  0x85618560855f855e855d855c855b855a8559855885578556855585548553855285518550854f854e854d854c854b854a8549854885478546854585448543854285418540853f853e853d853c853b853a8539853885378536853585348533853285318530852f852e852d852c852b852a8529852885278526852585248523852285218520851f851e851d851c851b851a8519851885178516851585148513851285118510850f850e850d850c850b850a850985088507850685058504850385028501850084ff84fe84fd84fc84fb84fa84f984f884f784f684f584f484f384f284f184f084ef84ee84ed84ec84eb84ea84e984e884e784e684e584e484e384e284e184e084df84de84dd84dc84db84da84d984d884d784d684d584d484d384d284d184d084cf84ce84cd84cc84cb84ca84c984c884c784c684c584c484c384c284c184c084bf84be84bd84bc84bb84ba84b984b884b784b684b584b484b384b284b184b084af84ae84ad84ac84ab84aa84a984a884a784a684a584a484a384a284a184a0849f849e849d849c849b849a8499849884978496849584948493849284918490848f848e848d848c848b848a8489848884878486848584848483848284818480847f847e847d847c847b847a8479847884778476847584748473847284718470846f846e846d846c846b846a84698468846784668465846484638462,
  0x865e865d865c865b865a8659865886578656865586548653865286518650864f864e864d864c864b864a8649864886478646864586448643864286418640863f863e863d863c863b863a863a8639863886378636863586348633863286318630862f862e862d862c862b862a8629862886278626862586248623862286218620861f861e861d861c861b861a8619861886178616861586148613861286118610860f860e860d860c860b860a860986088607860686058604860386028601860085ff85fe85fd85fc85fb85fa85f985f885f785f685f585f485f385f285f185f085ef85ee85ed85ec85eb85ea85e985e985e885e785e685e585e485e385e285e185e085df85de85dd85dc85db85da85d985d885d785d685d585d485d385d285d185d085cf85ce85cd85cc85cb85ca85c985c885c785c685c585c485c385c285c185c085bf85be85bd85bc85bb85ba85b985b885b785b685b585b485b385b285b185b085af85ae85ad85ac85ab85aa85a985a885a785a685a585a485a385a285a185a0859f859e859d859c859b859a8599859885978596859585948593859285918590858f858e858d858c858b858a8589858885878586858585848583858285818580857f857e857d857c857b857a85798579857885778576857585748573857285718570856f856e856d856c856b856a85698568856785668565856485638562,
  0x8759875887578756875587548753875287518750874f874e874d874c874b874a87498748874787478746874587448743874287418740873f873e873d873c873b873a8739873887378736873587348733873287318730872f872e872d872c872b872a8729872887278726872587248723872287218720871f871e871d871c871b871b871a8719871887178716871587148713871287118710870f870e870d870c870b870a870987088707870687058704870387028701870086ff86fe86fd86fc86fb86fa86f986f886f786f686f586f486f386f286f186f086ef86ee86ed86ec86eb86eb86ea86e986e886e786e686e586e486e386e286e186e086df86de86dd86dc86db86da86d986d886d786d686d586d486d386d286d186d086cf86ce86cd86cc86cb86ca86c986c886c786c686c586c486c386c286c186c086bf86be86bd86bc86bb86ba86b986b886b786b786b686b586b486b386b286b186b086af86ae86ad86ac86ab86aa86a986a886a786a686a586a486a386a286a186a0869f869e869d869c869b869a8699869886978696869586948693869286918690868f868e868d868c868b868a8689868886878686868586848683868286818680867f867e867d867d867c867b867a8679867886778676867586748673867286718670866f866e866d866c866b866a8669866886678666866586648663866286618660865f,
  0x885288518850884f884e884d884c884b884a88498848884788468845884488438843884288418840883f883e883d883c883b883a8839883888378836883588348833883288318830882f882e882d882c882b882a88298828882788268825882488238823882288218820881f881e881d881c881b881a8819881888178816881588148813881288118810880f880e880d880c880b880a8809880888078806880588048803880388028801880087ff87fe87fd87fc87fb87fa87f987f887f787f687f587f487f387f287f187f087ef87ee87ed87ec87eb87ea87e987e887e787e687e587e487e387e287e187e187e087df87de87dd87dc87db87da87d987d887d787d687d587d487d387d287d187d087cf87ce87cd87cc87cb87ca87c987c887c787c687c587c487c387c287c187c087bf87be87bd87bd87bc87bb87ba87b987b887b787b687b587b487b387b287b187b087af87ae87ad87ac87ab87aa87a987a887a787a687a587a487a387a287a187a0879f879e879d879c879b879a87998798879887978796879587948793879287918790878f878e878d878c878b878a8789878887878786878587848783878287818780877f877e877d877c877b877a87798778877787768775877487738772877187718770876f876e876d876c876b876a8769876887678766876587648763876287618760875f875e875d875c875b875a,
  0x8949894889478946894589448943894289418940893f893e893d893c893b893a89398939893889378936893589348933893289318930892f892e892d892c892b892a89298928892789268925892489238922892189208920891f891e891d891c891b891a8919891889178916891589148913891289118910890f890e890d890c890b890a8909890889078907890689058904890389028901890088ff88fe88fd88fc88fb88fa88f988f888f788f688f588f488f388f288f188f088ef88ee88ed88ed88ec88eb88ea88e988e888e788e688e588e488e388e288e188e088df88de88dd88dc88db88da88d988d888d788d688d588d488d388d388d288d188d088cf88ce88cd88cc88cb88ca88c988c888c788c688c588c488c388c288c188c088bf88be88bd88bc88bb88ba88b988b888b788b788b688b588b488b388b288b188b088af88ae88ad88ac88ab88aa88a988a888a788a688a588a488a388a288a188a0889f889e889d889c889c889b889a8899889888978896889588948893889288918890888f888e888d888c888b888a8889888888878886888588848883888288818880887f887f887e887d887c887b887a8879887888778876887588748873887288718870886f886e886d886c886b886a88698868886788668865886488638862886188618860885f885e885d885c885b885a8859885888578856885588548853,
  0x8a3e8a3d8a3c8a3b8a3a8a398a388a378a368a358a348a338a328a318a308a2f8a2e8a2d8a2c8a2b8a2b8a2a8a298a288a278a268a258a248a238a228a218a208a1f8a1e8a1d8a1c8a1b8a1a8a198a188a178a178a168a158a148a138a128a118a108a0f8a0e8a0d8a0c8a0b8a0a8a098a088a078a068a058a048a038a038a028a018a0089ff89fe89fd89fc89fb89fa89f989f889f789f689f589f489f389f289f189f089ef89ee89ee89ed89ec89eb89ea89e989e889e789e689e589e489e389e289e189e089df89de89dd89dc89db89da89d989d889d889d789d689d589d489d389d289d189d089cf89ce89cd89cc89cb89ca89c989c889c789c689c589c489c389c389c289c189c089bf89be89bd89bc89bb89ba89b989b889b789b689b589b489b389b289b189b089af89ae89ad89ad89ac89ab89aa89a989a889a789a689a589a489a389a289a189a0899f899e899d899c899b899a89998998899789968996899589948993899289918990898f898e898d898c898b898a89898988898789868985898489838982898189808980897f897e897d897c897b897a8979897889778976897589748973897289718970896f896e896d896c896b896a89698968896889678966896589648963896289618960895f895e895d895c895b895a89598958895789568955895489538952895189518950894f894e894d894c894b894a,
  0x8b308b2f8b2e8b2e8b2d8b2c8b2b8b2a8b298b288b278b268b258b248b238b228b218b208b1f8b1e8b1d8b1d8b1c8b1b8b1a8b198b188b178b168b158b148b138b128b118b108b0f8b0e8b0d8b0c8b0b8b0b8b0a8b098b088b078b068b058b048b038b028b018b008aff8afe8afd8afc8afb8afa8afa8af98af88af78af68af58af48af38af28af18af08aef8aee8aed8aec8aeb8aea8ae98ae88ae88ae78ae68ae58ae48ae38ae28ae18ae08adf8ade8add8adc8adb8ada8ad98ad88ad78ad68ad68ad58ad48ad38ad28ad18ad08acf8ace8acd8acc8acb8aca8ac98ac88ac78ac68ac58ac48ac48ac38ac28ac18ac08abf8abe8abd8abc8abb8aba8ab98ab88ab78ab68ab58ab48ab38ab28ab28ab18ab08aaf8aae8aad8aac8aab8aaa8aa98aa88aa78aa68aa58aa48aa38aa28aa18aa08a9f8a9f8a9e8a9d8a9c8a9b8a9a8a998a988a978a968a958a948a938a928a918a908a8f8a8e8a8d8a8d8a8c8a8b8a8a8a898a888a878a868a858a848a838a828a818a808a7f8a7e8a7d8a7c8a7b8a7a8a7a8a798a788a778a768a758a748a738a728a718a708a6f8a6e8a6d8a6c8a6b8a6a8a698a688a678a678a668a658a648a638a628a618a608a5f8a5e8a5d8a5c8a5b8a5a8a598a588a578a568a558a548a538a538a528a518a508a4f8a4e8a4d8a4c8a4b8a4a8a498a488a478a468a458a448a438a428a418a408a3f8a3f,
  0x8c218c208c1f8c1e8c1d8c1c8c1b8c1b8c1a8c198c188c178c168c158c148c138c128c118c108c0f8c0e8c0d8c0c8c0c8c0b8c0a8c098c088c078c068c058c048c038c028c018c008bff8bfe8bfd8bfd8bfc8bfb8bfa8bf98bf88bf78bf68bf58bf48bf38bf28bf18bf08bef8bee8bee8bed8bec8beb8bea8be98be88be78be68be58be48be38be28be18be08bdf8bdf8bde8bdd8bdc8bdb8bda8bd98bd88bd78bd68bd58bd48bd38bd28bd18bd08bd08bcf8bce8bcd8bcc8bcb8bca8bc98bc88bc78bc68bc58bc48bc38bc28bc18bc08bc08bbf8bbe8bbd8bbc8bbb8bba8bb98bb88bb78bb68bb58bb48bb38bb28bb18bb08bb08baf8bae8bad8bac8bab8baa8ba98ba88ba78ba68ba58ba48ba38ba28ba18ba18ba08b9f8b9e8b9d8b9c8b9b8b9a8b998b988b978b968b958b948b938b928b918b918b908b8f8b8e8b8d8b8c8b8b8b8a8b898b888b878b868b858b848b838b828b818b808b808b7f8b7e8b7d8b7c8b7b8b7a8b798b788b778b768b758b748b738b728b718b708b708b6f8b6e8b6d8b6c8b6b8b6a8b698b688b678b668b658b648b638b628b618b608b608b5f8b5e8b5d8b5c8b5b8b5a8b598b588b578b568b558b548b538b528b518b508b4f8b4f8b4e8b4d8b4c8b4b8b4a8b498b488b478b468b458b448b438b428b418b408b3f8b3e8b3e8b3d8b3c8b3b8b3a8b398b388b378b368b358b348b338b328b31,
  0x8d108d0f8d0e8d0d8d0c8d0b8d0a8d098d098d088d078d068d058d048d038d028d018d008cff8cfe8cfd8cfc8cfc8cfb8cfa8cf98cf88cf78cf68cf58cf48cf38cf28cf18cf08cef8cee8cee8ced8cec8ceb8cea8ce98ce88ce78ce68ce58ce48ce38ce28ce18ce18ce08cdf8cde8cdd8cdc8cdb8cda8cd98cd88cd78cd68cd58cd48cd38cd38cd28cd18cd08ccf8cce8ccd8ccc8ccb8cca8cc98cc88cc78cc68cc68cc58cc48cc38cc28cc18cc08cbf8cbe8cbd8cbc8cbb8cba8cb98cb88cb88cb78cb68cb58cb48cb38cb28cb18cb08caf8cae8cad8cac8cab8caa8caa8ca98ca88ca78ca68ca58ca48ca38ca28ca18ca08c9f8c9e8c9d8c9d8c9c8c9b8c9a8c998c988c978c968c958c948c938c928c918c908c8f8c8f8c8e8c8d8c8c8c8b8c8a8c898c888c878c868c858c848c838c828c818c818c808c7f8c7e8c7d8c7c8c7b8c7a8c798c788c778c768c758c748c738c738c728c718c708c6f8c6e8c6d8c6c8c6b8c6a8c698c688c678c668c658c648c648c638c628c618c608c5f8c5e8c5d8c5c8c5b8c5a8c598c588c578c568c568c558c548c538c528c518c508c4f8c4e8c4d8c4c8c4b8c4a8c498c488c478c478c468c458c448c438c428c418c408c3f8c3e8c3d8c3c8c3b8c3a8c398c398c388c378c368c358c348c338c328c318c308c2f8c2e8c2d8c2c8c2b8c2a8c2a8c298c288c278c268c258c248c238c22,
  0x8dfd8dfc8dfb8dfa8df98df88df78df68df68df58df48df38df28df18df08def8dee8ded8dec8deb8dea8dea8de98de88de78de68de58de48de38de28de18de08ddf8dde8dde8ddd8ddc8ddb8dda8dd98dd88dd78dd68dd58dd48dd38dd28dd28dd18dd08dcf8dce8dcd8dcc8dcb8dca8dc98dc88dc78dc68dc68dc58dc48dc38dc28dc18dc08dbf8dbe8dbd8dbc8dbb8dba8dba8db98db88db78db68db58db48db38db28db18db08daf8dae8dae8dad8dac8dab8daa8da98da88da78da68da58da48da38da28da28da18da08d9f8d9e8d9d8d9c8d9b8d9a8d998d988d978d968d958d958d948d938d928d918d908d8f8d8e8d8d8d8c8d8b8d8a8d898d898d888d878d868d858d848d838d828d818d808d7f8d7e8d7d8d7d8d7c8d7b8d7a8d798d788d778d768d758d748d738d728d718d708d708d6f8d6e8d6d8d6c8d6b8d6a8d698d688d678d668d658d648d638d638d628d618d608d5f8d5e8d5d8d5c8d5b8d5a8d598d588d578d578d568d558d548d538d528d518d508d4f8d4e8d4d8d4c8d4b8d4a8d4a8d498d488d478d468d458d448d438d428d418d408d3f8d3e8d3d8d3d8d3c8d3b8d3a8d398d388d378d368d358d348d338d328d318d308d308d2f8d2e8d2d8d2c8d2b8d2a8d298d288d278d268d258d248d238d238d228d218d208d1f8d1e8d1d8d1c8d1b8d1a8d198d188d178d168d168d158d148d138d128d11,
  0x8ee88ee78ee68ee58ee48ee38ee38ee28ee18ee08edf8ede8edd8edc8edb8eda8ed98ed98ed88ed78ed68ed58ed48ed38ed28ed18ed08ecf8ece8ece8ecd8ecc8ecb8eca8ec98ec88ec78ec68ec58ec48ec38ec38ec28ec18ec08ebf8ebe8ebd8ebc8ebb8eba8eb98eb88eb88eb78eb68eb58eb48eb38eb28eb18eb08eaf8eae8ead8ead8eac8eab8eaa8ea98ea88ea78ea68ea58ea48ea38ea28ea28ea18ea08e9f8e9e8e9d8e9c8e9b8e9a8e998e988e978e978e968e958e948e938e928e918e908e8f8e8e8e8d8e8c8e8c8e8b8e8a8e898e888e878e868e858e848e838e828e818e818e808e7f8e7e8e7d8e7c8e7b8e7a8e798e788e778e768e758e758e748e738e728e718e708e6f8e6e8e6d8e6c8e6b8e6a8e6a8e698e688e678e668e658e648e638e628e618e608e5f8e5f8e5e8e5d8e5c8e5b8e5a8e598e588e578e568e558e548e538e538e528e518e508e4f8e4e8e4d8e4c8e4b8e4a8e498e488e488e478e468e458e448e438e428e418e408e3f8e3e8e3d8e3c8e3c8e3b8e3a8e398e388e378e368e358e348e338e328e318e318e308e2f8e2e8e2d8e2c8e2b8e2a8e298e288e278e268e258e258e248e238e228e218e208e1f8e1e8e1d8e1c8e1b8e1a8e1a8e198e188e178e168e158e148e138e128e118e108e0f8e0e8e0e8e0d8e0c8e0b8e0a8e098e088e078e068e058e048e038e028e028e018e008dff8dfe,
  0x8fd18fd08fd08fcf8fce8fcd8fcc8fcb8fca8fc98fc88fc78fc78fc68fc58fc48fc38fc28fc18fc08fbf8fbe8fbd8fbd8fbc8fbb8fba8fb98fb88fb78fb68fb58fb48fb38fb38fb28fb18fb08faf8fae8fad8fac8fab8faa8fa98fa98fa88fa78fa68fa58fa48fa38fa28fa18fa08f9f8f9f8f9e8f9d8f9c8f9b8f9a8f998f988f978f968f958f958f948f938f928f918f908f8f8f8e8f8d8f8c8f8b8f8a8f8a8f898f888f878f868f858f848f838f828f818f808f808f7f8f7e8f7d8f7c8f7b8f7a8f798f788f778f768f768f758f748f738f728f718f708f6f8f6e8f6d8f6c8f6c8f6b8f6a8f698f688f678f668f658f648f638f628f628f618f608f5f8f5e8f5d8f5c8f5b8f5a8f598f588f578f578f568f558f548f538f528f518f508f4f8f4e8f4d8f4d8f4c8f4b8f4a8f498f488f478f468f458f448f438f438f428f418f408f3f8f3e8f3d8f3c8f3b8f3a8f398f388f388f378f368f358f348f338f328f318f308f2f8f2e8f2e8f2d8f2c8f2b8f2a8f298f288f278f268f258f248f238f238f228f218f208f1f8f1e8f1d8f1c8f1b8f1a8f198f198f188f178f168f158f148f138f128f118f108f0f8f0e8f0e8f0d8f0c8f0b8f0a8f098f088f078f068f058f048f048f038f028f018f008eff8efe8efd8efc8efb8efa8ef98ef98ef88ef78ef68ef58ef48ef38ef28ef18ef08eef8eee8eee8eed8eec8eeb8eea8ee9,
  0x90b990b890b790b690b590b490b490b390b290b190b090af90ae90ad90ac90ab90ab90aa90a990a890a790a690a590a490a390a290a290a190a0909f909e909d909c909b909a90999099909890979096909590949093909290919090908f908f908e908d908c908b908a90899088908790869086908590849083908290819080907f907e907d907d907c907b907a90799078907790769075907490749073907290719070906f906e906d906c906b906a906a90699068906790669065906490639062906190619060905f905e905d905c905b905a90599058905790579056905590549053905290519050904f904e904e904d904c904b904a90499048904790469045904590449043904290419040903f903e903d903c903b903b903a90399038903790369035903490339032903290319030902f902e902d902c902b902a90299028902890279026902590249023902290219020901f901e901e901d901c901b901a90199018901790169015901590149013901290119010900f900e900d900c900b900b900a900990089007900690059004900390029001900190008fff8ffe8ffd8ffc8ffb8ffa8ff98ff88ff88ff78ff68ff58ff48ff38ff28ff18ff08fef8fee8fee8fed8fec8feb8fea8fe98fe88fe78fe68fe58fe48fe48fe38fe28fe18fe08fdf8fde8fdd8fdc8fdb8fda8fda8fd98fd88fd78fd68fd58fd48fd38fd2,
  0x919f919e919d919c919b919a919991999198919791969195919491939192919191919190918f918e918d918c918b918a91899188918891879186918591849183918291819180917f917f917e917d917c917b917a91799178917791779176917591749173917291719170916f916e916e916d916c916b916a91699168916791669166916591649163916291619160915f915e915d915d915c915b915a91599158915791569155915491549153915291519150914f914e914d914c914c914b914a91499148914791469145914491439143914291419140913f913e913d913c913b913a913a91399138913791369135913491339132913191319130912f912e912d912c912b912a912991299128912791269125912491239122912191209120911f911e911d911c911b911a91199118911791179116911591149113911291119110910f910e910e910d910c910b910a9109910891079106910591059104910391029101910090ff90fe90fd90fc90fc90fb90fa90f990f890f790f690f590f490f390f390f290f190f090ef90ee90ed90ec90eb90ea90ea90e990e890e790e690e590e490e390e290e290e190e090df90de90dd90dc90db90da90d990d890d890d790d690d590d490d390d290d190d090cf90cf90ce90cd90cc90cb90ca90c990c890c790c690c690c590c490c390c290c190c090bf90be90bd90bd90bc90bb90ba,
  0x9283928292819280927f927f927e927d927c927b927a92799278927792779276927592749273927292719270926f926f926e926d926c926b926a92699268926792679266926592649263926292619260925f925f925e925d925c925b925a92599258925792579256925592549253925292519250924f924f924e924d924c924b924a92499248924792479246924592449243924292419240923f923f923e923d923c923b923a92399238923792379236923592349233923292319230922f922f922e922d922c922b922a92299228922792269226922592249223922292219220921f921e921e921d921c921b921a92199218921792169216921592149213921292119210920f920e920e920d920c920b920a9209920892079206920692059204920392029201920091ff91fe91fd91fd91fc91fb91fa91f991f891f791f691f591f591f491f391f291f191f091ef91ee91ed91ed91ec91eb91ea91e991e891e791e691e591e591e491e391e291e191e091df91de91dd91dc91dc91db91da91d991d891d791d691d591d491d491d391d291d191d091cf91ce91cd91cc91cc91cb91ca91c991c891c791c691c591c491c391c391c291c191c091bf91be91bd91bc91bb91bb91ba91b991b891b791b691b591b491b391b291b291b191b091af91ae91ad91ac91ab91aa91aa91a991a891a791a691a591a491a391a291a291a191a0,
  0x9365936593649363936293619360935f935e935e935d935c935b935a93599358935793569356935593549353935293519350934f934f934e934d934c934b934a934993489347934793469345934493439342934193409340933f933e933d933c933b933a933993389338933793369335933493339332933193319330932f932e932d932c932b932a932993299328932793269325932493239322932293219320931f931e931d931c931b931a931a93199318931793169315931493139313931293119310930f930e930d930c930b930b930a9309930893079306930593049303930393029301930092ff92fe92fd92fc92fc92fb92fa92f992f892f792f692f592f492f492f392f292f192f092ef92ee92ed92ec92ec92eb92ea92e992e892e792e692e592e592e492e392e292e192e092df92de92dd92dd92dc92db92da92d992d892d792d692d592d592d492d392d292d192d092cf92ce92cd92cd92cc92cb92ca92c992c892c792c692c692c592c492c392c292c192c092bf92be92be92bd92bc92bb92ba92b992b892b792b692b692b592b492b392b292b192b092af92ae92ae92ad92ac92ab92aa92a992a892a792a692a692a592a492a392a292a192a0929f929e929e929d929c929b929a92999298929792979296929592949293929292919290928f928f928e928d928c928b928a9289928892879287928692859284,
  0x94469445944594449443944294419440943f943e943e943d943c943b943a943994389437943794369435943494339432943194309430942f942e942d942c942b942a942994299428942794269425942494239422942294219420941f941e941d941c941b941b941a94199418941794169415941494149413941294119410940f940e940d940d940c940b940a9409940894079406940694059404940394029401940093ff93ff93fe93fd93fc93fb93fa93f993f893f793f793f693f593f493f393f293f193f093f093ef93ee93ed93ec93eb93ea93e993e993e893e793e693e593e493e393e293e293e193e093df93de93dd93dc93db93db93da93d993d893d793d693d593d493d393d393d293d193d093cf93ce93cd93cc93cc93cb93ca93c993c893c793c693c593c593c493c393c293c193c093bf93be93be93bd93bc93bb93ba93b993b893b793b693b693b593b493b393b293b193b093af93af93ae93ad93ac93ab93aa93a993a893a893a793a693a593a493a393a293a193a093a0939f939e939d939c939b939a939993999398939793969395939493939392939293919390938f938e938d938c938b938a938a93899388938793869385938493839383938293819380937f937e937d937c937c937b937a93799378937793769375937493749373937293719370936f936e936d936d936c936b936a9369936893679366,
  0x95269525952495239522952195209520951f951e951d951c951b951a951a95199518951795169515951495139513951295119510950f950e950d950c950c950b950a9509950895079506950595059504950395029501950094ff94ff94fe94fd94fc94fb94fa94f994f894f894f794f694f594f494f394f294f194f194f094ef94ee94ed94ec94eb94eb94ea94e994e894e794e694e594e494e494e394e294e194e094df94de94dd94dd94dc94db94da94d994d894d794d694d694d594d494d394d294d194d094d094cf94ce94cd94cc94cb94ca94c994c994c894c794c694c594c494c394c294c294c194c094bf94be94bd94bc94bb94bb94ba94b994b894b794b694b594b494b494b394b294b194b094af94ae94ad94ad94ac94ab94aa94a994a894a794a794a694a594a494a394a294a194a094a0949f949e949d949c949b949a949994999498949794969495949494939492949294919490948f948e948d948c948b948b948a94899488948794869485948494849483948294819480947f947e947d947d947c947b947a94799478947794769476947594749473947294719470946f946f946e946d946c946b946a946994689468946794669465946494639462946194619460945f945e945d945c945b945b945a94599458945794569455945494549453945294519450944f944e944d944d944c944b944a944994489447,
  0x9603960396029601960095ff95fe95fd95fd95fc95fb95fa95f995f895f795f695f695f595f495f395f295f195f095f095ef95ee95ed95ec95eb95ea95ea95e995e895e795e695e595e495e395e395e295e195e095df95de95dd95dd95dc95db95da95d995d895d795d695d695d595d495d395d295d195d095d095cf95ce95cd95cc95cb95ca95ca95c995c895c795c695c595c495c395c395c295c195c095bf95be95bd95bd95bc95bb95ba95b995b895b795b695b695b595b495b395b295b195b095b095af95ae95ad95ac95ab95aa95aa95a995a895a795a695a595a495a395a395a295a195a0959f959e959d959d959c959b959a959995989597959695969595959495939592959195909590958f958e958d958c958b958a958995899588958795869585958495839583958295819580957f957e957d957c957c957b957a95799578957795769576957595749573957295719570956f956f956e956d956c956b956a956995699568956795669565956495639562956295619560955f955e955d955c955c955b955a95599558955795569555955595549553955295519550954f954e954e954d954c954b954a954995489548954795469545954495439542954195419540953f953e953d953c953b953b953a95399538953795369535953495349533953295319530952f952e952d952d952c952b952a9529952895279527,
  0x96e096df96de96dd96dc96db96da96da96d996d896d796d696d596d496d496d396d296d196d096cf96ce96ce96cd96cc96cb96ca96c996c896c896c796c696c596c496c396c296c296c196c096bf96be96bd96bc96bc96bb96ba96b996b896b796b696b696b596b496b396b296b196b096b096af96ae96ad96ac96ab96aa96aa96a996a896a796a696a596a496a496a396a296a196a0969f969e969e969d969c969b969a969996989698969796969695969496939692969296919690968f968e968d968c968c968b968a96899688968796869685968596849683968296819680967f967f967e967d967c967b967a967996799678967796769675967496739673967296719670966f966e966d966d966c966b966a966996689667966796669665966496639662966196619660965f965e965d965c965b965a965a96599658965796569655965496549653965296519650964f964e964e964d964c964b964a964996489648964796469645964496439642964296419640963f963e963d963c963b963b963a96399638963796369635963596349633963296319630962f962f962e962d962c962b962a962996299628962796269625962496239622962296219620961f961e961d961c961c961b961a96199618961796169616961596149613961296119610960f960f960e960d960c960b960a9609960996089607960696059604,
  0x97ba97b997b997b897b797b697b597b497b497b397b297b197b097af97ae97ae97ad97ac97ab97aa97a997a897a897a797a697a597a497a397a297a297a197a0979f979e979d979d979c979b979a979997989797979797969795979497939792979197919790978f978e978d978c978b978b978a978997889787978697869785978497839782978197809780977f977e977d977c977b977a977a97799778977797769775977497749773977297719770976f976e976e976d976c976b976a976997699768976797669765976497639763976297619760975f975e975d975d975c975b975a975997589757975797569755975497539752975197519750974f974e974d974c974b974b974a974997489747974697459745974497439742974197409740973f973e973d973c973b973a973a97399738973797369735973497349733973297319730972f972e972e972d972c972b972a972997289728972797269725972497239722972297219720971f971e971d971c971c971b971a971997189717971697169715971497139712971197109710970f970e970d970c970b970a970a9709970897079706970597049704970397029701970096ff96fe96fe96fd96fc96fb96fa96f996f896f896f796f696f596f496f396f296f296f196f096ef96ee96ed96ec96ec96eb96ea96e996e896e796e696e696e596e496e396e296e196e0,
  0x98949893989298919890988f988f988e988d988c988b988a988998899888988798869885988498849883988298819880987f987e987e987d987c987b987a987998799878987798769875987498739873987298719870986f986e986e986d986c986b986a986998689868986798669865986498639863986298619860985f985e985d985d985c985b985a985998589857985798569855985498539852985298519850984f984e984d984c984c984b984a984998489847984798469845984498439842984198419840983f983e983d983c983c983b983a983998389837983698369835983498339832983198309830982f982e982d982c982b982b982a982998289827982698259825982498239822982198209820981f981e981d981c981b981a981a98199818981798169815981498149813981298119810980f980f980e980d980c980b980a98099809980898079806980598049803980398029801980097ff97fe97fe97fd97fc97fb97fa97f997f897f897f797f697f597f497f397f297f297f197f097ef97ee97ed97ed97ec97eb97ea97e997e897e797e797e697e597e497e397e297e197e197e097df97de97dd97dc97dc97db97da97d997d897d797d697d697d597d497d397d297d197d097d097cf97ce97cd97cc97cb97cb97ca97c997c897c797c697c597c597c497c397c297c197c097bf97bf97be97bd97bc97bb,
  0x996b996b996a996999689967996699669965996499639962996199609960995f995e995d995c995b995b995a995999589957995699569955995499539952995199519950994f994e994d994c994b994b994a994999489947994699469945994499439942994199419940993f993e993d993c993b993b993a993999389937993699369935993499339932993199319930992f992e992d992c992b992b992a992999289927992699269925992499239922992199219920991f991e991d991c991b991b991a991999189917991699169915991499139912991199119910990f990e990d990c990b990b990a99099908990799069906990599049903990299019901990098ff98fe98fd98fc98fb98fb98fa98f998f898f798f698f698f598f498f398f298f198f198f098ef98ee98ed98ec98eb98eb98ea98e998e898e798e698e698e598e498e398e298e198e098e098df98de98dd98dc98db98db98da98d998d898d798d698d698d598d498d398d298d198d098d098cf98ce98cd98cc98cb98cb98ca98c998c898c798c698c598c598c498c398c298c198c098c098bf98be98bd98bc98bb98ba98ba98b998b898b798b698b598b598b498b398b298b198b098af98af98ae98ad98ac98ab98aa98aa98a998a898a798a698a598a598a498a398a298a198a0989f989f989e989d989c989b989a989a989998989897989698959894,
  0x9a429a419a409a3f9a3e9a3e9a3d9a3c9a3b9a3a9a399a399a389a379a369a359a349a349a339a329a319a309a2f9a2f9a2e9a2d9a2c9a2b9a2a9a2a9a299a289a279a269a259a259a249a239a229a219a209a209a1f9a1e9a1d9a1c9a1b9a1b9a1a9a199a189a179a169a169a159a149a139a129a119a119a109a0f9a0e9a0d9a0c9a0c9a0b9a0a9a099a089a079a069a069a059a049a039a029a019a019a0099ff99fe99fd99fc99fc99fb99fa99f999f899f799f799f699f599f499f399f299f299f199f099ef99ee99ed99ed99ec99eb99ea99e999e899e899e799e699e599e499e399e399e299e199e099df99de99dd99dd99dc99db99da99d999d899d899d799d699d599d499d399d399d299d199d099cf99ce99ce99cd99cc99cb99ca99c999c999c899c799c699c599c499c499c399c299c199c099bf99be99be99bd99bc99bb99ba99b999b999b899b799b699b599b499b499b399b299b199b099af99af99ae99ad99ac99ab99aa99aa99a999a899a799a699a599a499a499a399a299a199a0999f999f999e999d999c999b999a999a999999989997999699959995999499939992999199909990998f998e998d998c998b998a998a998999889987998699859985998499839982998199809980997f997e997d997c997b997b997a997999789977997699759975997499739972997199709970996f996e996d996c,
  0x9b179b169b159b149b149b139b129b119b109b0f9b0f9b0e9b0d9b0c9b0b9b0a9b0a9b099b089b079b069b059b059b049b039b029b019b009b009aff9afe9afd9afc9afb9afb9afa9af99af89af79af69af69af59af49af39af29af19af19af09aef9aee9aed9aec9aec9aeb9aea9ae99ae89ae89ae79ae69ae59ae49ae39ae39ae29ae19ae09adf9ade9ade9add9adc9adb9ada9ad99ad99ad89ad79ad69ad59ad49ad49ad39ad29ad19ad09acf9acf9ace9acd9acc9acb9aca9aca9ac99ac89ac79ac69ac59ac59ac49ac39ac29ac19ac09ac09abf9abe9abd9abc9abb9abb9aba9ab99ab89ab79ab69ab69ab59ab49ab39ab29ab19ab19ab09aaf9aae9aad9aac9aac9aab9aaa9aa99aa89aa79aa79aa69aa59aa49aa39aa29aa29aa19aa09a9f9a9e9a9e9a9d9a9c9a9b9a9a9a999a999a989a979a969a959a949a949a939a929a919a909a8f9a8f9a8e9a8d9a8c9a8b9a8a9a8a9a899a889a879a869a859a859a849a839a829a819a809a809a7f9a7e9a7d9a7c9a7b9a7b9a7a9a799a789a779a769a769a759a749a739a729a719a719a709a6f9a6e9a6d9a6c9a6c9a6b9a6a9a699a689a679a679a669a659a649a639a629a629a619a609a5f9a5e9a5d9a5d9a5c9a5b9a5a9a599a589a589a579a569a559a549a539a539a529a519a509a4f9a4e9a4d9a4d9a4c9a4b9a4a9a499a489a489a479a469a459a449a439a43,
  0x9bea9bea9be99be89be79be69be69be59be49be39be29be19be19be09bdf9bde9bdd9bdc9bdc9bdb9bda9bd99bd89bd89bd79bd69bd59bd49bd39bd39bd29bd19bd09bcf9bce9bce9bcd9bcc9bcb9bca9bc99bc99bc89bc79bc69bc59bc59bc49bc39bc29bc19bc09bc09bbf9bbe9bbd9bbc9bbb9bbb9bba9bb99bb89bb79bb79bb69bb59bb49bb39bb29bb29bb19bb09baf9bae9bad9bad9bac9bab9baa9ba99ba89ba89ba79ba69ba59ba49ba49ba39ba29ba19ba09b9f9b9f9b9e9b9d9b9c9b9b9b9a9b9a9b999b989b979b969b959b959b949b939b929b919b919b909b8f9b8e9b8d9b8c9b8c9b8b9b8a9b899b889b879b879b869b859b849b839b829b829b819b809b7f9b7e9b7e9b7d9b7c9b7b9b7a9b799b799b789b779b769b759b749b749b739b729b719b709b6f9b6f9b6e9b6d9b6c9b6b9b6a9b6a9b699b689b679b669b669b659b649b639b629b619b619b609b5f9b5e9b5d9b5c9b5c9b5b9b5a9b599b589b579b579b569b559b549b539b529b529b519b509b4f9b4e9b4e9b4d9b4c9b4b9b4a9b499b499b489b479b469b459b449b449b439b429b419b409b3f9b3f9b3e9b3d9b3c9b3b9b3a9b3a9b399b389b379b369b359b359b349b339b329b319b319b309b2f9b2e9b2d9b2c9b2c9b2b9b2a9b299b289b279b279b269b259b249b239b229b229b219b209b1f9b1e9b1d9b1d9b1c9b1b9b1a9b199b189b18,
  0x9cbd9cbc9cbb9cba9cb99cb99cb89cb79cb69cb59cb59cb49cb39cb29cb19cb09cb09caf9cae9cad9cac9cac9cab9caa9ca99ca89ca79ca79ca69ca59ca49ca39ca39ca29ca19ca09c9f9c9e9c9e9c9d9c9c9c9b9c9a9c9a9c999c989c979c969c959c959c949c939c929c919c919c909c8f9c8e9c8d9c8c9c8c9c8b9c8a9c899c889c879c879c869c859c849c839c839c829c819c809c7f9c7e9c7e9c7d9c7c9c7b9c7a9c7a9c799c789c779c769c759c759c749c739c729c719c719c709c6f9c6e9c6d9c6c9c6c9c6b9c6a9c699c689c679c679c669c659c649c639c639c629c619c609c5f9c5e9c5e9c5d9c5c9c5b9c5a9c5a9c599c589c579c569c559c559c549c539c529c519c519c509c4f9c4e9c4d9c4c9c4c9c4b9c4a9c499c489c479c479c469c459c449c439c439c429c419c409c3f9c3e9c3e9c3d9c3c9c3b9c3a9c399c399c389c379c369c359c359c349c339c329c319c309c309c2f9c2e9c2d9c2c9c2c9c2b9c2a9c299c289c279c279c269c259c249c239c229c229c219c209c1f9c1e9c1e9c1d9c1c9c1b9c1a9c199c199c189c179c169c159c149c149c139c129c119c109c109c0f9c0e9c0d9c0c9c0b9c0b9c0a9c099c089c079c069c069c059c049c039c029c029c019c009bff9bfe9bfd9bfd9bfc9bfb9bfa9bf99bf89bf89bf79bf69bf59bf49bf49bf39bf29bf19bf09bef9bef9bee9bed9bec9beb,
  0x9d8e9d8d9d8c9d8b9d8b9d8a9d899d889d879d869d869d859d849d839d829d829d819d809d7f9d7e9d7d9d7d9d7c9d7b9d7a9d799d799d789d779d769d759d759d749d739d729d719d709d709d6f9d6e9d6d9d6c9d6c9d6b9d6a9d699d689d679d679d669d659d649d639d639d629d619d609d5f9d5f9d5e9d5d9d5c9d5b9d5a9d5a9d599d589d579d569d569d559d549d539d529d519d519d509d4f9d4e9d4d9d4d9d4c9d4b9d4a9d499d499d489d479d469d459d449d449d439d429d419d409d409d3f9d3e9d3d9d3c9d3b9d3b9d3a9d399d389d379d379d369d359d349d339d329d329d319d309d2f9d2e9d2e9d2d9d2c9d2b9d2a9d2a9d299d289d279d269d259d259d249d239d229d219d219d209d1f9d1e9d1d9d1c9d1c9d1b9d1a9d199d189d189d179d169d159d149d139d139d129d119d109d0f9d0f9d0e9d0d9d0c9d0b9d0a9d0a9d099d089d079d069d069d059d049d039d029d019d019d009cff9cfe9cfd9cfd9cfc9cfb9cfa9cf99cf99cf89cf79cf69cf59cf49cf49cf39cf29cf19cf09cf09cef9cee9ced9cec9ceb9ceb9cea9ce99ce89ce79ce79ce69ce59ce49ce39ce29ce29ce19ce09cdf9cde9cde9cdd9cdc9cdb9cda9cd99cd99cd89cd79cd69cd59cd59cd49cd39cd29cd19cd09cd09ccf9cce9ccd9ccc9ccc9ccb9cca9cc99cc89cc79cc79cc69cc59cc49cc39cc39cc29cc19cc09cbf9cbe9cbe,
  0x9e5d9e5d9e5c9e5b9e5a9e599e599e589e579e569e559e559e549e539e529e519e519e509e4f9e4e9e4d9e4c9e4c9e4b9e4a9e499e489e489e479e469e459e449e449e439e429e419e409e409e3f9e3e9e3d9e3c9e3b9e3b9e3a9e399e389e379e379e369e359e349e339e339e329e319e309e2f9e2f9e2e9e2d9e2c9e2b9e2a9e2a9e299e289e279e269e269e259e249e239e229e229e219e209e1f9e1e9e1e9e1d9e1c9e1b9e1a9e199e199e189e179e169e159e159e149e139e129e119e119e109e0f9e0e9e0d9e0c9e0c9e0b9e0a9e099e089e089e079e069e059e049e049e039e029e019e009e009dff9dfe9dfd9dfc9dfb9dfb9dfa9df99df89df79df79df69df59df49df39df39df29df19df09def9dee9dee9ded9dec9deb9dea9dea9de99de89de79de69de69de59de49de39de29de19de19de09ddf9dde9ddd9ddd9ddc9ddb9dda9dd99dd99dd89dd79dd69dd59dd49dd49dd39dd29dd19dd09dd09dcf9dce9dcd9dcc9dcc9dcb9dca9dc99dc89dc89dc79dc69dc59dc49dc39dc39dc29dc19dc09dbf9dbf9dbe9dbd9dbc9dbb9dba9dba9db99db89db79db69db69db59db49db39db29db29db19db09daf9dae9dad9dad9dac9dab9daa9da99da99da89da79da69da59da59da49da39da29da19da09da09d9f9d9e9d9d9d9c9d9c9d9b9d9a9d999d989d989d979d969d959d949d939d939d929d919d909d8f9d8f,
  0x9f2c9f2b9f2a9f299f299f289f279f269f259f259f249f239f229f219f219f209f1f9f1e9f1d9f1d9f1c9f1b9f1a9f199f199f189f179f169f159f159f149f139f129f119f119f109f0f9f0e9f0d9f0d9f0c9f0b9f0a9f099f099f089f079f069f059f049f049f039f029f019f009f009eff9efe9efd9efc9efc9efb9efa9ef99ef89ef89ef79ef69ef59ef49ef49ef39ef29ef19ef09ef09eef9eee9eed9eec9eec9eeb9eea9ee99ee89ee89ee79ee69ee59ee49ee39ee39ee29ee19ee09edf9edf9ede9edd9edc9edb9edb9eda9ed99ed89ed79ed79ed69ed59ed49ed39ed39ed29ed19ed09ecf9ecf9ece9ecd9ecc9ecb9eca9eca9ec99ec89ec79ec69ec69ec59ec49ec39ec29ec29ec19ec09ebf9ebe9ebe9ebd9ebc9ebb9eba9eba9eb99eb89eb79eb69eb69eb59eb49eb39eb29eb19eb19eb09eaf9eae9ead9ead9eac9eab9eaa9ea99ea99ea89ea79ea69ea59ea59ea49ea39ea29ea19ea19ea09e9f9e9e9e9d9e9d9e9c9e9b9e9a9e999e989e989e979e969e959e949e949e939e929e919e909e909e8f9e8e9e8d9e8c9e8c9e8b9e8a9e899e889e889e879e869e859e849e839e839e829e819e809e7f9e7f9e7e9e7d9e7c9e7b9e7b9e7a9e799e789e779e779e769e759e749e739e729e729e719e709e6f9e6e9e6e9e6d9e6c9e6b9e6a9e6a9e699e689e679e669e669e659e649e639e629e629e619e609e5f9e5e,
  0x9ff99ff89ff79ff79ff69ff59ff49ff39ff39ff29ff19ff09ff09fef9fee9fed9fec9fec9feb9fea9fe99fe89fe89fe79fe69fe59fe49fe49fe39fe29fe19fe09fe09fdf9fde9fdd9fdc9fdc9fdb9fda9fd99fd89fd89fd79fd69fd59fd49fd49fd39fd29fd19fd09fd09fcf9fce9fcd9fcc9fcc9fcb9fca9fc99fc89fc89fc79fc69fc59fc49fc49fc39fc29fc19fc09fc09fbf9fbe9fbd9fbc9fbc9fbb9fba9fb99fb89fb89fb79fb69fb59fb49fb39fb39fb29fb19fb09faf9faf9fae9fad9fac9fab9fab9faa9fa99fa89fa79fa79fa69fa59fa49fa39fa39fa29fa19fa09f9f9f9f9f9e9f9d9f9c9f9b9f9b9f9a9f999f989f979f979f969f959f949f939f939f929f919f909f8f9f8f9f8e9f8d9f8c9f8b9f8b9f8a9f899f889f879f879f869f859f849f839f839f829f819f809f7f9f7f9f7e9f7d9f7c9f7b9f7b9f7a9f799f789f779f779f769f759f749f739f739f729f719f709f6f9f6f9f6e9f6d9f6c9f6b9f6b9f6a9f699f689f679f679f669f659f649f639f639f629f619f609f5f9f5f9f5e9f5d9f5c9f5b9f5b9f5a9f599f589f579f569f569f559f549f539f529f529f519f509f4f9f4e9f4e9f4d9f4c9f4b9f4a9f4a9f499f489f479f469f469f459f449f439f429f429f419f409f3f9f3e9f3e9f3d9f3c9f3b9f3a9f3a9f399f389f379f369f369f359f349f339f329f329f319f309f2f9f2e9f2e9f2d,
  0xa0c5a0c4a0c3a0c3a0c2a0c1a0c0a0bfa0bfa0bea0bda0bca0bca0bba0baa0b9a0b8a0b8a0b7a0b6a0b5a0b4a0b4a0b3a0b2a0b1a0b0a0b0a0afa0aea0ada0aca0aca0aba0aaa0a9a0a8a0a8a0a7a0a6a0a5a0a4a0a4a0a3a0a2a0a1a0a0a0a0a09fa09ea09da09da09ca09ba09aa099a099a098a097a096a095a095a094a093a092a091a091a090a08fa08ea08da08da08ca08ba08aa089a089a088a087a086a085a085a084a083a082a081a081a080a07fa07ea07da07da07ca07ba07aa07aa079a078a077a076a076a075a074a073a072a072a071a070a06fa06ea06ea06da06ca06ba06aa06aa069a068a067a066a066a065a064a063a062a062a061a060a05fa05ea05ea05da05ca05ba05aa05aa059a058a057a056a056a055a054a053a052a052a051a050a04fa04ea04ea04da04ca04ba04ba04aa049a048a047a047a046a045a044a043a043a042a041a040a03fa03fa03ea03da03ca03ba03ba03aa039a038a037a037a036a035a034a033a033a032a031a030a02fa02fa02ea02da02ca02ba02ba02aa029a028a027a027a026a025a024a023a023a022a021a020a01fa01fa01ea01da01ca01ba01ba01aa019a018a017a017a016a015a014a013a013a012a011a010a00fa00fa00ea00da00ca00ba00ba00aa009a008a007a007a006a005a004a003a003a002a001a0009fff9fff9ffe9ffd9ffc9ffb9ffb9ffa,
  0xa190a18fa18ea18da18da18ca18ba18aa189a189a188a187a186a186a185a184a183a182a182a181a180a17fa17ea17ea17da17ca17ba17aa17aa179a178a177a177a176a175a174a173a173a172a171a170a16fa16fa16ea16da16ca16ba16ba16aa169a168a168a167a166a165a164a164a163a162a161a160a160a15fa15ea15da15ca15ca15ba15aa159a158a158a157a156a155a155a154a153a152a151a151a150a14fa14ea14da14da14ca14ba14aa149a149a148a147a146a145a145a144a143a142a142a141a140a13fa13ea13ea13da13ca13ba13aa13aa139a138a137a136a136a135a134a133a132a132a131a130a12fa12fa12ea12da12ca12ba12ba12aa129a128a127a127a126a125a124a123a123a122a121a120a11fa11fa11ea11da11ca11ca11ba11aa119a118a118a117a116a115a114a114a113a112a111a110a110a10fa10ea10da10ca10ca10ba10aa109a109a108a107a106a105a105a104a103a102a101a101a100a0ffa0fea0fda0fda0fca0fba0faa0f9a0f9a0f8a0f7a0f6a0f5a0f5a0f4a0f3a0f2a0f2a0f1a0f0a0efa0eea0eea0eda0eca0eba0eaa0eaa0e9a0e8a0e7a0e6a0e6a0e5a0e4a0e3a0e2a0e2a0e1a0e0a0dfa0dea0dea0dda0dca0dba0daa0daa0d9a0d8a0d7a0d7a0d6a0d5a0d4a0d3a0d3a0d2a0d1a0d0a0cfa0cfa0cea0cda0cca0cba0cba0caa0c9a0c8a0c7a0c7a0c6,
  0xa259a259a258a257a256a255a255a254a253a252a252a251a250a24fa24ea24ea24da24ca24ba24aa24aa249a248a247a247a246a245a244a243a243a242a241a240a23fa23fa23ea23da23ca23ca23ba23aa239a238a238a237a236a235a234a234a233a232a231a231a230a22fa22ea22da22da22ca22ba22aa229a229a228a227a226a226a225a224a223a222a222a221a220a21fa21ea21ea21da21ca21ba21ba21aa219a218a217a217a216a215a214a213a213a212a211a210a20fa20fa20ea20da20ca20ca20ba20aa209a208a208a207a206a205a204a204a203a202a201a201a200a1ffa1fea1fda1fda1fca1fba1faa1f9a1f9a1f8a1f7a1f6a1f6a1f5a1f4a1f3a1f2a1f2a1f1a1f0a1efa1eea1eea1eda1eca1eba1eba1eaa1e9a1e8a1e7a1e7a1e6a1e5a1e4a1e3a1e3a1e2a1e1a1e0a1dfa1dfa1dea1dda1dca1dca1dba1daa1d9a1d8a1d8a1d7a1d6a1d5a1d4a1d4a1d3a1d2a1d1a1d0a1d0a1cfa1cea1cda1cda1cca1cba1caa1c9a1c9a1c8a1c7a1c6a1c5a1c5a1c4a1c3a1c2a1c2a1c1a1c0a1bfa1bea1bea1bda1bca1bba1baa1baa1b9a1b8a1b7a1b6a1b6a1b5a1b4a1b3a1b3a1b2a1b1a1b0a1afa1afa1aea1ada1aca1aba1aba1aaa1a9a1a8a1a7a1a7a1a6a1a5a1a4a1a4a1a3a1a2a1a1a1a0a1a0a19fa19ea19da19ca19ca19ba19aa199a198a198a197a196a195a195a194a193a192a191a191,
  0xa322a321a320a31fa31fa31ea31da31ca31ca31ba31aa319a318a318a317a316a315a315a314a313a312a311a311a310a30fa30ea30da30da30ca30ba30aa30aa309a308a307a306a306a305a304a303a303a302a301a300a2ffa2ffa2fea2fda2fca2fca2fba2faa2f9a2f8a2f8a2f7a2f6a2f5a2f4a2f4a2f3a2f2a2f1a2f1a2f0a2efa2eea2eda2eda2eca2eba2eaa2eaa2e9a2e8a2e7a2e6a2e6a2e5a2e4a2e3a2e2a2e2a2e1a2e0a2dfa2dfa2dea2dda2dca2dba2dba2daa2d9a2d8a2d8a2d7a2d6a2d5a2d4a2d4a2d3a2d2a2d1a2d1a2d0a2cfa2cea2cda2cda2cca2cba2caa2c9a2c9a2c8a2c7a2c6a2c6a2c5a2c4a2c3a2c2a2c2a2c1a2c0a2bfa2bfa2bea2bda2bca2bba2bba2baa2b9a2b8a2b7a2b7a2b6a2b5a2b4a2b4a2b3a2b2a2b1a2b0a2b0a2afa2aea2ada2aca2aca2aba2aaa2a9a2a9a2a8a2a7a2a6a2a5a2a5a2a4a2a3a2a2a2a2a2a1a2a0a29fa29ea29ea29da29ca29ba29aa29aa299a298a297a297a296a295a294a293a293a292a291a290a290a28fa28ea28da28ca28ca28ba28aa289a288a288a287a286a285a285a284a283a282a281a281a280a27fa27ea27da27da27ca27ba27aa27aa279a278a277a276a276a275a274a273a272a272a271a270a26fa26fa26ea26da26ca26ba26ba26aa269a268a268a267a266a265a264a264a263a262a261a260a260a25fa25ea25da25da25ca25ba25a,
  0xa3e9a3e8a3e7a3e7a3e6a3e5a3e4a3e4a3e3a3e2a3e1a3e0a3e0a3dfa3dea3dda3dda3dca3dba3daa3daa3d9a3d8a3d7a3d6a3d6a3d5a3d4a3d3a3d3a3d2a3d1a3d0a3cfa3cfa3cea3cda3cca3cca3cba3caa3c9a3c8a3c8a3c7a3c6a3c5a3c5a3c4a3c3a3c2a3c1a3c1a3c0a3bfa3bea3bea3bda3bca3bba3baa3baa3b9a3b8a3b7a3b7a3b6a3b5a3b4a3b3a3b3a3b2a3b1a3b0a3b0a3afa3aea3ada3aca3aca3aba3aaa3a9a3a9a3a8a3a7a3a6a3a5a3a5a3a4a3a3a3a2a3a2a3a1a3a0a39fa39ea39ea39da39ca39ba39ba39aa399a398a397a397a396a395a394a394a393a392a391a390a390a38fa38ea38da38da38ca38ba38aa389a389a388a387a386a386a385a384a383a382a382a381a380a37fa37fa37ea37da37ca37ba37ba37aa379a378a378a377a376a375a374a374a373a372a371a371a370a36fa36ea36da36da36ca36ba36aa36aa369a368a367a366a366a365a364a363a363a362a361a360a35fa35fa35ea35da35ca35ba35ba35aa359a358a358a357a356a355a354a354a353a352a351a351a350a34fa34ea34da34da34ca34ba34aa34aa349a348a347a346a346a345a344a343a343a342a341a340a33fa33fa33ea33da33ca33ca33ba33aa339a338a338a337a336a335a335a334a333a332a331a331a330a32fa32ea32da32da32ca32ba32aa32aa329a328a327a326a326a325a324a323a323,
  0xa4afa4aea4aea4ada4aca4aba4aba4aaa4a9a4a8a4a7a4a7a4a6a4a5a4a4a4a4a4a3a4a2a4a1a4a0a4a0a49fa49ea49da49da49ca49ba49aa49aa499a498a497a496a496a495a494a493a493a492a491a490a490a48fa48ea48da48ca48ca48ba48aa489a489a488a487a486a485a485a484a483a482a482a481a480a47fa47fa47ea47da47ca47ba47ba47aa479a478a478a477a476a475a474a474a473a472a471a471a470a46fa46ea46da46da46ca46ba46aa46aa469a468a467a467a466a465a464a463a463a462a461a460a460a45fa45ea45da45ca45ca45ba45aa459a459a458a457a456a456a455a454a453a452a452a451a450a44fa44fa44ea44da44ca44ba44ba44aa449a448a448a447a446a445a444a444a443a442a441a441a440a43fa43ea43ea43da43ca43ba43aa43aa439a438a437a437a436a435a434a433a433a432a431a430a430a42fa42ea42da42ca42ca42ba42aa429a429a428a427a426a426a425a424a423a422a422a421a420a41fa41fa41ea41da41ca41ba41ba41aa419a418a418a417a416a415a414a414a413a412a411a411a410a40fa40ea40da40da40ca40ba40aa40aa409a408a407a407a406a405a404a403a403a402a401a400a400a3ffa3fea3fda3fca3fca3fba3faa3f9a3f9a3f8a3f7a3f6a3f5a3f5a3f4a3f3a3f2a3f2a3f1a3f0a3efa3eea3eea3eda3eca3eba3eba3ea,
  0xa574a573a573a572a571a570a570a56fa56ea56da56ca56ca56ba56aa569a569a568a567a566a566a565a564a563a563a562a561a560a55fa55fa55ea55da55ca55ca55ba55aa559a559a558a557a556a555a555a554a553a552a552a551a550a54fa54fa54ea54da54ca54ba54ba54aa549a548a548a547a546a545a545a544a543a542a541a541a540a53fa53ea53ea53da53ca53ba53ba53aa539a538a537a537a536a535a534a534a533a532a531a531a530a52fa52ea52da52da52ca52ba52aa52aa529a528a527a527a526a525a524a523a523a522a521a520a520a51fa51ea51da51da51ca51ba51aa519a519a518a517a516a516a515a514a513a513a512a511a510a50fa50fa50ea50da50ca50ca50ba50aa509a509a508a507a506a505a505a504a503a502a502a501a500a4ffa4ffa4fea4fda4fca4fba4fba4faa4f9a4f8a4f8a4f7a4f6a4f5a4f5a4f4a4f3a4f2a4f1a4f1a4f0a4efa4eea4eea4eda4eca4eba4eba4eaa4e9a4e8a4e7a4e7a4e6a4e5a4e4a4e4a4e3a4e2a4e1a4e1a4e0a4dfa4dea4dda4dda4dca4dba4daa4daa4d9a4d8a4d7a4d6a4d6a4d5a4d4a4d3a4d3a4d2a4d1a4d0a4d0a4cfa4cea4cda4cca4cca4cba4caa4c9a4c9a4c8a4c7a4c6a4c6a4c5a4c4a4c3a4c2a4c2a4c1a4c0a4bfa4bfa4bea4bda4bca4bca4bba4baa4b9a4b8a4b8a4b7a4b6a4b5a4b5a4b4a4b3a4b2a4b1a4b1a4b0,
  0xa638a637a637a636a635a634a634a633a632a631a630a630a62fa62ea62da62da62ca62ba62aa62aa629a628a627a627a626a625a624a623a623a622a621a620a620a61fa61ea61da61da61ca61ba61aa61aa619a618a617a616a616a615a614a613a613a612a611a610a610a60fa60ea60da60da60ca60ba60aa60aa609a608a607a606a606a605a604a603a603a602a601a600a600a5ffa5fea5fda5fda5fca5fba5faa5f9a5f9a5f8a5f7a5f6a5f6a5f5a5f4a5f3a5f3a5f2a5f1a5f0a5f0a5efa5eea5eda5eca5eca5eba5eaa5e9a5e9a5e8a5e7a5e6a5e6a5e5a5e4a5e3a5e3a5e2a5e1a5e0a5dfa5dfa5dea5dda5dca5dca5dba5daa5d9a5d9a5d8a5d7a5d6a5d6a5d5a5d4a5d3a5d2a5d2a5d1a5d0a5cfa5cfa5cea5cda5cca5cca5cba5caa5c9a5c8a5c8a5c7a5c6a5c5a5c5a5c4a5c3a5c2a5c2a5c1a5c0a5bfa5bfa5bea5bda5bca5bba5bba5baa5b9a5b8a5b8a5b7a5b6a5b5a5b5a5b4a5b3a5b2a5b2a5b1a5b0a5afa5aea5aea5ada5aca5aba5aba5aaa5a9a5a8a5a8a5a7a5a6a5a5a5a4a5a4a5a3a5a2a5a1a5a1a5a0a59fa59ea59ea59da59ca59ba59ba59aa599a598a597a597a596a595a594a594a593a592a591a591a590a58fa58ea58da58da58ca58ba58aa58aa589a588a587a587a586a585a584a584a583a582a581a580a580a57fa57ea57da57da57ca57ba57aa57aa579a578a577a576a576a575,
  0xa6fba6faa6f9a6f9a6f8a6f7a6f6a6f6a6f5a6f4a6f3a6f3a6f2a6f1a6f0a6f0a6efa6eea6eda6eda6eca6eba6eaa6e9a6e9a6e8a6e7a6e6a6e6a6e5a6e4a6e3a6e3a6e2a6e1a6e0a6e0a6dfa6dea6dda6dda6dca6dba6daa6daa6d9a6d8a6d7a6d6a6d6a6d5a6d4a6d3a6d3a6d2a6d1a6d0a6d0a6cfa6cea6cda6cda6cca6cba6caa6caa6c9a6c8a6c7a6c7a6c6a6c5a6c4a6c3a6c3a6c2a6c1a6c0a6c0a6bfa6bea6bda6bda6bca6bba6baa6baa6b9a6b8a6b7a6b7a6b6a6b5a6b4a6b4a6b3a6b2a6b1a6b0a6b0a6afa6aea6ada6ada6aca6aba6aaa6aaa6a9a6a8a6a7a6a7a6a6a6a5a6a4a6a4a6a3a6a2a6a1a6a0a6a0a69fa69ea69da69da69ca69ba69aa69aa699a698a697a697a696a695a694a694a693a692a691a691a690a68fa68ea68da68da68ca68ba68aa68aa689a688a687a687a686a685a684a684a683a682a681a681a680a67fa67ea67da67da67ca67ba67aa67aa679a678a677a677a676a675a674a674a673a672a671a671a670a66fa66ea66da66da66ca66ba66aa66aa669a668a667a667a666a665a664a664a663a662a661a661a660a65fa65ea65da65da65ca65ba65aa65aa659a658a657a657a656a655a654a654a653a652a651a651a650a64fa64ea64da64da64ca64ba64aa64aa649a648a647a647a646a645a644a644a643a642a641a640a640a63fa63ea63da63da63ca63ba63aa63aa639,
  0xa7bda7bca7bba7baa7baa7b9a7b8a7b7a7b7a7b6a7b5a7b4a7b4a7b3a7b2a7b1a7b1a7b0a7afa7aea7aea7ada7aca7aba7aba7aaa7a9a7a8a7a8a7a7a7a6a7a5a7a5a7a4a7a3a7a2a7a2a7a1a7a0a79fa79fa79ea79da79ca79ba79ba79aa799a798a798a797a796a795a795a794a793a792a792a791a790a78fa78fa78ea78da78ca78ca78ba78aa789a789a788a787a786a786a785a784a783a783a782a781a780a780a77fa77ea77da77ca77ca77ba77aa779a779a778a777a776a776a775a774a773a773a772a771a770a770a76fa76ea76da76da76ca76ba76aa76aa769a768a767a767a766a765a764a764a763a762a761a761a760a75fa75ea75da75da75ca75ba75aa75aa759a758a757a757a756a755a754a754a753a752a751a751a750a74fa74ea74ea74da74ca74ba74ba74aa749a748a748a747a746a745a744a744a743a742a741a741a740a73fa73ea73ea73da73ca73ba73ba73aa739a738a738a737a736a735a735a734a733a732a732a731a730a72fa72fa72ea72da72ca72ba72ba72aa729a728a728a727a726a725a725a724a723a722a722a721a720a71fa71fa71ea71da71ca71ca71ba71aa719a719a718a717a716a715a715a714a713a712a712a711a710a70fa70fa70ea70da70ca70ca70ba70aa709a709a708a707a706a706a705a704a703a703a702a701a700a6ffa6ffa6fea6fda6fca6fc,
  0xa87da87da87ca87ba87aa87aa879a878a877a877a876a875a874a874a873a872a871a871a870a86fa86ea86ea86da86ca86ba86ba86aa869a868a868a867a866a865a865a864a863a862a862a861a860a85fa85fa85ea85da85ca85ca85ba85aa859a859a858a857a856a856a855a854a853a853a852a851a850a850a84fa84ea84da84da84ca84ba84aa84aa849a848a847a847a846a845a844a844a843a842a841a841a840a83fa83ea83ea83da83ca83ba83ba83aa839a838a838a837a836a835a835a834a833a832a832a831a830a82fa82fa82ea82da82ca82ca82ba82aa829a829a828a827a826a826a825a824a823a822a822a821a820a81fa81fa81ea81da81ca81ca81ba81aa819a819a818a817a816a816a815a814a813a813a812a811a810a810a80fa80ea80da80da80ca80ba80aa80aa809a808a807a807a806a805a804a804a803a802a801a801a800a7ffa7fea7fea7fda7fca7fba7fba7faa7f9a7f8a7f8a7f7a7f6a7f5a7f5a7f4a7f3a7f2a7f2a7f1a7f0a7efa7efa7eea7eda7eca7eba7eba7eaa7e9a7e8a7e8a7e7a7e6a7e5a7e5a7e4a7e3a7e2a7e2a7e1a7e0a7dfa7dfa7dea7dda7dca7dca7dba7daa7d9a7d9a7d8a7d7a7d6a7d6a7d5a7d4a7d3a7d3a7d2a7d1a7d0a7d0a7cfa7cea7cda7cda7cca7cba7caa7caa7c9a7c8a7c7a7c7a7c6a7c5a7c4a7c4a7c3a7c2a7c1a7c0a7c0a7bfa7bea7bd,
  0xa93da93ca93ca93ba93aa939a939a938a937a936a936a935a934a933a933a932a931a930a930a92fa92ea92da92da92ca92ba92aa92aa929a928a928a927a926a925a925a924a923a922a922a921a920a91fa91fa91ea91da91ca91ca91ba91aa919a919a918a917a916a916a915a914a913a913a912a911a910a910a90fa90ea90da90da90ca90ba90aa90aa909a908a907a907a906a905a904a904a903a902a901a901a900a8ffa8fea8fea8fda8fca8fba8fba8faa8f9a8f8a8f8a8f7a8f6a8f5a8f5a8f4a8f3a8f2a8f2a8f1a8f0a8efa8efa8eea8eda8eca8eca8eba8eaa8e9a8e9a8e8a8e7a8e6a8e6a8e5a8e4a8e3a8e3a8e2a8e1a8e0a8e0a8dfa8dea8dda8dda8dca8dba8daa8daa8d9a8d8a8d7a8d7a8d6a8d5a8d4a8d4a8d3a8d2a8d1a8d1a8d0a8cfa8cea8cea8cda8cca8cba8cba8caa8c9a8c8a8c8a8c7a8c6a8c5a8c5a8c4a8c3a8c2a8c2a8c1a8c0a8bfa8bfa8bea8bda8bca8bca8bba8baa8b9a8b9a8b8a8b7a8b6a8b6a8b5a8b4a8b3a8b3a8b2a8b1a8b0a8b0a8afa8aea8ada8ada8aca8aba8aaa8aaa8a9a8a8a8a7a8a7a8a6a8a5a8a4a8a4a8a3a8a2a8a1a8a1a8a0a89fa89ea89ea89da89ca89ba89ba89aa899a898a898a897a896a895a895a894a893a892a892a891a890a88fa88fa88ea88da88ca88ca88ba88aa889a889a888a887a886a886a885a884a883a883a882a881a880a880a87fa87e,
  0xa9fca9fba9faa9faa9f9a9f8a9f7a9f7a9f6a9f5a9f4a9f4a9f3a9f2a9f1a9f1a9f0a9efa9efa9eea9eda9eca9eca9eba9eaa9e9a9e9a9e8a9e7a9e6a9e6a9e5a9e4a9e3a9e3a9e2a9e1a9e0a9e0a9dfa9dea9dda9dda9dca9dba9daa9daa9d9a9d8a9d7a9d7a9d6a9d5a9d4a9d4a9d3a9d2a9d2a9d1a9d0a9cfa9cfa9cea9cda9cca9cca9cba9caa9c9a9c9a9c8a9c7a9c6a9c6a9c5a9c4a9c3a9c3a9c2a9c1a9c0a9c0a9bfa9bea9bda9bda9bca9bba9baa9baa9b9a9b8a9b7a9b7a9b6a9b5a9b4a9b4a9b3a9b2a9b2a9b1a9b0a9afa9afa9aea9ada9aca9aca9aba9aaa9a9a9a9a9a8a9a7a9a6a9a6a9a5a9a4a9a3a9a3a9a2a9a1a9a0a9a0a99fa99ea99da99da99ca99ba99aa99aa999a998a997a997a996a995a994a994a993a992a991a991a990a98fa98ea98ea98da98ca98ca98ba98aa989a989a988a987a986a986a985a984a983a983a982a981a980a980a97fa97ea97da97da97ca97ba97aa97aa979a978a977a977a976a975a974a974a973a972a971a971a970a96fa96ea96ea96da96ca96ba96ba96aa969a968a968a967a966a965a965a964a963a963a962a961a960a960a95fa95ea95da95da95ca95ba95aa95aa959a958a957a957a956a955a954a954a953a952a951a951a950a94fa94ea94ea94da94ca94ba94ba94aa949a948a948a947a946a945a945a944a943a942a942a941a940a93fa93fa93e,
  0xaabaaab9aab8aab7aab7aab6aab5aab4aab4aab3aab2aab1aab1aab0aaafaaaeaaaeaaadaaacaaacaaabaaaaaaa9aaa9aaa8aaa7aaa6aaa6aaa5aaa4aaa3aaa3aaa2aaa1aaa0aaa0aa9faa9eaa9daa9daa9caa9baa9baa9aaa99aa98aa98aa97aa96aa95aa95aa94aa93aa92aa92aa91aa90aa8faa8faa8eaa8daa8caa8caa8baa8aaa8aaa89aa88aa87aa87aa86aa85aa84aa84aa83aa82aa81aa81aa80aa7faa7eaa7eaa7daa7caa7baa7baa7aaa79aa78aa78aa77aa76aa76aa75aa74aa73aa73aa72aa71aa70aa70aa6faa6eaa6daa6daa6caa6baa6aaa6aaa69aa68aa67aa67aa66aa65aa64aa64aa63aa62aa62aa61aa60aa5faa5faa5eaa5daa5caa5caa5baa5aaa59aa59aa58aa57aa56aa56aa55aa54aa53aa53aa52aa51aa50aa50aa4faa4eaa4eaa4daa4caa4baa4baa4aaa49aa48aa48aa47aa46aa45aa45aa44aa43aa42aa42aa41aa40aa3faa3faa3eaa3daa3caa3caa3baa3aaa39aa39aa38aa37aa37aa36aa35aa34aa34aa33aa32aa31aa31aa30aa2faa2eaa2eaa2daa2caa2baa2baa2aaa29aa28aa28aa27aa26aa25aa25aa24aa23aa22aa22aa21aa20aa20aa1faa1eaa1daa1daa1caa1baa1aaa1aaa19aa18aa17aa17aa16aa15aa14aa14aa13aa12aa11aa11aa10aa0faa0eaa0eaa0daa0caa0baa0baa0aaa09aa09aa08aa07aa06aa06aa05aa04aa03aa03aa02aa01aa00aa00a9ffa9fea9fda9fd,
  0xab76ab76ab75ab74ab73ab73ab72ab71ab70ab70ab6fab6eab6dab6dab6cab6bab6bab6aab69ab68ab68ab67ab66ab65ab65ab64ab63ab62ab62ab61ab60ab5fab5fab5eab5dab5dab5cab5bab5aab5aab59ab58ab57ab57ab56ab55ab54ab54ab53ab52ab52ab51ab50ab4fab4fab4eab4dab4cab4cab4bab4aab49ab49ab48ab47ab46ab46ab45ab44ab44ab43ab42ab41ab41ab40ab3fab3eab3eab3dab3cab3bab3bab3aab39ab38ab38ab37ab36ab36ab35ab34ab33ab33ab32ab31ab30ab30ab2fab2eab2dab2dab2cab2bab2aab2aab29ab28ab28ab27ab26ab25ab25ab24ab23ab22ab22ab21ab20ab1fab1fab1eab1dab1cab1cab1bab1aab1aab19ab18ab17ab17ab16ab15ab14ab14ab13ab12ab11ab11ab10ab0fab0eab0eab0dab0cab0cab0bab0aab09ab09ab08ab07ab06ab06ab05ab04ab03ab03ab02ab01ab00ab00aaffaafeaafeaafdaafcaafbaafbaafaaaf9aaf8aaf8aaf7aaf6aaf5aaf5aaf4aaf3aaf2aaf2aaf1aaf0aaefaaefaaeeaaedaaedaaecaaebaaeaaaeaaae9aae8aae7aae7aae6aae5aae4aae4aae3aae2aae1aae1aae0aadfaadfaadeaaddaadcaadcaadbaadaaad9aad9aad8aad7aad6aad6aad5aad4aad3aad3aad2aad1aad0aad0aacfaaceaaceaacdaaccaacbaacbaacaaac9aac8aac8aac7aac6aac5aac5aac4aac3aac2aac2aac1aac0aabfaabfaabeaabdaabdaabcaabbaaba,
  0xac32ac31ac31ac30ac2fac2eac2eac2dac2cac2bac2bac2aac29ac29ac28ac27ac26ac26ac25ac24ac23ac23ac22ac21ac20ac20ac1fac1eac1eac1dac1cac1bac1bac1aac19ac18ac18ac17ac16ac16ac15ac14ac13ac13ac12ac11ac10ac10ac0fac0eac0dac0dac0cac0bac0bac0aac09ac08ac08ac07ac06ac05ac05ac04ac03ac02ac02ac01ac00ac00abffabfeabfdabfdabfcabfbabfaabfaabf9abf8abf7abf7abf6abf5abf5abf4abf3abf2abf2abf1abf0abefabefabeeabedabecabecabebabeaabeaabe9abe8abe7abe7abe6abe5abe4abe4abe3abe2abe1abe1abe0abdfabdfabdeabddabdcabdcabdbabdaabd9abd9abd8abd7abd6abd6abd5abd4abd4abd3abd2abd1abd1abd0abcfabceabceabcdabccabcbabcbabcaabc9abc9abc8abc7abc6abc6abc5abc4abc3abc3abc2abc1abc0abc0abbfabbeabbeabbdabbcabbbabbbabbaabb9abb8abb8abb7abb6abb5abb5abb4abb3abb3abb2abb1abb0abb0abafabaeabadabadabacabababaaabaaaba9aba8aba8aba7aba6aba5aba5aba4aba3aba2aba2aba1aba0ab9fab9fab9eab9dab9dab9cab9bab9aab9aab99ab98ab97ab97ab96ab95ab94ab94ab93ab92ab91ab91ab90ab8fab8fab8eab8dab8cab8cab8bab8aab89ab89ab88ab87ab86ab86ab85ab84ab84ab83ab82ab81ab81ab80ab7fab7eab7eab7dab7cab7bab7bab7aab79ab79ab78ab77,
  0xacedacecacebacebaceaace9ace8ace8ace7ace6ace6ace5ace4ace3ace3ace2ace1ace0ace0acdfacdeacdeacddacdcacdbacdbacdaacd9acd8acd8acd7acd6acd6acd5acd4acd3acd3acd2acd1acd0acd0accfacceacceaccdacccaccbaccbaccaacc9acc8acc8acc7acc6acc6acc5acc4acc3acc3acc2acc1acc0acc0acbfacbeacbeacbdacbcacbbacbbacbaacb9acb8acb8acb7acb6acb5acb5acb4acb3acb3acb2acb1acb0acb0acafacaeacadacadacacacabacabacaaaca9aca8aca8aca7aca6aca5aca5aca4aca3aca3aca2aca1aca0aca0ac9fac9eac9dac9dac9cac9bac9bac9aac99ac98ac98ac97ac96ac95ac95ac94ac93ac92ac92ac91ac90ac90ac8fac8eac8dac8dac8cac8bac8aac8aac89ac88ac88ac87ac86ac85ac85ac84ac83ac82ac82ac81ac80ac80ac7fac7eac7dac7dac7cac7bac7aac7aac79ac78ac77ac77ac76ac75ac75ac74ac73ac72ac72ac71ac70ac6fac6fac6eac6dac6dac6cac6bac6aac6aac69ac68ac67ac67ac66ac65ac64ac64ac63ac62ac62ac61ac60ac5fac5fac5eac5dac5cac5cac5bac5aac5aac59ac58ac57ac57ac56ac55ac54ac54ac53ac52ac51ac51ac50ac4fac4fac4eac4dac4cac4cac4bac4aac49ac49ac48ac47ac47ac46ac45ac44ac44ac43ac42ac41ac41ac40ac3fac3eac3eac3dac3cac3cac3bac3aac39ac39ac38ac37ac36ac36ac35ac34ac34ac33,
  0xada7ada6ada5ada5ada4ada3ada2ada2ada1ada0ad9fad9fad9ead9dad9dad9cad9bad9aad9aad99ad98ad97ad97ad96ad95ad95ad94ad93ad92ad92ad91ad90ad90ad8fad8ead8dad8dad8cad8bad8aad8aad89ad88ad88ad87ad86ad85ad85ad84ad83ad82ad82ad81ad80ad80ad7fad7ead7dad7dad7cad7bad7bad7aad79ad78ad78ad77ad76ad75ad75ad74ad73ad73ad72ad71ad70ad70ad6fad6ead6dad6dad6cad6bad6bad6aad69ad68ad68ad67ad66ad65ad65ad64ad63ad63ad62ad61ad60ad60ad5fad5ead5dad5dad5cad5bad5bad5aad59ad58ad58ad57ad56ad56ad55ad54ad53ad53ad52ad51ad50ad50ad4fad4ead4ead4dad4cad4bad4bad4aad49ad48ad48ad47ad46ad46ad45ad44ad43ad43ad42ad41ad40ad40ad3fad3ead3ead3dad3cad3bad3bad3aad39ad38ad38ad37ad36ad36ad35ad34ad33ad33ad32ad31ad30ad30ad2fad2ead2ead2dad2cad2bad2bad2aad29ad28ad28ad27ad26ad26ad25ad24ad23ad23ad22ad21ad20ad20ad1fad1ead1ead1dad1cad1bad1bad1aad19ad18ad18ad17ad16ad16ad15ad14ad13ad13ad12ad11ad10ad10ad0fad0ead0ead0dad0cad0bad0bad0aad09ad08ad08ad07ad06ad06ad05ad04ad03ad03ad02ad01ad00ad00acffacfeacfeacfdacfcacfbacfbacfaacf9acf8acf8acf7acf6acf6acf5acf4acf3acf3acf2acf1acf0acf0acefaceeacee,
  0xae60ae5fae5eae5dae5dae5cae5bae5bae5aae59ae58ae58ae57ae56ae56ae55ae54ae53ae53ae52ae51ae50ae50ae4fae4eae4eae4dae4cae4bae4bae4aae49ae49ae48ae47ae46ae46ae45ae44ae44ae43ae42ae41ae41ae40ae3fae3eae3eae3dae3cae3cae3bae3aae39ae39ae38ae37ae37ae36ae35ae34ae34ae33ae32ae31ae31ae30ae2fae2fae2eae2dae2cae2cae2bae2aae2aae29ae28ae27ae27ae26ae25ae24ae24ae23ae22ae22ae21ae20ae1fae1fae1eae1dae1dae1cae1bae1aae1aae19ae18ae18ae17ae16ae15ae15ae14ae13ae12ae12ae11ae10ae10ae0fae0eae0dae0dae0cae0bae0bae0aae09ae08ae08ae07ae06ae05ae05ae04ae03ae03ae02ae01ae00ae00adffadfeadfeadfdadfcadfbadfbadfaadf9adf8adf8adf7adf6adf6adf5adf4adf3adf3adf2adf1adf0adf0adefadeeadeeadedadecadebadebadeaade9ade9ade8ade7ade6ade6ade5ade4ade3ade3ade2ade1ade1ade0addfaddeaddeadddaddcaddcaddbaddaadd9add9add8add7add6add6add5add4add4add3add2add1add1add0adcfadcfadceadcdadccadccadcbadcaadc9adc9adc8adc7adc7adc6adc5adc4adc4adc3adc2adc1adc1adc0adbfadbfadbeadbdadbcadbcadbbadbaadbaadb9adb8adb7adb7adb6adb5adb4adb4adb3adb2adb2adb1adb0adafadafadaeadadadacadacadabadaaadaaada9ada8ada7,
  0xaf18af17af16af15af15af14af13af13af12af11af10af10af0faf0eaf0eaf0daf0caf0baf0baf0aaf09af09af08af07af06af06af05af04af04af03af02af01af01af00aeffaeffaefeaefdaefcaefcaefbaefaaefaaef9aef8aef7aef7aef6aef5aef4aef4aef3aef2aef2aef1aef0aeefaeefaeeeaeedaeedaeecaeebaeeaaeeaaee9aee8aee8aee7aee6aee5aee5aee4aee3aee3aee2aee1aee0aee0aedfaedeaedeaeddaedcaedbaedbaedaaed9aed8aed8aed7aed6aed6aed5aed4aed3aed3aed2aed1aed1aed0aecfaeceaeceaecdaeccaeccaecbaecaaec9aec9aec8aec7aec7aec6aec5aec4aec4aec3aec2aec1aec1aec0aebfaebfaebeaebdaebcaebcaebbaebaaebaaeb9aeb8aeb7aeb7aeb6aeb5aeb5aeb4aeb3aeb2aeb2aeb1aeb0aeb0aeafaeaeaeadaeadaeacaeabaeaaaeaaaea9aea8aea8aea7aea6aea5aea5aea4aea3aea3aea2aea1aea0aea0ae9fae9eae9eae9dae9cae9bae9bae9aae99ae99ae98ae97ae96ae96ae95ae94ae93ae93ae92ae91ae91ae90ae8fae8eae8eae8dae8cae8cae8bae8aae89ae89ae88ae87ae87ae86ae85ae84ae84ae83ae82ae81ae81ae80ae7fae7fae7eae7dae7cae7cae7bae7aae7aae79ae78ae77ae77ae76ae75ae75ae74ae73ae72ae72ae71ae70ae6fae6fae6eae6dae6dae6cae6bae6aae6aae69ae68ae68ae67ae66ae65ae65ae64ae63ae63ae62ae61ae60,
  0xafcfafceafcdafcdafccafcbafcaafcaafc9afc8afc8afc7afc6afc5afc5afc4afc3afc3afc2afc1afc0afc0afbfafbeafbeafbdafbcafbbafbbafbaafb9afb9afb8afb7afb6afb6afb5afb4afb4afb3afb2afb1afb1afb0afafafafafaeafadafacafacafabafaaafaaafa9afa8afa7afa7afa6afa5afa5afa4afa3afa2afa2afa1afa0afa0af9faf9eaf9daf9daf9caf9baf9baf9aaf99af98af98af97af96af96af95af94af93af93af92af91af91af90af8faf8eaf8eaf8daf8caf8caf8baf8aaf89af89af88af87af87af86af85af84af84af83af82af82af81af80af7faf7faf7eaf7daf7daf7caf7baf7aaf7aaf79af78af78af77af76af75af75af74af73af73af72af71af70af70af6faf6eaf6eaf6daf6caf6baf6baf6aaf69af69af68af67af66af66af65af64af64af63af62af61af61af60af5faf5faf5eaf5daf5caf5caf5baf5aaf5aaf59af58af57af57af56af55af55af54af53af52af52af51af50af50af4faf4eaf4daf4daf4caf4baf4baf4aaf49af48af48af47af46af46af45af44af43af43af42af41af40af40af3faf3eaf3eaf3daf3caf3baf3baf3aaf39af39af38af37af36af36af35af34af34af33af32af31af31af30af2faf2faf2eaf2daf2caf2caf2baf2aaf2aaf29af28af27af27af26af25af25af24af23af22af22af21af20af20af1faf1eaf1daf1daf1caf1baf1baf1aaf19af18,
  0xb085b084b084b083b082b081b081b080b07fb07fb07eb07db07cb07cb07bb07ab07ab079b078b077b077b076b075b075b074b073b073b072b071b070b070b06fb06eb06eb06db06cb06bb06bb06ab069b069b068b067b066b066b065b064b064b063b062b061b061b060b05fb05fb05eb05db05cb05cb05bb05ab05ab059b058b058b057b056b055b055b054b053b053b052b051b050b050b04fb04eb04eb04db04cb04bb04bb04ab049b049b048b047b046b046b045b044b044b043b042b041b041b040b03fb03fb03eb03db03cb03cb03bb03ab03ab039b038b037b037b036b035b035b034b033b033b032b031b030b030b02fb02eb02eb02db02cb02bb02bb02ab029b029b028b027b026b026b025b024b024b023b022b021b021b020b01fb01fb01eb01db01cb01cb01bb01ab01ab019b018b017b017b016b015b015b014b013b012b012b011b010b010b00fb00eb00db00db00cb00bb00bb00ab009b009b008b007b006b006b005b004b004b003b002b001b001b000afffafffaffeaffdaffcaffcaffbaffaaffaaff9aff8aff7aff7aff6aff5aff5aff4aff3aff2aff2aff1aff0aff0afefafeeafedafedafecafebafebafeaafe9afe8afe8afe7afe6afe6afe5afe4afe3afe3afe2afe1afe1afe0afdfafdeafdeafddafdcafdcafdbafdaafd9afd9afd8afd7afd7afd6afd5afd4afd4afd3afd2afd2afd1afd0afcf,
  0xb13ab13ab139b138b137b137b136b135b135b134b133b133b132b131b130b130b12fb12eb12eb12db12cb12bb12bb12ab129b129b128b127b127b126b125b124b124b123b122b122b121b120b11fb11fb11eb11db11db11cb11bb11bb11ab119b118b118b117b116b116b115b114b113b113b112b111b111b110b10fb10eb10eb10db10cb10cb10bb10ab10ab109b108b107b107b106b105b105b104b103b102b102b101b100b100b0ffb0feb0fdb0fdb0fcb0fbb0fbb0fab0f9b0f9b0f8b0f7b0f6b0f6b0f5b0f4b0f4b0f3b0f2b0f1b0f1b0f0b0efb0efb0eeb0edb0edb0ecb0ebb0eab0eab0e9b0e8b0e8b0e7b0e6b0e5b0e5b0e4b0e3b0e3b0e2b0e1b0e0b0e0b0dfb0deb0deb0ddb0dcb0dcb0dbb0dab0d9b0d9b0d8b0d7b0d7b0d6b0d5b0d4b0d4b0d3b0d2b0d2b0d1b0d0b0cfb0cfb0ceb0cdb0cdb0ccb0cbb0cab0cab0c9b0c8b0c8b0c7b0c6b0c6b0c5b0c4b0c3b0c3b0c2b0c1b0c1b0c0b0bfb0beb0beb0bdb0bcb0bcb0bbb0bab0b9b0b9b0b8b0b7b0b7b0b6b0b5b0b5b0b4b0b3b0b2b0b2b0b1b0b0b0b0b0afb0aeb0adb0adb0acb0abb0abb0aab0a9b0a8b0a8b0a7b0a6b0a6b0a5b0a4b0a3b0a3b0a2b0a1b0a1b0a0b09fb09fb09eb09db09cb09cb09bb09ab09ab099b098b097b097b096b095b095b094b093b092b092b091b090b090b08fb08eb08db08db08cb08bb08bb08ab089b089b088b087b086b086,
  0xb1efb1eeb1edb1edb1ecb1ebb1ebb1eab1e9b1e8b1e8b1e7b1e6b1e6b1e5b1e4b1e4b1e3b1e2b1e1b1e1b1e0b1dfb1dfb1deb1ddb1ddb1dcb1dbb1dab1dab1d9b1d8b1d8b1d7b1d6b1d5b1d5b1d4b1d3b1d3b1d2b1d1b1d1b1d0b1cfb1ceb1ceb1cdb1ccb1ccb1cbb1cab1c9b1c9b1c8b1c7b1c7b1c6b1c5b1c5b1c4b1c3b1c2b1c2b1c1b1c0b1c0b1bfb1beb1beb1bdb1bcb1bbb1bbb1bab1b9b1b9b1b8b1b7b1b6b1b6b1b5b1b4b1b4b1b3b1b2b1b2b1b1b1b0b1afb1afb1aeb1adb1adb1acb1abb1abb1aab1a9b1a8b1a8b1a7b1a6b1a6b1a5b1a4b1a3b1a3b1a2b1a1b1a1b1a0b19fb19fb19eb19db19cb19cb19bb19ab19ab199b198b197b197b196b195b195b194b193b193b192b191b190b190b18fb18eb18eb18db18cb18bb18bb18ab189b189b188b187b187b186b185b184b184b183b182b182b181b180b180b17fb17eb17db17db17cb17bb17bb17ab179b178b178b177b176b176b175b174b174b173b172b171b171b170b16fb16fb16eb16db16cb16cb16bb16ab16ab169b168b168b167b166b165b165b164b163b163b162b161b160b160b15fb15eb15eb15db15cb15cb15bb15ab159b159b158b157b157b156b155b154b154b153b152b152b151b150b150b14fb14eb14db14db14cb14bb14bb14ab149b148b148b147b146b146b145b144b144b143b142b141b141b140b13fb13fb13eb13db13cb13cb13b,
  0xb2a2b2a2b2a1b2a0b2a0b29fb29eb29eb29db29cb29bb29bb29ab299b299b298b297b297b296b295b294b294b293b292b292b291b290b290b28fb28eb28db28db28cb28bb28bb28ab289b289b288b287b286b286b285b284b284b283b282b282b281b280b27fb27fb27eb27db27db27cb27bb27ab27ab279b278b278b277b276b276b275b274b273b273b272b271b271b270b26fb26fb26eb26db26cb26cb26bb26ab26ab269b268b268b267b266b265b265b264b263b263b262b261b261b260b25fb25eb25eb25db25cb25cb25bb25ab25ab259b258b257b257b256b255b255b254b253b253b252b251b250b250b24fb24eb24eb24db24cb24cb24bb24ab249b249b248b247b247b246b245b245b244b243b242b242b241b240b240b23fb23eb23db23db23cb23bb23bb23ab239b239b238b237b236b236b235b234b234b233b232b232b231b230b22fb22fb22eb22db22db22cb22bb22bb22ab229b228b228b227b226b226b225b224b224b223b222b221b221b220b21fb21fb21eb21db21cb21cb21bb21ab21ab219b218b218b217b216b215b215b214b213b213b212b211b211b210b20fb20eb20eb20db20cb20cb20bb20ab20ab209b208b207b207b206b205b205b204b203b202b202b201b200b200b1ffb1feb1feb1fdb1fcb1fbb1fbb1fab1f9b1f9b1f8b1f7b1f7b1f6b1f5b1f4b1f4b1f3b1f2b1f2b1f1b1f0b1ef,
  0xb355b355b354b353b352b352b351b350b350b34fb34eb34eb34db34cb34bb34bb34ab349b349b348b347b347b346b345b344b344b343b342b342b341b340b340b33fb33eb33eb33db33cb33bb33bb33ab339b339b338b337b337b336b335b334b334b333b332b332b331b330b330b32fb32eb32db32db32cb32bb32bb32ab329b329b328b327b326b326b325b324b324b323b322b322b321b320b320b31fb31eb31db31db31cb31bb31bb31ab319b319b318b317b316b316b315b314b314b313b312b312b311b310b30fb30fb30eb30db30db30cb30bb30bb30ab309b308b308b307b306b306b305b304b304b303b302b301b301b300b2ffb2ffb2feb2fdb2fdb2fcb2fbb2fbb2fab2f9b2f8b2f8b2f7b2f6b2f6b2f5b2f4b2f4b2f3b2f2b2f1b2f1b2f0b2efb2efb2eeb2edb2edb2ecb2ebb2eab2eab2e9b2e8b2e8b2e7b2e6b2e6b2e5b2e4b2e3b2e3b2e2b2e1b2e1b2e0b2dfb2dfb2deb2ddb2dcb2dcb2dbb2dab2dab2d9b2d8b2d8b2d7b2d6b2d5b2d5b2d4b2d3b2d3b2d2b2d1b2d1b2d0b2cfb2ceb2ceb2cdb2ccb2ccb2cbb2cab2cab2c9b2c8b2c7b2c7b2c6b2c5b2c5b2c4b2c3b2c3b2c2b2c1b2c1b2c0b2bfb2beb2beb2bdb2bcb2bcb2bbb2bab2bab2b9b2b8b2b7b2b7b2b6b2b5b2b5b2b4b2b3b2b3b2b2b2b1b2b0b2b0b2afb2aeb2aeb2adb2acb2acb2abb2aab2a9b2a9b2a8b2a7b2a7b2a6b2a5b2a5b2a4b2a3,
  0xb407b406b406b405b404b404b403b402b402b401b400b400b3ffb3feb3fdb3fdb3fcb3fbb3fbb3fab3f9b3f9b3f8b3f7b3f6b3f6b3f5b3f4b3f4b3f3b3f2b3f2b3f1b3f0b3f0b3efb3eeb3edb3edb3ecb3ebb3ebb3eab3e9b3e9b3e8b3e7b3e7b3e6b3e5b3e4b3e4b3e3b3e2b3e2b3e1b3e0b3e0b3dfb3deb3deb3ddb3dcb3dbb3dbb3dab3d9b3d9b3d8b3d7b3d7b3d6b3d5b3d4b3d4b3d3b3d2b3d2b3d1b3d0b3d0b3cfb3ceb3ceb3cdb3ccb3cbb3cbb3cab3c9b3c9b3c8b3c7b3c7b3c6b3c5b3c5b3c4b3c3b3c2b3c2b3c1b3c0b3c0b3bfb3beb3beb3bdb3bcb3bbb3bbb3bab3b9b3b9b3b8b3b7b3b7b3b6b3b5b3b5b3b4b3b3b3b2b3b2b3b1b3b0b3b0b3afb3aeb3aeb3adb3acb3abb3abb3aab3a9b3a9b3a8b3a7b3a7b3a6b3a5b3a5b3a4b3a3b3a2b3a2b3a1b3a0b3a0b39fb39eb39eb39db39cb39cb39bb39ab399b399b398b397b397b396b395b395b394b393b392b392b391b390b390b38fb38eb38eb38db38cb38cb38bb38ab389b389b388b387b387b386b385b385b384b383b382b382b381b380b380b37fb37eb37eb37db37cb37bb37bb37ab379b379b378b377b377b376b375b375b374b373b372b372b371b370b370b36fb36eb36eb36db36cb36bb36bb36ab369b369b368b367b367b366b365b365b364b363b362b362b361b360b360b35fb35eb35eb35db35cb35bb35bb35ab359b359b358b357b357b356,
  0xb4b8b4b8b4b7b4b6b4b6b4b5b4b4b4b3b4b3b4b2b4b1b4b1b4b0b4afb4afb4aeb4adb4adb4acb4abb4aab4aab4a9b4a8b4a8b4a7b4a6b4a6b4a5b4a4b4a4b4a3b4a2b4a1b4a1b4a0b49fb49fb49eb49db49db49cb49bb49bb49ab499b499b498b497b496b496b495b494b494b493b492b492b491b490b490b48fb48eb48db48db48cb48bb48bb48ab489b489b488b487b487b486b485b484b484b483b482b482b481b480b480b47fb47eb47eb47db47cb47bb47bb47ab479b479b478b477b477b476b475b475b474b473b472b472b471b470b470b46fb46eb46eb46db46cb46cb46bb46ab46ab469b468b467b467b466b465b465b464b463b463b462b461b461b460b45fb45eb45eb45db45cb45cb45bb45ab45ab459b458b458b457b456b455b455b454b453b453b452b451b451b450b44fb44fb44eb44db44cb44cb44bb44ab44ab449b448b448b447b446b446b445b444b443b443b442b441b441b440b43fb43fb43eb43db43db43cb43bb43ab43ab439b438b438b437b436b436b435b434b434b433b432b431b431b430b42fb42fb42eb42db42db42cb42bb42ab42ab429b428b428b427b426b426b425b424b424b423b422b421b421b420b41fb41fb41eb41db41db41cb41bb41bb41ab419b418b418b417b416b416b415b414b414b413b412b412b411b410b40fb40fb40eb40db40db40cb40bb40bb40ab409b409b408,
  0xb569b568b567b567b566b565b564b564b563b562b562b561b560b560b55fb55eb55eb55db55cb55cb55bb55ab559b559b558b557b557b556b555b555b554b553b553b552b551b551b550b54fb54eb54eb54db54cb54cb54bb54ab54ab549b548b548b547b546b546b545b544b543b543b542b541b541b540b53fb53fb53eb53db53db53cb53bb53bb53ab539b538b538b537b536b536b535b534b534b533b532b532b531b530b530b52fb52eb52db52db52cb52bb52bb52ab529b529b528b527b527b526b525b525b524b523b522b522b521b520b520b51fb51eb51eb51db51cb51cb51bb51ab519b519b518b517b517b516b515b515b514b513b513b512b511b511b510b50fb50eb50eb50db50cb50cb50bb50ab50ab509b508b508b507b506b506b505b504b503b503b502b501b501b500b4ffb4ffb4feb4fdb4fdb4fcb4fbb4fab4fab4f9b4f8b4f8b4f7b4f6b4f6b4f5b4f4b4f4b4f3b4f2b4f2b4f1b4f0b4efb4efb4eeb4edb4edb4ecb4ebb4ebb4eab4e9b4e9b4e8b4e7b4e6b4e6b4e5b4e4b4e4b4e3b4e2b4e2b4e1b4e0b4e0b4dfb4deb4deb4ddb4dcb4dbb4dbb4dab4d9b4d9b4d8b4d7b4d7b4d6b4d5b4d5b4d4b4d3b4d2b4d2b4d1b4d0b4d0b4cfb4ceb4ceb4cdb4ccb4ccb4cbb4cab4cab4c9b4c8b4c7b4c7b4c6b4c5b4c5b4c4b4c3b4c3b4c2b4c1b4c1b4c0b4bfb4beb4beb4bdb4bcb4bcb4bbb4bab4bab4b9,
  0xb618b617b617b616b615b615b614b613b613b612b611b611b610b60fb60fb60eb60db60cb60cb60bb60ab60ab609b608b608b607b606b606b605b604b604b603b602b602b601b600b5ffb5ffb5feb5fdb5fdb5fcb5fbb5fbb5fab5f9b5f9b5f8b5f7b5f7b5f6b5f5b5f5b5f4b5f3b5f2b5f2b5f1b5f0b5f0b5efb5eeb5eeb5edb5ecb5ecb5ebb5eab5eab5e9b5e8b5e8b5e7b5e6b5e5b5e5b5e4b5e3b5e3b5e2b5e1b5e1b5e0b5dfb5dfb5deb5ddb5ddb5dcb5dbb5dab5dab5d9b5d8b5d8b5d7b5d6b5d6b5d5b5d4b5d4b5d3b5d2b5d2b5d1b5d0b5d0b5cfb5ceb5cdb5cdb5ccb5cbb5cbb5cab5c9b5c9b5c8b5c7b5c7b5c6b5c5b5c5b5c4b5c3b5c3b5c2b5c1b5c0b5c0b5bfb5beb5beb5bdb5bcb5bcb5bbb5bab5bab5b9b5b8b5b8b5b7b5b6b5b5b5b5b5b4b5b3b5b3b5b2b5b1b5b1b5b0b5afb5afb5aeb5adb5adb5acb5abb5abb5aab5a9b5a8b5a8b5a7b5a6b5a6b5a5b5a4b5a4b5a3b5a2b5a2b5a1b5a0b5a0b59fb59eb59db59db59cb59bb59bb59ab599b599b598b597b597b596b595b595b594b593b592b592b591b590b590b58fb58eb58eb58db58cb58cb58bb58ab58ab589b588b588b587b586b585b585b584b583b583b582b581b581b580b57fb57fb57eb57db57db57cb57bb57ab57ab579b578b578b577b576b576b575b574b574b573b572b572b571b570b56fb56fb56eb56db56db56cb56bb56bb56ab569,
  0xb6c7b6c6b6c5b6c5b6c4b6c3b6c3b6c2b6c1b6c1b6c0b6bfb6bfb6beb6bdb6bdb6bcb6bbb6bbb6bab6b9b6b9b6b8b6b7b6b6b6b6b6b5b6b4b6b4b6b3b6b2b6b2b6b1b6b0b6b0b6afb6aeb6aeb6adb6acb6acb6abb6aab6aab6a9b6a8b6a8b6a7b6a6b6a5b6a5b6a4b6a3b6a3b6a2b6a1b6a1b6a0b69fb69fb69eb69db69db69cb69bb69bb69ab699b699b698b697b696b696b695b694b694b693b692b692b691b690b690b68fb68eb68eb68db68cb68cb68bb68ab68ab689b688b687b687b686b685b685b684b683b683b682b681b681b680b67fb67fb67eb67db67db67cb67bb67ab67ab679b678b678b677b676b676b675b674b674b673b672b672b671b670b670b66fb66eb66eb66db66cb66bb66bb66ab669b669b668b667b667b666b665b665b664b663b663b662b661b661b660b65fb65fb65eb65db65cb65cb65bb65ab65ab659b658b658b657b656b656b655b654b654b653b652b652b651b650b64fb64fb64eb64db64db64cb64bb64bb64ab649b649b648b647b647b646b645b645b644b643b643b642b641b640b640b63fb63eb63eb63db63cb63cb63bb63ab63ab639b638b638b637b636b636b635b634b633b633b632b631b631b630b62fb62fb62eb62db62db62cb62bb62bb62ab629b629b628b627b626b626b625b624b624b623b622b622b621b620b620b61fb61eb61eb61db61cb61cb61bb61ab619b619,
  0xb775b774b773b773b772b771b771b770b76fb76fb76eb76db76db76cb76bb76bb76ab769b769b768b767b767b766b765b765b764b763b762b762b761b760b760b75fb75eb75eb75db75cb75cb75bb75ab75ab759b758b758b757b756b756b755b754b754b753b752b752b751b750b74fb74fb74eb74db74db74cb74bb74bb74ab749b749b748b747b747b746b745b745b744b743b743b742b741b741b740b73fb73fb73eb73db73cb73cb73bb73ab73ab739b738b738b737b736b736b735b734b734b733b732b732b731b730b730b72fb72eb72eb72db72cb72cb72bb72ab729b729b728b727b727b726b725b725b724b723b723b722b721b721b720b71fb71fb71eb71db71db71cb71bb71bb71ab719b718b718b717b716b716b715b714b714b713b712b712b711b710b710b70fb70eb70eb70db70cb70cb70bb70ab70ab709b708b707b707b706b705b705b704b703b703b702b701b701b700b6ffb6ffb6feb6fdb6fdb6fcb6fbb6fbb6fab6f9b6f9b6f8b6f7b6f6b6f6b6f5b6f4b6f4b6f3b6f2b6f2b6f1b6f0b6f0b6efb6eeb6eeb6edb6ecb6ecb6ebb6eab6eab6e9b6e8b6e8b6e7b6e6b6e5b6e5b6e4b6e3b6e3b6e2b6e1b6e1b6e0b6dfb6dfb6deb6ddb6ddb6dcb6dbb6dbb6dab6d9b6d9b6d8b6d7b6d7b6d6b6d5b6d4b6d4b6d3b6d2b6d2b6d1b6d0b6d0b6cfb6ceb6ceb6cdb6ccb6ccb6cbb6cab6cab6c9b6c8b6c8,
  0xb822b821b821b820b81fb81fb81eb81db81db81cb81bb81bb81ab819b819b818b817b816b816b815b814b814b813b812b812b811b810b810b80fb80eb80eb80db80cb80cb80bb80ab80ab809b808b808b807b806b806b805b804b804b803b802b802b801b800b800b7ffb7feb7feb7fdb7fcb7fbb7fbb7fab7f9b7f9b7f8b7f7b7f7b7f6b7f5b7f5b7f4b7f3b7f3b7f2b7f1b7f1b7f0b7efb7efb7eeb7edb7edb7ecb7ebb7ebb7eab7e9b7e9b7e8b7e7b7e7b7e6b7e5b7e4b7e4b7e3b7e2b7e2b7e1b7e0b7e0b7dfb7deb7deb7ddb7dcb7dcb7dbb7dab7dab7d9b7d8b7d8b7d7b7d6b7d6b7d5b7d4b7d4b7d3b7d2b7d2b7d1b7d0b7d0b7cfb7ceb7ceb7cdb7ccb7cbb7cbb7cab7c9b7c9b7c8b7c7b7c7b7c6b7c5b7c5b7c4b7c3b7c3b7c2b7c1b7c1b7c0b7bfb7bfb7beb7bdb7bdb7bcb7bbb7bbb7bab7b9b7b9b7b8b7b7b7b7b7b6b7b5b7b4b7b4b7b3b7b2b7b2b7b1b7b0b7b0b7afb7aeb7aeb7adb7acb7acb7abb7aab7aab7a9b7a8b7a8b7a7b7a6b7a6b7a5b7a4b7a4b7a3b7a2b7a2b7a1b7a0b79fb79fb79eb79db79db79cb79bb79bb79ab799b799b798b797b797b796b795b795b794b793b793b792b791b791b790b78fb78fb78eb78db78db78cb78bb78ab78ab789b788b788b787b786b786b785b784b784b783b782b782b781b780b780b77fb77eb77eb77db77cb77cb77bb77ab77ab779b778b778b777b776b775,
  0xb8ceb8ceb8cdb8ccb8ccb8cbb8cab8cab8c9b8c8b8c8b8c7b8c6b8c6b8c5b8c4b8c4b8c3b8c2b8c2b8c1b8c0b8c0b8bfb8beb8beb8bdb8bcb8bcb8bbb8bab8bab8b9b8b8b8b8b8b7b8b6b8b6b8b5b8b4b8b4b8b3b8b2b8b1b8b1b8b0b8afb8afb8aeb8adb8adb8acb8abb8abb8aab8a9b8a9b8a8b8a7b8a7b8a6b8a5b8a5b8a4b8a3b8a3b8a2b8a1b8a1b8a0b89fb89fb89eb89db89db89cb89bb89bb89ab899b899b898b897b897b896b895b895b894b893b893b892b891b891b890b88fb88eb88eb88db88cb88cb88bb88ab88ab889b888b888b887b886b886b885b884b884b883b882b882b881b880b880b87fb87eb87eb87db87cb87cb87bb87ab87ab879b878b878b877b876b876b875b874b874b873b872b872b871b870b870b86fb86eb86eb86db86cb86bb86bb86ab869b869b868b867b867b866b865b865b864b863b863b862b861b861b860b85fb85fb85eb85db85db85cb85bb85bb85ab859b859b858b857b857b856b855b855b854b853b853b852b851b851b850b84fb84eb84eb84db84cb84cb84bb84ab84ab849b848b848b847b846b846b845b844b844b843b842b842b841b840b840b83fb83eb83eb83db83cb83cb83bb83ab83ab839b838b838b837b836b836b835b834b834b833b832b831b831b830b82fb82fb82eb82db82db82cb82bb82bb82ab829b829b828b827b827b826b825b825b824b823b823,
  0xb97ab979b979b978b977b977b976b975b975b974b973b973b972b971b971b970b96fb96fb96eb96db96db96cb96bb96bb96ab969b969b968b967b967b966b965b965b964b963b963b962b961b961b960b95fb95fb95eb95db95db95cb95bb95bb95ab959b959b958b957b957b956b955b955b954b953b953b952b951b951b950b94fb94fb94eb94db94db94cb94bb94bb94ab949b949b948b947b947b946b945b944b944b943b942b942b941b940b940b93fb93eb93eb93db93cb93cb93bb93ab93ab939b938b938b937b936b936b935b934b934b933b932b932b931b930b930b92fb92eb92eb92db92cb92cb92bb92ab92ab929b928b928b927b926b926b925b924b924b923b922b922b921b920b920b91fb91eb91eb91db91cb91cb91bb91ab91ab919b918b918b917b916b916b915b914b914b913b912b912b911b910b910b90fb90eb90eb90db90cb90cb90bb90ab909b909b908b907b907b906b905b905b904b903b903b902b901b901b900b8ffb8ffb8feb8fdb8fdb8fcb8fbb8fbb8fab8f9b8f9b8f8b8f7b8f7b8f6b8f5b8f5b8f4b8f3b8f3b8f2b8f1b8f1b8f0b8efb8efb8eeb8edb8edb8ecb8ebb8ebb8eab8e9b8e9b8e8b8e7b8e7b8e6b8e5b8e5b8e4b8e3b8e3b8e2b8e1b8e1b8e0b8dfb8dfb8deb8ddb8ddb8dcb8dbb8dab8dab8d9b8d8b8d8b8d7b8d6b8d6b8d5b8d4b8d4b8d3b8d2b8d2b8d1b8d0b8d0b8cf,
  0xba25ba24ba24ba23ba22ba22ba21ba20ba20ba1fba1eba1eba1dba1cba1cba1bba1aba1aba19ba18ba18ba17ba16ba16ba15ba14ba14ba13ba12ba12ba11ba10ba10ba0fba0eba0eba0dba0cba0cba0bba0aba0aba09ba08ba08ba07ba06ba06ba05ba04ba04ba03ba02ba02ba01ba00ba00b9ffb9feb9feb9fdb9fcb9fcb9fbb9fab9fab9f9b9f8b9f8b9f7b9f6b9f6b9f5b9f4b9f4b9f3b9f2b9f2b9f1b9f0b9f0b9efb9eeb9eeb9edb9ecb9ecb9ebb9eab9eab9e9b9e8b9e8b9e7b9e6b9e6b9e5b9e4b9e4b9e3b9e2b9e2b9e1b9e0b9e0b9dfb9deb9deb9ddb9dcb9dcb9dbb9dab9dab9d9b9d8b9d8b9d7b9d6b9d6b9d5b9d4b9d4b9d3b9d2b9d2b9d1b9d0b9d0b9cfb9ceb9ceb9cdb9ccb9ccb9cbb9cab9cab9c9b9c8b9c8b9c7b9c6b9c6b9c5b9c4b9c4b9c3b9c2b9c2b9c1b9c0b9c0b9bfb9beb9beb9bdb9bcb9bcb9bbb9bab9bab9b9b9b8b9b8b9b7b9b6b9b6b9b5b9b4b9b4b9b3b9b2b9b2b9b1b9b0b9b0b9afb9aeb9aeb9adb9acb9acb9abb9aab9aab9a9b9a8b9a8b9a7b9a6b9a6b9a5b9a4b9a4b9a3b9a2b9a2b9a1b9a0b9a0b99fb99eb99eb99db99cb99cb99bb99ab999b999b998b997b997b996b995b995b994b993b993b992b991b991b990b98fb98fb98eb98db98db98cb98bb98bb98ab989b989b988b987b987b986b985b985b984b983b983b982b981b981b980b97fb97fb97eb97db97db97cb97bb97b,
  0xbacfbacfbacebacdbacdbaccbacbbacbbacabac9bac9bac8bac7bac7bac6bac5bac5bac4bac3bac3bac2bac1bac1bac0babfbabfbabebabdbabdbabcbabbbabbbababab9bab9bab8bab7bab7bab6bab5bab5bab4bab3bab3bab2bab1bab1bab0baafbaafbaaebaadbaadbaacbaabbaabbaaabaa9baa9baa8baa7baa7baa6baa5baa5baa4baa3baa3baa2baa1baa1baa0ba9fba9fba9eba9dba9dba9cba9bba9bba9aba99ba99ba98ba97ba97ba96ba95ba95ba94ba93ba93ba92ba91ba91ba90ba8fba8fba8eba8dba8dba8cba8bba8bba8aba89ba89ba88ba87ba87ba86ba85ba85ba84ba83ba83ba82ba81ba81ba80ba7fba7fba7eba7eba7dba7cba7cba7bba7aba7aba79ba78ba78ba77ba76ba76ba75ba74ba74ba73ba72ba72ba71ba70ba70ba6fba6eba6eba6dba6cba6cba6bba6aba6aba69ba68ba68ba67ba66ba66ba65ba64ba64ba63ba62ba62ba61ba60ba60ba5fba5eba5eba5dba5cba5cba5bba5aba5aba59ba58ba58ba57ba56ba56ba55ba54ba54ba53ba52ba52ba51ba50ba50ba4fba4eba4eba4dba4cba4cba4bba4aba4aba49ba48ba48ba47ba46ba46ba45ba44ba44ba43ba42ba42ba41ba40ba40ba3fba3eba3eba3dba3cba3cba3bba3aba3aba39ba38ba38ba37ba36ba36ba35ba34ba34ba33ba32ba32ba31ba30ba30ba2fba2eba2eba2dba2cba2cba2bba2aba2aba29ba28ba28ba27ba26ba26,
  0xbb79bb78bb77bb77bb76bb75bb75bb74bb73bb73bb72bb71bb71bb70bb6fbb6fbb6ebb6dbb6dbb6cbb6bbb6bbb6abb69bb69bb68bb67bb67bb66bb65bb65bb64bb64bb63bb62bb62bb61bb60bb60bb5fbb5ebb5ebb5dbb5cbb5cbb5bbb5abb5abb59bb58bb58bb57bb56bb56bb55bb54bb54bb53bb52bb52bb51bb50bb50bb4fbb4ebb4ebb4dbb4cbb4cbb4bbb4abb4abb49bb48bb48bb47bb46bb46bb45bb44bb44bb43bb42bb42bb41bb40bb40bb3fbb3ebb3ebb3dbb3cbb3cbb3bbb3bbb3abb39bb39bb38bb37bb37bb36bb35bb35bb34bb33bb33bb32bb31bb31bb30bb2fbb2fbb2ebb2dbb2dbb2cbb2bbb2bbb2abb29bb29bb28bb27bb27bb26bb25bb25bb24bb23bb23bb22bb21bb21bb20bb1fbb1fbb1ebb1dbb1dbb1cbb1bbb1bbb1abb19bb19bb18bb17bb17bb16bb15bb15bb14bb13bb13bb12bb11bb11bb10bb0fbb0fbb0ebb0dbb0dbb0cbb0cbb0bbb0abb0abb09bb08bb08bb07bb06bb06bb05bb04bb04bb03bb02bb02bb01bb00bb00baffbafebafebafdbafcbafcbafbbafabafabaf9baf8baf8baf7baf6baf6baf5baf4baf4baf3baf2baf2baf1baf0baf0baefbaeebaeebaedbaecbaecbaebbaeabaeabae9bae8bae8bae7bae6bae6bae5bae4bae4bae3bae2bae2bae1bae0bae0badfbadebadebaddbadcbadcbadbbadabadabad9bad8bad8bad7bad6bad6bad5bad4bad4bad3bad3bad2bad1bad1bad0,
  0xbc21bc21bc20bc1fbc1fbc1ebc1dbc1dbc1cbc1bbc1bbc1abc1abc19bc18bc18bc17bc16bc16bc15bc14bc14bc13bc12bc12bc11bc10bc10bc0fbc0ebc0ebc0dbc0cbc0cbc0bbc0abc0abc09bc08bc08bc07bc06bc06bc05bc04bc04bc03bc02bc02bc01bc01bc00bbffbbffbbfebbfdbbfdbbfcbbfbbbfbbbfabbf9bbf9bbf8bbf7bbf7bbf6bbf5bbf5bbf4bbf3bbf3bbf2bbf1bbf1bbf0bbefbbefbbeebbedbbedbbecbbebbbebbbeabbe9bbe9bbe8bbe7bbe7bbe6bbe6bbe5bbe4bbe4bbe3bbe2bbe2bbe1bbe0bbe0bbdfbbdebbdebbddbbdcbbdcbbdbbbdabbdabbd9bbd8bbd8bbd7bbd6bbd6bbd5bbd4bbd4bbd3bbd2bbd2bbd1bbd0bbd0bbcfbbcebbcebbcdbbccbbccbbcbbbcabbcabbc9bbc9bbc8bbc7bbc7bbc6bbc5bbc5bbc4bbc3bbc3bbc2bbc1bbc1bbc0bbbfbbbfbbbebbbdbbbdbbbcbbbbbbbbbbbabbb9bbb9bbb8bbb7bbb7bbb6bbb5bbb5bbb4bbb3bbb3bbb2bbb1bbb1bbb0bbafbbafbbaebbadbbadbbacbbabbbabbbaabbaabba9bba8bba8bba7bba6bba6bba5bba4bba4bba3bba2bba2bba1bba0bba0bb9fbb9ebb9ebb9dbb9cbb9cbb9bbb9abb9abb99bb98bb98bb97bb96bb96bb95bb94bb94bb93bb92bb92bb91bb90bb90bb8fbb8ebb8ebb8dbb8cbb8cbb8bbb8abb8abb89bb89bb88bb87bb87bb86bb85bb85bb84bb83bb83bb82bb81bb81bb80bb7fbb7fbb7ebb7dbb7dbb7cbb7bbb7bbb7abb79,
  0xbcc9bcc9bcc8bcc7bcc7bcc6bcc6bcc5bcc4bcc4bcc3bcc2bcc2bcc1bcc0bcc0bcbfbcbebcbebcbdbcbcbcbcbcbbbcbabcbabcb9bcb8bcb8bcb7bcb6bcb6bcb5bcb4bcb4bcb3bcb3bcb2bcb1bcb1bcb0bcafbcafbcaebcadbcadbcacbcabbcabbcaabca9bca9bca8bca7bca7bca6bca5bca5bca4bca3bca3bca2bca1bca1bca0bca0bc9fbc9ebc9ebc9dbc9cbc9cbc9bbc9abc9abc99bc98bc98bc97bc96bc96bc95bc94bc94bc93bc92bc92bc91bc90bc90bc8fbc8ebc8ebc8dbc8cbc8cbc8bbc8bbc8abc89bc89bc88bc87bc87bc86bc85bc85bc84bc83bc83bc82bc81bc81bc80bc7fbc7fbc7ebc7dbc7dbc7cbc7bbc7bbc7abc79bc79bc78bc77bc77bc76bc76bc75bc74bc74bc73bc72bc72bc71bc70bc70bc6fbc6ebc6ebc6dbc6cbc6cbc6bbc6abc6abc69bc68bc68bc67bc66bc66bc65bc64bc64bc63bc62bc62bc61bc61bc60bc5fbc5fbc5ebc5dbc5dbc5cbc5bbc5bbc5abc59bc59bc58bc57bc57bc56bc55bc55bc54bc53bc53bc52bc51bc51bc50bc4fbc4fbc4ebc4dbc4dbc4cbc4bbc4bbc4abc4abc49bc48bc48bc47bc46bc46bc45bc44bc44bc43bc42bc42bc41bc40bc40bc3fbc3ebc3ebc3dbc3cbc3cbc3bbc3abc3abc39bc38bc38bc37bc36bc36bc35bc34bc34bc33bc33bc32bc31bc31bc30bc2fbc2fbc2ebc2dbc2dbc2cbc2bbc2bbc2abc29bc29bc28bc27bc27bc26bc25bc25bc24bc23bc23bc22,
  0xbd71bd70bd70bd6fbd6ebd6ebd6dbd6cbd6cbd6bbd6abd6abd69bd68bd68bd67bd66bd66bd65bd64bd64bd63bd62bd62bd61bd61bd60bd5fbd5fbd5ebd5dbd5dbd5cbd5bbd5bbd5abd59bd59bd58bd57bd57bd56bd55bd55bd54bd53bd53bd52bd51bd51bd50bd50bd4fbd4ebd4ebd4dbd4cbd4cbd4bbd4abd4abd49bd48bd48bd47bd46bd46bd45bd44bd44bd43bd42bd42bd41bd41bd40bd3fbd3fbd3ebd3dbd3dbd3cbd3bbd3bbd3abd39bd39bd38bd37bd37bd36bd35bd35bd34bd33bd33bd32bd31bd31bd30bd30bd2fbd2ebd2ebd2dbd2cbd2cbd2bbd2abd2abd29bd28bd28bd27bd26bd26bd25bd24bd24bd23bd22bd22bd21bd20bd20bd1fbd1fbd1ebd1dbd1dbd1cbd1bbd1bbd1abd19bd19bd18bd17bd17bd16bd15bd15bd14bd13bd13bd12bd11bd11bd10bd0fbd0fbd0ebd0ebd0dbd0cbd0cbd0bbd0abd0abd09bd08bd08bd07bd06bd06bd05bd04bd04bd03bd02bd02bd01bd00bd00bcffbcfebcfebcfdbcfdbcfcbcfbbcfbbcfabcf9bcf9bcf8bcf7bcf7bcf6bcf5bcf5bcf4bcf3bcf3bcf2bcf1bcf1bcf0bcefbcefbceebcedbcedbcecbcecbcebbceabceabce9bce8bce8bce7bce6bce6bce5bce4bce4bce3bce2bce2bce1bce0bce0bcdfbcdebcdebcddbcdcbcdcbcdbbcdabcdabcd9bcd9bcd8bcd7bcd7bcd6bcd5bcd5bcd4bcd3bcd3bcd2bcd1bcd1bcd0bccfbccfbccebccdbccdbcccbccbbccbbcca,
  0xbe17be17be16be16be15be14be14be13be12be12be11be10be10be0fbe0ebe0ebe0dbe0cbe0cbe0bbe0abe0abe09be09be08be07be07be06be05be05be04be03be03be02be01be01be00bdffbdffbdfebdfdbdfdbdfcbdfcbdfbbdfabdfabdf9bdf8bdf8bdf7bdf6bdf6bdf5bdf4bdf4bdf3bdf2bdf2bdf1bdf0bdf0bdefbdefbdeebdedbdedbdecbdebbdebbdeabde9bde9bde8bde7bde7bde6bde5bde5bde4bde3bde3bde2bde2bde1bde0bde0bddfbddebddebdddbddcbddcbddbbddabddabdd9bdd8bdd8bdd7bdd6bdd6bdd5bdd5bdd4bdd3bdd3bdd2bdd1bdd1bdd0bdcfbdcfbdcebdcdbdcdbdccbdcbbdcbbdcabdc9bdc9bdc8bdc7bdc7bdc6bdc6bdc5bdc4bdc4bdc3bdc2bdc2bdc1bdc0bdc0bdbfbdbebdbebdbdbdbcbdbcbdbbbdbabdbabdb9bdb9bdb8bdb7bdb7bdb6bdb5bdb5bdb4bdb3bdb3bdb2bdb1bdb1bdb0bdafbdafbdaebdadbdadbdacbdabbdabbdaabdaabda9bda8bda8bda7bda6bda6bda5bda4bda4bda3bda2bda2bda1bda0bda0bd9fbd9ebd9ebd9dbd9cbd9cbd9bbd9bbd9abd99bd99bd98bd97bd97bd96bd95bd95bd94bd93bd93bd92bd91bd91bd90bd8fbd8fbd8ebd8ebd8dbd8cbd8cbd8bbd8abd8abd89bd88bd88bd87bd86bd86bd85bd84bd84bd83bd82bd82bd81bd80bd80bd7fbd7fbd7ebd7dbd7dbd7cbd7bbd7bbd7abd79bd79bd78bd77bd77bd76bd75bd75bd74bd73bd73bd72bd71,
  0xbebdbebdbebcbebcbebbbebabebabeb9beb8beb8beb7beb6beb6beb5beb4beb4beb3beb2beb2beb1beb1beb0beafbeafbeaebeadbeadbeacbeabbeabbeaabea9bea9bea8bea7bea7bea6bea6bea5bea4bea4bea3bea2bea2bea1bea0bea0be9fbe9ebe9ebe9dbe9cbe9cbe9bbe9abe9abe99be99be98be97be97be96be95be95be94be93be93be92be91be91be90be8fbe8fbe8ebe8ebe8dbe8cbe8cbe8bbe8abe8abe89be88be88be87be86be86be85be84be84be83be83be82be81be81be80be7fbe7fbe7ebe7dbe7dbe7cbe7bbe7bbe7abe79be79be78be78be77be76be76be75be74be74be73be72be72be71be70be70be6fbe6ebe6ebe6dbe6cbe6cbe6bbe6bbe6abe69be69be68be67be67be66be65be65be64be63be63be62be61be61be60be60be5fbe5ebe5ebe5dbe5cbe5cbe5bbe5abe5abe59be58be58be57be56be56be55be54be54be53be53be52be51be51be50be4fbe4fbe4ebe4dbe4dbe4cbe4bbe4bbe4abe49be49be48be48be47be46be46be45be44be44be43be42be42be41be40be40be3fbe3ebe3ebe3dbe3cbe3cbe3bbe3bbe3abe39be39be38be37be37be36be35be35be34be33be33be32be31be31be30be30be2fbe2ebe2ebe2dbe2cbe2cbe2bbe2abe2abe29be28be28be27be26be26be25be24be24be23be23be22be21be21be20be1fbe1fbe1ebe1dbe1dbe1cbe1bbe1bbe1abe19be19be18,
  0xbf63bf62bf61bf61bf60bf60bf5fbf5ebf5ebf5dbf5cbf5cbf5bbf5abf5abf59bf58bf58bf57bf57bf56bf55bf55bf54bf53bf53bf52bf51bf51bf50bf4fbf4fbf4ebf4dbf4dbf4cbf4cbf4bbf4abf4abf49bf48bf48bf47bf46bf46bf45bf44bf44bf43bf43bf42bf41bf41bf40bf3fbf3fbf3ebf3dbf3dbf3cbf3bbf3bbf3abf39bf39bf38bf38bf37bf36bf36bf35bf34bf34bf33bf32bf32bf31bf30bf30bf2fbf2fbf2ebf2dbf2dbf2cbf2bbf2bbf2abf29bf29bf28bf27bf27bf26bf25bf25bf24bf24bf23bf22bf22bf21bf20bf20bf1fbf1ebf1ebf1dbf1cbf1cbf1bbf1bbf1abf19bf19bf18bf17bf17bf16bf15bf15bf14bf13bf13bf12bf11bf11bf10bf10bf0fbf0ebf0ebf0dbf0cbf0cbf0bbf0abf0abf09bf08bf08bf07bf07bf06bf05bf05bf04bf03bf03bf02bf01bf01bf00beffbeffbefebefdbefdbefcbefcbefbbefabefabef9bef8bef8bef7bef6bef6bef5bef4bef4bef3bef2bef2bef1bef1bef0beefbeefbeeebeedbeedbeecbeebbeebbeeabee9bee9bee8bee7bee7bee6bee6bee5bee4bee4bee3bee2bee2bee1bee0bee0bedfbedebedebeddbedcbedcbedbbedbbedabed9bed9bed8bed7bed7bed6bed5bed5bed4bed3bed3bed2bed2bed1bed0bed0becfbecebecebecdbeccbeccbecbbecabecabec9bec8bec8bec7bec7bec6bec5bec5bec4bec3bec3bec2bec1bec1bec0bebfbebfbebe,
  0xc007c007c006c005c005c004c004c003c002c002c001c000c000bfffbffebffebffdbffcbffcbffbbffbbffabff9bff9bff8bff7bff7bff6bff5bff5bff4bff3bff3bff2bff2bff1bff0bff0bfefbfeebfeebfedbfecbfecbfebbfebbfeabfe9bfe9bfe8bfe7bfe7bfe6bfe5bfe5bfe4bfe3bfe3bfe2bfe2bfe1bfe0bfe0bfdfbfdebfdebfddbfdcbfdcbfdbbfdabfdabfd9bfd9bfd8bfd7bfd7bfd6bfd5bfd5bfd4bfd3bfd3bfd2bfd1bfd1bfd0bfd0bfcfbfcebfcebfcdbfccbfccbfcbbfcabfcabfc9bfc8bfc8bfc7bfc7bfc6bfc5bfc5bfc4bfc3bfc3bfc2bfc1bfc1bfc0bfbfbfbfbfbebfbebfbdbfbcbfbcbfbbbfbabfbabfb9bfb8bfb8bfb7bfb6bfb6bfb5bfb5bfb4bfb3bfb3bfb2bfb1bfb1bfb0bfafbfafbfaebfadbfadbfacbfacbfabbfaabfaabfa9bfa8bfa8bfa7bfa6bfa6bfa5bfa4bfa4bfa3bfa3bfa2bfa1bfa1bfa0bf9fbf9fbf9ebf9dbf9dbf9cbf9bbf9bbf9abf99bf99bf98bf98bf97bf96bf96bf95bf94bf94bf93bf92bf92bf91bf90bf90bf8fbf8fbf8ebf8dbf8dbf8cbf8bbf8bbf8abf89bf89bf88bf87bf87bf86bf86bf85bf84bf84bf83bf82bf82bf81bf80bf80bf7fbf7ebf7ebf7dbf7dbf7cbf7bbf7bbf7abf79bf79bf78bf77bf77bf76bf75bf75bf74bf74bf73bf72bf72bf71bf70bf70bf6fbf6ebf6ebf6dbf6cbf6cbf6bbf6abf6abf69bf69bf68bf67bf67bf66bf65bf65bf64bf63,
  0xc0abc0abc0aac0a9c0a9c0a8c0a8c0a7c0a6c0a6c0a5c0a4c0a4c0a3c0a2c0a2c0a1c0a1c0a0c09fc09fc09ec09dc09dc09cc09bc09bc09ac099c099c098c098c097c096c096c095c094c094c093c092c092c091c091c090c08fc08fc08ec08dc08dc08cc08bc08bc08ac089c089c088c088c087c086c086c085c084c084c083c082c082c081c081c080c07fc07fc07ec07dc07dc07cc07bc07bc07ac079c079c078c078c077c076c076c075c074c074c073c072c072c071c071c070c06fc06fc06ec06dc06dc06cc06bc06bc06ac069c069c068c068c067c066c066c065c064c064c063c062c062c061c061c060c05fc05fc05ec05dc05dc05cc05bc05bc05ac059c059c058c058c057c056c056c055c054c054c053c052c052c051c051c050c04fc04fc04ec04dc04dc04cc04bc04bc04ac049c049c048c048c047c046c046c045c044c044c043c042c042c041c040c040c03fc03fc03ec03dc03dc03cc03bc03bc03ac039c039c038c038c037c036c036c035c034c034c033c032c032c031c030c030c02fc02fc02ec02dc02dc02cc02bc02bc02ac029c029c028c027c027c026c026c025c024c024c023c022c022c021c020c020c01fc01ec01ec01dc01dc01cc01bc01bc01ac019c019c018c017c017c016c016c015c014c014c013c012c012c011c010c010c00fc00ec00ec00dc00dc00cc00bc00bc00ac009c009c008,
  0xc14fc14ec14dc14dc14cc14cc14bc14ac14ac149c148c148c147c146c146c145c145c144c143c143c142c141c141c140c13fc13fc13ec13ec13dc13cc13cc13bc13ac13ac139c138c138c137c137c136c135c135c134c133c133c132c131c131c130c12fc12fc12ec12ec12dc12cc12cc12bc12ac12ac129c128c128c127c127c126c125c125c124c123c123c122c121c121c120c120c11fc11ec11ec11dc11cc11cc11bc11ac11ac119c119c118c117c117c116c115c115c114c113c113c112c112c111c110c110c10fc10ec10ec10dc10cc10cc10bc10bc10ac109c109c108c107c107c106c105c105c104c104c103c102c102c101c100c100c0ffc0fec0fec0fdc0fcc0fcc0fbc0fbc0fac0f9c0f9c0f8c0f7c0f7c0f6c0f5c0f5c0f4c0f4c0f3c0f2c0f2c0f1c0f0c0f0c0efc0eec0eec0edc0edc0ecc0ebc0ebc0eac0e9c0e9c0e8c0e7c0e7c0e6c0e6c0e5c0e4c0e4c0e3c0e2c0e2c0e1c0e0c0e0c0dfc0dec0dec0ddc0ddc0dcc0dbc0dbc0dac0d9c0d9c0d8c0d7c0d7c0d6c0d6c0d5c0d4c0d4c0d3c0d2c0d2c0d1c0d0c0d0c0cfc0cfc0cec0cdc0cdc0ccc0cbc0cbc0cac0c9c0c9c0c8c0c7c0c7c0c6c0c6c0c5c0c4c0c4c0c3c0c2c0c2c0c1c0c0c0c0c0bfc0bfc0bec0bdc0bdc0bcc0bbc0bbc0bac0b9c0b9c0b8c0b8c0b7c0b6c0b6c0b5c0b4c0b4c0b3c0b2c0b2c0b1c0b0c0b0c0afc0afc0aec0adc0adc0ac,
  0xc1f1c1f1c1f0c1efc1efc1eec1eec1edc1ecc1ecc1ebc1eac1eac1e9c1e9c1e8c1e7c1e7c1e6c1e5c1e5c1e4c1e3c1e3c1e2c1e2c1e1c1e0c1e0c1dfc1dec1dec1ddc1dcc1dcc1dbc1dbc1dac1d9c1d9c1d8c1d7c1d7c1d6c1d5c1d5c1d4c1d4c1d3c1d2c1d2c1d1c1d0c1d0c1cfc1cec1cec1cdc1cdc1ccc1cbc1cbc1cac1c9c1c9c1c8c1c8c1c7c1c6c1c6c1c5c1c4c1c4c1c3c1c2c1c2c1c1c1c1c1c0c1bfc1bfc1bec1bdc1bdc1bcc1bbc1bbc1bac1bac1b9c1b8c1b8c1b7c1b6c1b6c1b5c1b4c1b4c1b3c1b3c1b2c1b1c1b1c1b0c1afc1afc1aec1adc1adc1acc1acc1abc1aac1aac1a9c1a8c1a8c1a7c1a6c1a6c1a5c1a5c1a4c1a3c1a3c1a2c1a1c1a1c1a0c19fc19fc19ec19ec19dc19cc19cc19bc19ac19ac199c198c198c197c197c196c195c195c194c193c193c192c192c191c190c190c18fc18ec18ec18dc18cc18cc18bc18bc18ac189c189c188c187c187c186c185c185c184c184c183c182c182c181c180c180c17fc17ec17ec17dc17dc17cc17bc17bc17ac179c179c178c177c177c176c176c175c174c174c173c172c172c171c170c170c16fc16fc16ec16dc16dc16cc16bc16bc16ac169c169c168c168c167c166c166c165c164c164c163c162c162c161c161c160c15fc15fc15ec15dc15dc15cc15bc15bc15ac15ac159c158c158c157c156c156c155c154c154c153c153c152c151c151c150c14f,
  0xc293c293c292c292c291c290c290c28fc28ec28ec28dc28cc28cc28bc28bc28ac289c289c288c287c287c286c286c285c284c284c283c282c282c281c280c280c27fc27fc27ec27dc27dc27cc27bc27bc27ac27ac279c278c278c277c276c276c275c274c274c273c273c272c271c271c270c26fc26fc26ec26ec26dc26cc26cc26bc26ac26ac269c268c268c267c267c266c265c265c264c263c263c262c261c261c260c260c25fc25ec25ec25dc25cc25cc25bc25bc25ac259c259c258c257c257c256c255c255c254c254c253c252c252c251c250c250c24fc24fc24ec24dc24dc24cc24bc24bc24ac249c249c248c248c247c246c246c245c244c244c243c242c242c241c241c240c23fc23fc23ec23dc23dc23cc23cc23bc23ac23ac239c238c238c237c236c236c235c235c234c233c233c232c231c231c230c22fc22fc22ec22ec22dc22cc22cc22bc22ac22ac229c229c228c227c227c226c225c225c224c223c223c222c222c221c220c220c21fc21ec21ec21dc21cc21cc21bc21bc21ac219c219c218c217c217c216c216c215c214c214c213c212c212c211c210c210c20fc20fc20ec20dc20dc20cc20bc20bc20ac209c209c208c208c207c206c206c205c204c204c203c203c202c201c201c200c1ffc1ffc1fec1fdc1fdc1fcc1fcc1fbc1fac1fac1f9c1f8c1f8c1f7c1f6c1f6c1f5c1f5c1f4c1f3c1f3c1f2,
  0xc335c334c334c333c332c332c331c330c330c32fc32fc32ec32dc32dc32cc32bc32bc32ac32ac329c328c328c327c326c326c325c324c324c323c323c322c321c321c320c31fc31fc31ec31ec31dc31cc31cc31bc31ac31ac319c319c318c317c317c316c315c315c314c313c313c312c312c311c310c310c30fc30ec30ec30dc30dc30cc30bc30bc30ac309c309c308c308c307c306c306c305c304c304c303c302c302c301c301c300c2ffc2ffc2fec2fdc2fdc2fcc2fcc2fbc2fac2fac2f9c2f8c2f8c2f7c2f7c2f6c2f5c2f5c2f4c2f3c2f3c2f2c2f1c2f1c2f0c2f0c2efc2eec2eec2edc2ecc2ecc2ebc2ebc2eac2e9c2e9c2e8c2e7c2e7c2e6c2e5c2e5c2e4c2e4c2e3c2e2c2e2c2e1c2e0c2e0c2dfc2dfc2dec2ddc2ddc2dcc2dbc2dbc2dac2d9c2d9c2d8c2d8c2d7c2d6c2d6c2d5c2d4c2d4c2d3c2d3c2d2c2d1c2d1c2d0c2cfc2cfc2cec2cec2cdc2ccc2ccc2cbc2cac2cac2c9c2c8c2c8c2c7c2c7c2c6c2c5c2c5c2c4c2c3c2c3c2c2c2c2c2c1c2c0c2c0c2bfc2bec2bec2bdc2bcc2bcc2bbc2bbc2bac2b9c2b9c2b8c2b7c2b7c2b6c2b6c2b5c2b4c2b4c2b3c2b2c2b2c2b1c2b0c2b0c2afc2afc2aec2adc2adc2acc2abc2abc2aac2aac2a9c2a8c2a8c2a7c2a6c2a6c2a5c2a4c2a4c2a3c2a3c2a2c2a1c2a1c2a0c29fc29fc29ec29ec29dc29cc29cc29bc29ac29ac299c298c298c297c297c296c295c295c294,
  0xc3d6c3d5c3d4c3d4c3d3c3d3c3d2c3d1c3d1c3d0c3cfc3cfc3cec3cdc3cdc3ccc3ccc3cbc3cac3cac3c9c3c8c3c8c3c7c3c7c3c6c3c5c3c5c3c4c3c3c3c3c3c2c3c2c3c1c3c0c3c0c3bfc3bec3bec3bdc3bdc3bcc3bbc3bbc3bac3b9c3b9c3b8c3b8c3b7c3b6c3b6c3b5c3b4c3b4c3b3c3b3c3b2c3b1c3b1c3b0c3afc3afc3aec3aec3adc3acc3acc3abc3aac3aac3a9c3a8c3a8c3a7c3a7c3a6c3a5c3a5c3a4c3a3c3a3c3a2c3a2c3a1c3a0c3a0c39fc39ec39ec39dc39dc39cc39bc39bc39ac399c399c398c398c397c396c396c395c394c394c393c393c392c391c391c390c38fc38fc38ec38dc38dc38cc38cc38bc38ac38ac389c388c388c387c387c386c385c385c384c383c383c382c382c381c380c380c37fc37ec37ec37dc37dc37cc37bc37bc37ac379c379c378c378c377c376c376c375c374c374c373c372c372c371c371c370c36fc36fc36ec36dc36dc36cc36cc36bc36ac36ac369c368c368c367c367c366c365c365c364c363c363c362c362c361c360c360c35fc35ec35ec35dc35cc35cc35bc35bc35ac359c359c358c357c357c356c356c355c354c354c353c352c352c351c351c350c34fc34fc34ec34dc34dc34cc34bc34bc34ac34ac349c348c348c347c346c346c345c345c344c343c343c342c341c341c340c340c33fc33ec33ec33dc33cc33cc33bc33bc33ac339c339c338c337c337c336c335,
  0xc476c475c475c474c473c473c472c471c471c470c470c46fc46ec46ec46dc46cc46cc46bc46bc46ac469c469c468c467c467c466c466c465c464c464c463c462c462c461c461c460c45fc45fc45ec45dc45dc45cc45cc45bc45ac45ac459c458c458c457c457c456c455c455c454c453c453c452c452c451c450c450c44fc44ec44ec44dc44dc44cc44bc44bc44ac449c449c448c448c447c446c446c445c444c444c443c443c442c441c441c440c43fc43fc43ec43ec43dc43cc43cc43bc43ac43ac439c439c438c437c437c436c435c435c434c434c433c432c432c431c430c430c42fc42fc42ec42dc42dc42cc42bc42bc42ac42ac429c428c428c427c426c426c425c425c424c423c423c422c421c421c420c420c41fc41ec41ec41dc41cc41cc41bc41bc41ac419c419c418c417c417c416c416c415c414c414c413c412c412c411c411c410c40fc40fc40ec40dc40dc40cc40cc40bc40ac40ac409c408c408c407c407c406c405c405c404c403c403c402c402c401c400c400c3ffc3fec3fec3fdc3fcc3fcc3fbc3fbc3fac3f9c3f9c3f8c3f7c3f7c3f6c3f6c3f5c3f4c3f4c3f3c3f2c3f2c3f1c3f1c3f0c3efc3efc3eec3edc3edc3ecc3ecc3ebc3eac3eac3e9c3e8c3e8c3e7c3e7c3e6c3e5c3e5c3e4c3e3c3e3c3e2c3e2c3e1c3e0c3e0c3dfc3dec3dec3ddc3ddc3dcc3dbc3dbc3dac3d9c3d9c3d8c3d8c3d7c3d6,
  0xc515c515c514c514c513c512c512c511c510c510c50fc50fc50ec50dc50dc50cc50bc50bc50ac50ac509c508c508c507c506c506c505c505c504c503c503c502c501c501c500c500c4ffc4fec4fec4fdc4fcc4fcc4fbc4fbc4fac4f9c4f9c4f8c4f8c4f7c4f6c4f6c4f5c4f4c4f4c4f3c4f3c4f2c4f1c4f1c4f0c4efc4efc4eec4eec4edc4ecc4ecc4ebc4eac4eac4e9c4e9c4e8c4e7c4e7c4e6c4e5c4e5c4e4c4e4c4e3c4e2c4e2c4e1c4e0c4e0c4dfc4dfc4dec4ddc4ddc4dcc4dbc4dbc4dac4dac4d9c4d8c4d8c4d7c4d7c4d6c4d5c4d5c4d4c4d3c4d3c4d2c4d2c4d1c4d0c4d0c4cfc4cec4cec4cdc4cdc4ccc4cbc4cbc4cac4c9c4c9c4c8c4c8c4c7c4c6c4c6c4c5c4c4c4c4c4c3c4c3c4c2c4c1c4c1c4c0c4bfc4bfc4bec4bec4bdc4bcc4bcc4bbc4bac4bac4b9c4b9c4b8c4b7c4b7c4b6c4b5c4b5c4b4c4b4c4b3c4b2c4b2c4b1c4b0c4b0c4afc4afc4aec4adc4adc4acc4abc4abc4aac4aac4a9c4a8c4a8c4a7c4a6c4a6c4a5c4a5c4a4c4a3c4a3c4a2c4a2c4a1c4a0c4a0c49fc49ec49ec49dc49dc49cc49bc49bc49ac499c499c498c498c497c496c496c495c494c494c493c493c492c491c491c490c48fc48fc48ec48ec48dc48cc48cc48bc48ac48ac489c489c488c487c487c486c485c485c484c484c483c482c482c481c480c480c47fc47fc47ec47dc47dc47cc47bc47bc47ac47ac479c478c478c477c476,
  0xc5b4c5b4c5b3c5b2c5b2c5b1c5b1c5b0c5afc5afc5aec5aec5adc5acc5acc5abc5aac5aac5a9c5a9c5a8c5a7c5a7c5a6c5a5c5a5c5a4c5a4c5a3c5a2c5a2c5a1c5a1c5a0c59fc59fc59ec59dc59dc59cc59cc59bc59ac59ac599c598c598c597c597c596c595c595c594c593c593c592c592c591c590c590c58fc58fc58ec58dc58dc58cc58bc58bc58ac58ac589c588c588c587c586c586c585c585c584c583c583c582c581c581c580c580c57fc57ec57ec57dc57dc57cc57bc57bc57ac579c579c578c578c577c576c576c575c574c574c573c573c572c571c571c570c56fc56fc56ec56ec56dc56cc56cc56bc56bc56ac569c569c568c567c567c566c566c565c564c564c563c562c562c561c561c560c55fc55fc55ec55dc55dc55cc55cc55bc55ac55ac559c559c558c557c557c556c555c555c554c554c553c552c552c551c550c550c54fc54fc54ec54dc54dc54cc54bc54bc54ac54ac549c548c548c547c547c546c545c545c544c543c543c542c542c541c540c540c53fc53ec53ec53dc53dc53cc53bc53bc53ac539c539c538c538c537c536c536c535c534c534c533c533c532c531c531c530c530c52fc52ec52ec52dc52cc52cc52bc52bc52ac529c529c528c527c527c526c526c525c524c524c523c522c522c521c521c520c51fc51fc51ec51dc51dc51cc51cc51bc51ac51ac519c518c518c517c517c516,
  0xc653c652c651c651c650c650c64fc64ec64ec64dc64dc64cc64bc64bc64ac649c649c648c648c647c646c646c645c645c644c643c643c642c641c641c640c640c63fc63ec63ec63dc63cc63cc63bc63bc63ac639c639c638c638c637c636c636c635c634c634c633c633c632c631c631c630c630c62fc62ec62ec62dc62cc62cc62bc62bc62ac629c629c628c627c627c626c626c625c624c624c623c623c622c621c621c620c61fc61fc61ec61ec61dc61cc61cc61bc61ac61ac619c619c618c617c617c616c616c615c614c614c613c612c612c611c611c610c60fc60fc60ec60ec60dc60cc60cc60bc60ac60ac609c609c608c607c607c606c605c605c604c604c603c602c602c601c601c600c5ffc5ffc5fec5fdc5fdc5fcc5fcc5fbc5fac5fac5f9c5f8c5f8c5f7c5f7c5f6c5f5c5f5c5f4c5f4c5f3c5f2c5f2c5f1c5f0c5f0c5efc5efc5eec5edc5edc5ecc5ebc5ebc5eac5eac5e9c5e8c5e8c5e7c5e7c5e6c5e5c5e5c5e4c5e3c5e3c5e2c5e2c5e1c5e0c5e0c5dfc5dec5dec5ddc5ddc5dcc5dbc5dbc5dac5dac5d9c5d8c5d8c5d7c5d6c5d6c5d5c5d5c5d4c5d3c5d3c5d2c5d1c5d1c5d0c5d0c5cfc5cec5cec5cdc5cdc5ccc5cbc5cbc5cac5c9c5c9c5c8c5c8c5c7c5c6c5c6c5c5c5c4c5c4c5c3c5c3c5c2c5c1c5c1c5c0c5c0c5bfc5bec5bec5bdc5bcc5bcc5bbc5bbc5bac5b9c5b9c5b8c5b7c5b7c5b6c5b6c5b5,
  0xc6f0c6f0c6efc6efc6eec6edc6edc6ecc6ecc6ebc6eac6eac6e9c6e8c6e8c6e7c6e7c6e6c6e5c6e5c6e4c6e4c6e3c6e2c6e2c6e1c6e0c6e0c6dfc6dfc6dec6ddc6ddc6dcc6dcc6dbc6dac6dac6d9c6d8c6d8c6d7c6d7c6d6c6d5c6d5c6d4c6d4c6d3c6d2c6d2c6d1c6d0c6d0c6cfc6cfc6cec6cdc6cdc6ccc6ccc6cbc6cac6cac6c9c6c8c6c8c6c7c6c7c6c6c6c5c6c5c6c4c6c4c6c3c6c2c6c2c6c1c6c0c6c0c6bfc6bfc6bec6bdc6bdc6bcc6bcc6bbc6bac6bac6b9c6b8c6b8c6b7c6b7c6b6c6b5c6b5c6b4c6b4c6b3c6b2c6b2c6b1c6b0c6b0c6afc6afc6aec6adc6adc6acc6acc6abc6aac6aac6a9c6a8c6a8c6a7c6a7c6a6c6a5c6a5c6a4c6a4c6a3c6a2c6a2c6a1c6a0c6a0c69fc69fc69ec69dc69dc69cc69cc69bc69ac69ac699c698c698c697c697c696c695c695c694c693c693c692c692c691c690c690c68fc68fc68ec68dc68dc68cc68bc68bc68ac68ac689c688c688c687c687c686c685c685c684c683c683c682c682c681c680c680c67fc67fc67ec67dc67dc67cc67bc67bc67ac67ac679c678c678c677c677c676c675c675c674c673c673c672c672c671c670c670c66fc66ec66ec66dc66dc66cc66bc66bc66ac66ac669c668c668c667c666c666c665c665c664c663c663c662c662c661c660c660c65fc65ec65ec65dc65dc65cc65bc65bc65ac65ac659c658c658c657c656c656c655c655c654c653,
  0xc78ec78dc78cc78cc78bc78bc78ac789c789c788c788c787c786c786c785c784c784c783c783c782c781c781c780c780c77fc77ec77ec77dc77dc77cc77bc77bc77ac779c779c778c778c777c776c776c775c775c774c773c773c772c771c771c770c770c76fc76ec76ec76dc76dc76cc76bc76bc76ac76ac769c768c768c767c766c766c765c765c764c763c763c762c762c761c760c760c75fc75ec75ec75dc75dc75cc75bc75bc75ac75ac759c758c758c757c756c756c755c755c754c753c753c752c752c751c750c750c74fc74fc74ec74dc74dc74cc74bc74bc74ac74ac749c748c748c747c747c746c745c745c744c743c743c742c742c741c740c740c73fc73fc73ec73dc73dc73cc73bc73bc73ac73ac739c738c738c737c737c736c735c735c734c733c733c732c732c731c730c730c72fc72fc72ec72dc72dc72cc72cc72bc72ac72ac729c728c728c727c727c726c725c725c724c724c723c722c722c721c720c720c71fc71fc71ec71dc71dc71cc71cc71bc71ac71ac719c718c718c717c717c716c715c715c714c714c713c712c712c711c710c710c70fc70fc70ec70dc70dc70cc70cc70bc70ac70ac709c708c708c707c707c706c705c705c704c704c703c702c702c701c700c700c6ffc6ffc6fec6fdc6fdc6fcc6fcc6fbc6fac6fac6f9c6f8c6f8c6f7c6f7c6f6c6f5c6f5c6f4c6f4c6f3c6f2c6f2c6f1,
  0xc82ac82ac829c828c828c827c827c826c825c825c824c824c823c822c822c821c821c820c81fc81fc81ec81dc81dc81cc81cc81bc81ac81ac819c819c818c817c817c816c816c815c814c814c813c812c812c811c811c810c80fc80fc80ec80ec80dc80cc80cc80bc80bc80ac809c809c808c807c807c806c806c805c804c804c803c803c802c801c801c800c800c7ffc7fec7fec7fdc7fcc7fcc7fbc7fbc7fac7f9c7f9c7f8c7f8c7f7c7f6c7f6c7f5c7f5c7f4c7f3c7f3c7f2c7f1c7f1c7f0c7f0c7efc7eec7eec7edc7edc7ecc7ebc7ebc7eac7eac7e9c7e8c7e8c7e7c7e6c7e6c7e5c7e5c7e4c7e3c7e3c7e2c7e2c7e1c7e0c7e0c7dfc7dfc7dec7ddc7ddc7dcc7dbc7dbc7dac7dac7d9c7d8c7d8c7d7c7d7c7d6c7d5c7d5c7d4c7d3c7d3c7d2c7d2c7d1c7d0c7d0c7cfc7cfc7cec7cdc7cdc7ccc7ccc7cbc7cac7cac7c9c7c8c7c8c7c7c7c7c7c6c7c5c7c5c7c4c7c4c7c3c7c2c7c2c7c1c7c1c7c0c7bfc7bfc7bec7bdc7bdc7bcc7bcc7bbc7bac7bac7b9c7b9c7b8c7b7c7b7c7b6c7b5c7b5c7b4c7b4c7b3c7b2c7b2c7b1c7b1c7b0c7afc7afc7aec7aec7adc7acc7acc7abc7aac7aac7a9c7a9c7a8c7a7c7a7c7a6c7a6c7a5c7a4c7a4c7a3c7a3c7a2c7a1c7a1c7a0c79fc79fc79ec79ec79dc79cc79cc79bc79bc79ac799c799c798c797c797c796c796c795c794c794c793c793c792c791c791c790c790c78fc78e,
  0xc8c6c8c6c8c5c8c5c8c4c8c3c8c3c8c2c8c1c8c1c8c0c8c0c8bfc8bec8bec8bdc8bdc8bcc8bbc8bbc8bac8bac8b9c8b8c8b8c8b7c8b7c8b6c8b5c8b5c8b4c8b3c8b3c8b2c8b2c8b1c8b0c8b0c8afc8afc8aec8adc8adc8acc8acc8abc8aac8aac8a9c8a9c8a8c8a7c8a7c8a6c8a5c8a5c8a4c8a4c8a3c8a2c8a2c8a1c8a1c8a0c89fc89fc89ec89ec89dc89cc89cc89bc89bc89ac899c899c898c897c897c896c896c895c894c894c893c893c892c891c891c890c890c88fc88ec88ec88dc88cc88cc88bc88bc88ac889c889c888c888c887c886c886c885c885c884c883c883c882c882c881c880c880c87fc87ec87ec87dc87dc87cc87bc87bc87ac87ac879c878c878c877c877c876c875c875c874c874c873c872c872c871c870c870c86fc86fc86ec86dc86dc86cc86cc86bc86ac86ac869c869c868c867c867c866c865c865c864c864c863c862c862c861c861c860c85fc85fc85ec85ec85dc85cc85cc85bc85bc85ac859c859c858c857c857c856c856c855c854c854c853c853c852c851c851c850c850c84fc84ec84ec84dc84cc84cc84bc84bc84ac849c849c848c848c847c846c846c845c845c844c843c843c842c841c841c840c840c83fc83ec83ec83dc83dc83cc83bc83bc83ac83ac839c838c838c837c837c836c835c835c834c833c833c832c832c831c830c830c82fc82fc82ec82dc82dc82cc82cc82b,
  0xc962c961c961c960c95fc95fc95ec95ec95dc95cc95cc95bc95bc95ac959c959c958c958c957c956c956c955c954c954c953c953c952c951c951c950c950c94fc94ec94ec94dc94dc94cc94bc94bc94ac94ac949c948c948c947c947c946c945c945c944c943c943c942c942c941c940c940c93fc93fc93ec93dc93dc93cc93cc93bc93ac93ac939c939c938c937c937c936c936c935c934c934c933c933c932c931c931c930c92fc92fc92ec92ec92dc92cc92cc92bc92bc92ac929c929c928c928c927c926c926c925c925c924c923c923c922c922c921c920c920c91fc91ec91ec91dc91dc91cc91bc91bc91ac91ac919c918c918c917c917c916c915c915c914c914c913c912c912c911c910c910c90fc90fc90ec90dc90dc90cc90cc90bc90ac90ac909c909c908c907c907c906c906c905c904c904c903c903c902c901c901c900c8ffc8ffc8fec8fec8fdc8fcc8fcc8fbc8fbc8fac8f9c8f9c8f8c8f8c8f7c8f6c8f6c8f5c8f5c8f4c8f3c8f3c8f2c8f2c8f1c8f0c8f0c8efc8eec8eec8edc8edc8ecc8ebc8ebc8eac8eac8e9c8e8c8e8c8e7c8e7c8e6c8e5c8e5c8e4c8e4c8e3c8e2c8e2c8e1c8e0c8e0c8dfc8dfc8dec8ddc8ddc8dcc8dcc8dbc8dac8dac8d9c8d9c8d8c8d7c8d7c8d6c8d6c8d5c8d4c8d4c8d3c8d3c8d2c8d1c8d1c8d0c8cfc8cfc8cec8cec8cdc8ccc8ccc8cbc8cbc8cac8c9c8c9c8c8c8c8c8c7,
  0xc9fdc9fcc9fcc9fbc9fac9fac9f9c9f8c9f8c9f7c9f7c9f6c9f5c9f5c9f4c9f4c9f3c9f2c9f2c9f1c9f1c9f0c9efc9efc9eec9eec9edc9ecc9ecc9ebc9ebc9eac9e9c9e9c9e8c9e8c9e7c9e6c9e6c9e5c9e5c9e4c9e3c9e3c9e2c9e2c9e1c9e0c9e0c9dfc9dfc9dec9ddc9ddc9dcc9dbc9dbc9dac9dac9d9c9d8c9d8c9d7c9d7c9d6c9d5c9d5c9d4c9d4c9d3c9d2c9d2c9d1c9d1c9d0c9cfc9cfc9cec9cec9cdc9ccc9ccc9cbc9cbc9cac9c9c9c9c9c8c9c8c9c7c9c6c9c6c9c5c9c5c9c4c9c3c9c3c9c2c9c1c9c1c9c0c9c0c9bfc9bec9bec9bdc9bdc9bcc9bbc9bbc9bac9bac9b9c9b8c9b8c9b7c9b7c9b6c9b5c9b5c9b4c9b4c9b3c9b2c9b2c9b1c9b1c9b0c9afc9afc9aec9aec9adc9acc9acc9abc9aac9aac9a9c9a9c9a8c9a7c9a7c9a6c9a6c9a5c9a4c9a4c9a3c9a3c9a2c9a1c9a1c9a0c9a0c99fc99ec99ec99dc99dc99cc99bc99bc99ac99ac999c998c998c997c997c996c995c995c994c993c993c992c992c991c990c990c98fc98fc98ec98dc98dc98cc98cc98bc98ac98ac989c989c988c987c987c986c986c985c984c984c983c983c982c981c981c980c980c97fc97ec97ec97dc97cc97cc97bc97bc97ac979c979c978c978c977c976c976c975c975c974c973c973c972c972c971c970c970c96fc96fc96ec96dc96dc96cc96cc96bc96ac96ac969c968c968c967c967c966c965c965c964c964c963c962,
  0xca97ca96ca96ca95ca95ca94ca93ca93ca92ca92ca91ca90ca90ca8fca8fca8eca8dca8dca8cca8cca8bca8aca8aca89ca89ca88ca87ca87ca86ca86ca85ca84ca84ca83ca83ca82ca81ca81ca80ca80ca7fca7eca7eca7dca7dca7cca7bca7bca7aca7aca79ca78ca78ca77ca77ca76ca75ca75ca74ca74ca73ca72ca72ca71ca71ca70ca6fca6fca6eca6eca6dca6cca6cca6bca6bca6aca69ca69ca68ca68ca67ca66ca66ca65ca64ca64ca63ca63ca62ca61ca61ca60ca60ca5fca5eca5eca5dca5dca5cca5bca5bca5aca5aca59ca58ca58ca57ca57ca56ca55ca55ca54ca54ca53ca52ca52ca51ca51ca50ca4fca4fca4eca4eca4dca4cca4cca4bca4bca4aca49ca49ca48ca48ca47ca46ca46ca45ca45ca44ca43ca43ca42ca42ca41ca40ca40ca3fca3fca3eca3dca3dca3cca3bca3bca3aca3aca39ca38ca38ca37ca37ca36ca35ca35ca34ca34ca33ca32ca32ca31ca31ca30ca2fca2fca2eca2eca2dca2cca2cca2bca2bca2aca29ca29ca28ca28ca27ca26ca26ca25ca25ca24ca23ca23ca22ca22ca21ca20ca20ca1fca1fca1eca1dca1dca1cca1cca1bca1aca1aca19ca19ca18ca17ca17ca16ca15ca15ca14ca14ca13ca12ca12ca11ca11ca10ca0fca0fca0eca0eca0dca0cca0cca0bca0bca0aca09ca09ca08ca08ca07ca06ca06ca05ca05ca04ca03ca03ca02ca02ca01ca00ca00c9ffc9ffc9fec9fd,
  0xcb31cb30cb30cb2fcb2ecb2ecb2dcb2dcb2ccb2bcb2bcb2acb2acb29cb28cb28cb27cb27cb26cb25cb25cb24cb24cb23cb22cb22cb21cb21cb20cb1fcb1fcb1ecb1ecb1dcb1ccb1ccb1bcb1bcb1acb19cb19cb18cb18cb17cb16cb16cb15cb15cb14cb13cb13cb12cb12cb11cb10cb10cb0fcb0fcb0ecb0dcb0dcb0ccb0ccb0bcb0acb0acb09cb09cb08cb07cb07cb06cb06cb05cb04cb04cb03cb03cb02cb01cb01cb00cb00caffcafecafecafdcafdcafccafbcafbcafacafacaf9caf8caf8caf7caf7caf6caf5caf5caf4caf4caf3caf2caf2caf1caf1caf0caefcaefcaeecaeecaedcaeccaeccaebcaebcaeacae9cae9cae8cae8cae7cae6cae6cae5cae5cae4cae3cae3cae2cae2cae1cae0cae0cadfcadfcadecaddcaddcadccadccadbcadacadacad9cad9cad8cad7cad7cad6cad6cad5cad4cad4cad3cad3cad2cad1cad1cad0cad0cacfcacecacecacdcacdcacccacbcacbcacacacacac9cac8cac8cac7cac7cac6cac5cac5cac4cac4cac3cac2cac2cac1cac1cac0cabfcabfcabecabecabdcabccabccabbcabbcabacab9cab9cab8cab8cab7cab6cab6cab5cab5cab4cab3cab3cab2cab2cab1cab0cab0caafcaafcaaecaadcaadcaaccaaccaabcaaacaaacaa9caa9caa8caa7caa7caa6caa6caa5caa4caa4caa3caa3caa2caa1caa1caa0caa0ca9fca9eca9eca9dca9cca9cca9bca9bca9aca99ca99ca98ca98,
  0xcbcacbcacbc9cbc8cbc8cbc7cbc7cbc6cbc5cbc5cbc4cbc4cbc3cbc2cbc2cbc1cbc1cbc0cbbfcbbfcbbecbbecbbdcbbccbbccbbbcbbbcbbacbb9cbb9cbb8cbb8cbb7cbb6cbb6cbb5cbb5cbb4cbb3cbb3cbb2cbb2cbb1cbb0cbb0cbafcbafcbaecbadcbadcbaccbaccbabcbaacbaacba9cba9cba8cba7cba7cba6cba6cba5cba4cba4cba3cba3cba2cba1cba1cba0cba0cb9fcb9fcb9ecb9dcb9dcb9ccb9ccb9bcb9acb9acb99cb99cb98cb97cb97cb96cb96cb95cb94cb94cb93cb93cb92cb91cb91cb90cb90cb8fcb8ecb8ecb8dcb8dcb8ccb8bcb8bcb8acb8acb89cb88cb88cb87cb87cb86cb85cb85cb84cb84cb83cb82cb82cb81cb81cb80cb7fcb7fcb7ecb7ecb7dcb7ccb7ccb7bcb7bcb7acb79cb79cb78cb78cb77cb76cb76cb75cb75cb74cb73cb73cb72cb72cb71cb70cb70cb6fcb6fcb6ecb6dcb6dcb6ccb6ccb6bcb6acb6acb69cb69cb68cb67cb67cb66cb66cb65cb64cb64cb63cb63cb62cb61cb61cb60cb60cb5fcb5ecb5ecb5dcb5dcb5ccb5bcb5bcb5acb5acb59cb58cb58cb57cb57cb56cb55cb55cb54cb54cb53cb52cb52cb51cb51cb50cb4fcb4fcb4ecb4ecb4dcb4ccb4ccb4bcb4bcb4acb49cb49cb48cb48cb47cb46cb46cb45cb45cb44cb43cb43cb42cb42cb41cb40cb40cb3fcb3fcb3ecb3dcb3dcb3ccb3ccb3bcb3acb3acb39cb39cb38cb37cb37cb36cb36cb35cb34cb34cb33cb33cb32cb31,
  0xcc63cc62cc62cc61cc61cc60cc5fcc5fcc5ecc5ecc5dcc5ccc5ccc5bcc5bcc5acc59cc59cc58cc58cc57cc56cc56cc55cc55cc54cc53cc53cc52cc52cc51cc50cc50cc4fcc4fcc4ecc4dcc4dcc4ccc4ccc4bcc4acc4acc49cc49cc48cc47cc47cc46cc46cc45cc45cc44cc43cc43cc42cc42cc41cc40cc40cc3fcc3fcc3ecc3dcc3dcc3ccc3ccc3bcc3acc3acc39cc39cc38cc37cc37cc36cc36cc35cc34cc34cc33cc33cc32cc31cc31cc30cc30cc2fcc2ecc2ecc2dcc2dcc2ccc2bcc2bcc2acc2acc29cc28cc28cc27cc27cc26cc26cc25cc24cc24cc23cc23cc22cc21cc21cc20cc20cc1fcc1ecc1ecc1dcc1dcc1ccc1bcc1bcc1acc1acc19cc18cc18cc17cc17cc16cc15cc15cc14cc14cc13cc12cc12cc11cc11cc10cc0fcc0fcc0ecc0ecc0dcc0ccc0ccc0bcc0bcc0acc09cc09cc08cc08cc07cc06cc06cc05cc05cc04cc03cc03cc02cc02cc01cc01cc00cbffcbffcbfecbfecbfdcbfccbfccbfbcbfbcbfacbf9cbf9cbf8cbf8cbf7cbf6cbf6cbf5cbf5cbf4cbf3cbf3cbf2cbf2cbf1cbf0cbf0cbefcbefcbeecbedcbedcbeccbeccbebcbeacbeacbe9cbe9cbe8cbe7cbe7cbe6cbe6cbe5cbe4cbe4cbe3cbe3cbe2cbe1cbe1cbe0cbe0cbdfcbdecbdecbddcbddcbdccbdbcbdbcbdacbdacbd9cbd8cbd8cbd7cbd7cbd6cbd6cbd5cbd4cbd4cbd3cbd3cbd2cbd1cbd1cbd0cbd0cbcfcbcecbcecbcdcbcdcbcccbcbcbcb,
  0xccfbccfaccfaccf9ccf9ccf8ccf8ccf7ccf6ccf6ccf5ccf5ccf4ccf3ccf3ccf2ccf2ccf1ccf0ccf0ccefccefcceeccedccedccecccecccebcceacceacce9cce9cce8cce7cce7cce6cce6cce5cce5cce4cce3cce3cce2cce2cce1cce0cce0ccdfccdfccdeccddccddccdcccdcccdbccdaccdaccd9ccd9ccd8ccd7ccd7ccd6ccd6ccd5ccd4ccd4ccd3ccd3ccd2ccd2ccd1ccd0ccd0cccfcccfcccecccdcccdcccccccccccbcccacccaccc9ccc9ccc8ccc7ccc7ccc6ccc6ccc5ccc4ccc4ccc3ccc3ccc2ccc1ccc1ccc0ccc0ccbfccbfccbeccbdccbdccbcccbcccbbccbaccbaccb9ccb9ccb8ccb7ccb7ccb6ccb6ccb5ccb4ccb4ccb3ccb3ccb2ccb1ccb1ccb0ccb0ccafccaeccaeccadccadccacccabccabccaaccaacca9cca9cca8cca7cca7cca6cca6cca5cca4cca4cca3cca3cca2cca1cca1cca0cca0cc9fcc9ecc9ecc9dcc9dcc9ccc9bcc9bcc9acc9acc99cc98cc98cc97cc97cc96cc95cc95cc94cc94cc93cc93cc92cc91cc91cc90cc90cc8fcc8ecc8ecc8dcc8dcc8ccc8bcc8bcc8acc8acc89cc88cc88cc87cc87cc86cc85cc85cc84cc84cc83cc82cc82cc81cc81cc80cc7fcc7fcc7ecc7ecc7dcc7ccc7ccc7bcc7bcc7acc7acc79cc78cc78cc77cc77cc76cc75cc75cc74cc74cc73cc72cc72cc71cc71cc70cc6fcc6fcc6ecc6ecc6dcc6ccc6ccc6bcc6bcc6acc69cc69cc68cc68cc67cc66cc66cc65cc65cc64cc63,
  0xcd93cd92cd92cd91cd90cd90cd8fcd8fcd8ecd8dcd8dcd8ccd8ccd8bcd8acd8acd89cd89cd88cd88cd87cd86cd86cd85cd85cd84cd83cd83cd82cd82cd81cd80cd80cd7fcd7fcd7ecd7dcd7dcd7ccd7ccd7bcd7acd7acd79cd79cd78cd78cd77cd76cd76cd75cd75cd74cd73cd73cd72cd72cd71cd70cd70cd6fcd6fcd6ecd6dcd6dcd6ccd6ccd6bcd6bcd6acd69cd69cd68cd68cd67cd66cd66cd65cd65cd64cd63cd63cd62cd62cd61cd60cd60cd5fcd5fcd5ecd5dcd5dcd5ccd5ccd5bcd5bcd5acd59cd59cd58cd58cd57cd56cd56cd55cd55cd54cd53cd53cd52cd52cd51cd50cd50cd4fcd4fcd4ecd4dcd4dcd4ccd4ccd4bcd4bcd4acd49cd49cd48cd48cd47cd46cd46cd45cd45cd44cd43cd43cd42cd42cd41cd40cd40cd3fcd3fcd3ecd3dcd3dcd3ccd3ccd3bcd3bcd3acd39cd39cd38cd38cd37cd36cd36cd35cd35cd34cd33cd33cd32cd32cd31cd30cd30cd2fcd2fcd2ecd2dcd2dcd2ccd2ccd2bcd2bcd2acd29cd29cd28cd28cd27cd26cd26cd25cd25cd24cd23cd23cd22cd22cd21cd20cd20cd1fcd1fcd1ecd1dcd1dcd1ccd1ccd1bcd1bcd1acd19cd19cd18cd18cd17cd16cd16cd15cd15cd14cd13cd13cd12cd12cd11cd10cd10cd0fcd0fcd0ecd0dcd0dcd0ccd0ccd0bcd0bcd0acd09cd09cd08cd08cd07cd06cd06cd05cd05cd04cd03cd03cd02cd02cd01cd00cd00ccffccffccfeccfdccfdccfcccfc,
  0xce2ace29ce29ce28ce28ce27ce26ce26ce25ce25ce24ce23ce23ce22ce22ce21ce20ce20ce1fce1fce1ece1ece1dce1cce1cce1bce1bce1ace19ce19ce18ce18ce17ce16ce16ce15ce15ce14ce13ce13ce12ce12ce11ce11ce10ce0fce0fce0ece0ece0dce0cce0cce0bce0bce0ace09ce09ce08ce08ce07ce07ce06ce05ce05ce04ce04ce03ce02ce02ce01ce01ce00cdffcdffcdfecdfecdfdcdfccdfccdfbcdfbcdfacdfacdf9cdf8cdf8cdf7cdf7cdf6cdf5cdf5cdf4cdf4cdf3cdf2cdf2cdf1cdf1cdf0cdf0cdefcdeecdeecdedcdedcdeccdebcdebcdeacdeacde9cde8cde8cde7cde7cde6cde5cde5cde4cde4cde3cde3cde2cde1cde1cde0cde0cddfcddecddecdddcdddcddccddbcddbcddacddacdd9cdd8cdd8cdd7cdd7cdd6cdd6cdd5cdd4cdd4cdd3cdd3cdd2cdd1cdd1cdd0cdd0cdcfcdcecdcecdcdcdcdcdcccdcbcdcbcdcacdcacdc9cdc9cdc8cdc7cdc7cdc6cdc6cdc5cdc4cdc4cdc3cdc3cdc2cdc1cdc1cdc0cdc0cdbfcdbecdbecdbdcdbdcdbccdbccdbbcdbacdbacdb9cdb9cdb8cdb7cdb7cdb6cdb6cdb5cdb4cdb4cdb3cdb3cdb2cdb1cdb1cdb0cdb0cdafcdafcdaecdadcdadcdaccdaccdabcdaacdaacda9cda9cda8cda7cda7cda6cda6cda5cda4cda4cda3cda3cda2cda2cda1cda0cda0cd9fcd9fcd9ecd9dcd9dcd9ccd9ccd9bcd9acd9acd99cd99cd98cd97cd97cd96cd96cd95cd95cd94cd93,
  0xcec1cec0cebfcebfcebecebecebdcebccebccebbcebbcebaceb9ceb9ceb8ceb8ceb7ceb7ceb6ceb5ceb5ceb4ceb4ceb3ceb2ceb2ceb1ceb1ceb0ceafceafceaeceaeceadceadceacceabceabceaaceaacea9cea8cea8cea7cea7cea6cea5cea5cea4cea4cea3cea3cea2cea1cea1cea0cea0ce9fce9ece9ece9dce9dce9cce9bce9bce9ace9ace99ce99ce98ce97ce97ce96ce96ce95ce94ce94ce93ce93ce92ce91ce91ce90ce90ce8fce8fce8ece8dce8dce8cce8cce8bce8ace8ace89ce89ce88ce88ce87ce86ce86ce85ce85ce84ce83ce83ce82ce82ce81ce80ce80ce7fce7fce7ece7ece7dce7cce7cce7bce7bce7ace79ce79ce78ce78ce77ce76ce76ce75ce75ce74ce74ce73ce72ce72ce71ce71ce70ce6fce6fce6ece6ece6dce6cce6cce6bce6bce6ace69ce69ce68ce68ce67ce67ce66ce65ce65ce64ce64ce63ce62ce62ce61ce61ce60ce5fce5fce5ece5ece5dce5dce5cce5bce5bce5ace5ace59ce58ce58ce57ce57ce56ce55ce55ce54ce54ce53ce53ce52ce51ce51ce50ce50ce4fce4ece4ece4dce4dce4cce4bce4bce4ace4ace49ce49ce48ce47ce47ce46ce46ce45ce44ce44ce43ce43ce42ce41ce41ce40ce40ce3fce3fce3ece3dce3dce3cce3cce3bce3ace3ace39ce39ce38ce37ce37ce36ce36ce35ce34ce34ce33ce33ce32ce32ce31ce30ce30ce2fce2fce2ece2dce2dce2cce2cce2bce2a,
  0xcf57cf56cf55cf55cf54cf54cf53cf53cf52cf51cf51cf50cf50cf4fcf4ecf4ecf4dcf4dcf4ccf4ccf4bcf4acf4acf49cf49cf48cf47cf47cf46cf46cf45cf44cf44cf43cf43cf42cf42cf41cf40cf40cf3fcf3fcf3ecf3dcf3dcf3ccf3ccf3bcf3bcf3acf39cf39cf38cf38cf37cf36cf36cf35cf35cf34cf33cf33cf32cf32cf31cf31cf30cf2fcf2fcf2ecf2ecf2dcf2ccf2ccf2bcf2bcf2acf2acf29cf28cf28cf27cf27cf26cf25cf25cf24cf24cf23cf22cf22cf21cf21cf20cf20cf1fcf1ecf1ecf1dcf1dcf1ccf1bcf1bcf1acf1acf19cf19cf18cf17cf17cf16cf16cf15cf14cf14cf13cf13cf12cf11cf11cf10cf10cf0fcf0fcf0ecf0dcf0dcf0ccf0ccf0bcf0acf0acf09cf09cf08cf08cf07cf06cf06cf05cf05cf04cf03cf03cf02cf02cf01cf00cf00ceffceffcefecefecefdcefccefccefbcefbcefacef9cef9cef8cef8cef7cef7cef6cef5cef5cef4cef4cef3cef2cef2cef1cef1cef0ceefceefceeeceeeceedceedceecceebceebceeaceeacee9cee8cee8cee7cee7cee6cee6cee5cee4cee4cee3cee3cee2cee1cee1cee0cee0cedfcedecedeceddceddcedccedccedbcedacedaced9ced9ced8ced7ced7ced6ced6ced5ced4ced4ced3ced3ced2ced2ced1ced0ced0cecfcecfcecececdcecdcecccecccecbcecacecacec9cec9cec8cec8cec7cec6cec6cec5cec5cec4cec3cec3cec2cec2cec1,
  0xcfeccfeccfebcfeacfeacfe9cfe9cfe8cfe8cfe7cfe6cfe6cfe5cfe5cfe4cfe3cfe3cfe2cfe2cfe1cfe1cfe0cfdfcfdfcfdecfdecfddcfdccfdccfdbcfdbcfdacfdacfd9cfd8cfd8cfd7cfd7cfd6cfd5cfd5cfd4cfd4cfd3cfd3cfd2cfd1cfd1cfd0cfd0cfcfcfcecfcecfcdcfcdcfcccfcccfcbcfcacfcacfc9cfc9cfc8cfc7cfc7cfc6cfc6cfc5cfc5cfc4cfc3cfc3cfc2cfc2cfc1cfc0cfc0cfbfcfbfcfbecfbecfbdcfbccfbccfbbcfbbcfbacfb9cfb9cfb8cfb8cfb7cfb7cfb6cfb5cfb5cfb4cfb4cfb3cfb2cfb2cfb1cfb1cfb0cfb0cfafcfaecfaecfadcfadcfaccfabcfabcfaacfaacfa9cfa9cfa8cfa7cfa7cfa6cfa6cfa5cfa4cfa4cfa3cfa3cfa2cfa1cfa1cfa0cfa0cf9fcf9fcf9ecf9dcf9dcf9ccf9ccf9bcf9acf9acf99cf99cf98cf98cf97cf96cf96cf95cf95cf94cf93cf93cf92cf92cf91cf91cf90cf8fcf8fcf8ecf8ecf8dcf8ccf8ccf8bcf8bcf8acf8acf89cf88cf88cf87cf87cf86cf85cf85cf84cf84cf83cf83cf82cf81cf81cf80cf80cf7fcf7ecf7ecf7dcf7dcf7ccf7bcf7bcf7acf7acf79cf79cf78cf77cf77cf76cf76cf75cf74cf74cf73cf73cf72cf72cf71cf70cf70cf6fcf6fcf6ecf6dcf6dcf6ccf6ccf6bcf6bcf6acf69cf69cf68cf68cf67cf66cf66cf65cf65cf64cf64cf63cf62cf62cf61cf61cf60cf5fcf5fcf5ecf5ecf5dcf5ccf5ccf5bcf5bcf5acf5acf59cf58cf58cf57,
  0xd081d081d080d080d07fd07ed07ed07dd07dd07cd07cd07bd07ad07ad079d079d078d077d077d076d076d075d075d074d073d073d072d072d071d070d070d06fd06fd06ed06ed06dd06cd06cd06bd06bd06ad069d069d068d068d067d067d066d065d065d064d064d063d063d062d061d061d060d060d05fd05ed05ed05dd05dd05cd05cd05bd05ad05ad059d059d058d057d057d056d056d055d055d054d053d053d052d052d051d050d050d04fd04fd04ed04ed04dd04cd04cd04bd04bd04ad049d049d048d048d047d047d046d045d045d044d044d043d042d042d041d041d040d040d03fd03ed03ed03dd03dd03cd03cd03bd03ad03ad039d039d038d037d037d036d036d035d035d034d033d033d032d032d031d030d030d02fd02fd02ed02ed02dd02cd02cd02bd02bd02ad029d029d028d028d027d027d026d025d025d024d024d023d022d022d021d021d020d020d01fd01ed01ed01dd01dd01cd01bd01bd01ad01ad019d019d018d017d017d016d016d015d014d014d013d013d012d012d011d010d010d00fd00fd00ed00dd00dd00cd00cd00bd00bd00ad009d009d008d008d007d006d006d005d005d004d004d003d002d002d001d001d000cfffcfffcffecffecffdcffdcffccffbcffbcffacffacff9cff8cff8cff7cff7cff6cff6cff5cff4cff4cff3cff3cff2cff1cff1cff0cff0cfefcfefcfeecfedcfed,
  0xd116d115d115d114d114d113d112d112d111d111d110d110d10fd10ed10ed10dd10dd10cd10cd10bd10ad10ad109d109d108d107d107d106d106d105d105d104d103d103d102d102d101d100d100d0ffd0ffd0fed0fed0fdd0fcd0fcd0fbd0fbd0fad0fad0f9d0f8d0f8d0f7d0f7d0f6d0f5d0f5d0f4d0f4d0f3d0f3d0f2d0f1d0f1d0f0d0f0d0efd0efd0eed0edd0edd0ecd0ecd0ebd0ead0ead0e9d0e9d0e8d0e8d0e7d0e6d0e6d0e5d0e5d0e4d0e3d0e3d0e2d0e2d0e1d0e1d0e0d0dfd0dfd0ded0ded0ddd0ddd0dcd0dbd0dbd0dad0dad0d9d0d8d0d8d0d7d0d7d0d6d0d6d0d5d0d4d0d4d0d3d0d3d0d2d0d2d0d1d0d0d0d0d0cfd0cfd0ced0cdd0cdd0ccd0ccd0cbd0cbd0cad0c9d0c9d0c8d0c8d0c7d0c6d0c6d0c5d0c5d0c4d0c4d0c3d0c2d0c2d0c1d0c1d0c0d0c0d0bfd0bed0bed0bdd0bdd0bcd0bbd0bbd0bad0bad0b9d0b9d0b8d0b7d0b7d0b6d0b6d0b5d0b4d0b4d0b3d0b3d0b2d0b2d0b1d0b0d0b0d0afd0afd0aed0aed0add0acd0acd0abd0abd0aad0a9d0a9d0a8d0a8d0a7d0a7d0a6d0a5d0a5d0a4d0a4d0a3d0a2d0a2d0a1d0a1d0a0d0a0d09fd09ed09ed09dd09dd09cd09bd09bd09ad09ad099d099d098d097d097d096d096d095d095d094d093d093d092d092d091d090d090d08fd08fd08ed08ed08dd08cd08cd08bd08bd08ad089d089d088d088d087d087d086d085d085d084d084d083d082d082,
  0xd1aad1a9d1a9d1a8d1a8d1a7d1a7d1a6d1a5d1a5d1a4d1a4d1a3d1a3d1a2d1a1d1a1d1a0d1a0d19fd19ed19ed19dd19dd19cd19cd19bd19ad19ad199d199d198d198d197d196d196d195d195d194d194d193d192d192d191d191d190d18fd18fd18ed18ed18dd18dd18cd18bd18bd18ad18ad189d189d188d187d187d186d186d185d184d184d183d183d182d182d181d180d180d17fd17fd17ed17ed17dd17cd17cd17bd17bd17ad17ad179d178d178d177d177d176d175d175d174d174d173d173d172d171d171d170d170d16fd16fd16ed16dd16dd16cd16cd16bd16ad16ad169d169d168d168d167d166d166d165d165d164d164d163d162d162d161d161d160d15fd15fd15ed15ed15dd15dd15cd15bd15bd15ad15ad159d159d158d157d157d156d156d155d154d154d153d153d152d152d151d150d150d14fd14fd14ed14ed14dd14cd14cd14bd14bd14ad149d149d148d148d147d147d146d145d145d144d144d143d143d142d141d141d140d140d13fd13ed13ed13dd13dd13cd13cd13bd13ad13ad139d139d138d138d137d136d136d135d135d134d133d133d132d132d131d131d130d12fd12fd12ed12ed12dd12dd12cd12bd12bd12ad12ad129d128d128d127d127d126d126d125d124d124d123d123d122d122d121d120d120d11fd11fd11ed11dd11dd11cd11cd11bd11bd11ad119d119d118d118d117d117,
  0xd23ed23dd23dd23cd23bd23bd23ad23ad239d238d238d237d237d236d236d235d234d234d233d233d232d232d231d230d230d22fd22fd22ed22ed22dd22cd22cd22bd22bd22ad22ad229d228d228d227d227d226d225d225d224d224d223d223d222d221d221d220d220d21fd21fd21ed21dd21dd21cd21cd21bd21bd21ad219d219d218d218d217d217d216d215d215d214d214d213d212d212d211d211d210d210d20fd20ed20ed20dd20dd20cd20cd20bd20ad20ad209d209d208d208d207d206d206d205d205d204d203d203d202d202d201d201d200d1ffd1ffd1fed1fed1fdd1fdd1fcd1fbd1fbd1fad1fad1f9d1f9d1f8d1f7d1f7d1f6d1f6d1f5d1f5d1f4d1f3d1f3d1f2d1f2d1f1d1f0d1f0d1efd1efd1eed1eed1edd1ecd1ecd1ebd1ebd1ead1ead1e9d1e8d1e8d1e7d1e7d1e6d1e6d1e5d1e4d1e4d1e3d1e3d1e2d1e1d1e1d1e0d1e0d1dfd1dfd1ded1ddd1ddd1dcd1dcd1dbd1dbd1dad1d9d1d9d1d8d1d8d1d7d1d7d1d6d1d5d1d5d1d4d1d4d1d3d1d2d1d2d1d1d1d1d1d0d1d0d1cfd1ced1ced1cdd1cdd1ccd1ccd1cbd1cad1cad1c9d1c9d1c8d1c7d1c7d1c6d1c6d1c5d1c5d1c4d1c3d1c3d1c2d1c2d1c1d1c1d1c0d1bfd1bfd1bed1bed1bdd1bdd1bcd1bbd1bbd1bad1bad1b9d1b8d1b8d1b7d1b7d1b6d1b6d1b5d1b4d1b4d1b3d1b3d1b2d1b2d1b1d1b0d1b0d1afd1afd1aed1aed1add1acd1acd1abd1ab,
  0xd2d1d2d0d2d0d2cfd2cfd2ced2cdd2cdd2ccd2ccd2cbd2cad2cad2c9d2c9d2c8d2c8d2c7d2c6d2c6d2c5d2c5d2c4d2c4d2c3d2c2d2c2d2c1d2c1d2c0d2c0d2bfd2bed2bed2bdd2bdd2bcd2bcd2bbd2bad2bad2b9d2b9d2b8d2b8d2b7d2b6d2b6d2b5d2b5d2b4d2b4d2b3d2b2d2b2d2b1d2b1d2b0d2b0d2afd2aed2aed2add2add2acd2abd2abd2aad2aad2a9d2a9d2a8d2a7d2a7d2a6d2a6d2a5d2a5d2a4d2a3d2a3d2a2d2a2d2a1d2a1d2a0d29fd29fd29ed29ed29dd29dd29cd29bd29bd29ad29ad299d299d298d297d297d296d296d295d295d294d293d293d292d292d291d290d290d28fd28fd28ed28ed28dd28cd28cd28bd28bd28ad28ad289d288d288d287d287d286d286d285d284d284d283d283d282d282d281d280d280d27fd27fd27ed27ed27dd27cd27cd27bd27bd27ad27ad279d278d278d277d277d276d275d275d274d274d273d273d272d271d271d270d270d26fd26fd26ed26dd26dd26cd26cd26bd26bd26ad269d269d268d268d267d267d266d265d265d264d264d263d263d262d261d261d260d260d25fd25ed25ed25dd25dd25cd25cd25bd25ad25ad259d259d258d258d257d256d256d255d255d254d254d253d252d252d251d251d250d250d24fd24ed24ed24dd24dd24cd24bd24bd24ad24ad249d249d248d247d247d246d246d245d245d244d243d243d242d242d241d241d240d23fd23fd23e,
  0xd363d363d362d362d361d361d360d35fd35fd35ed35ed35dd35dd35cd35bd35bd35ad35ad359d359d358d357d357d356d356d355d355d354d353d353d352d352d351d351d350d34fd34fd34ed34ed34dd34dd34cd34bd34bd34ad34ad349d349d348d347d347d346d346d345d345d344d343d343d342d342d341d341d340d33fd33fd33ed33ed33dd33dd33cd33bd33bd33ad33ad339d339d338d337d337d336d336d335d335d334d333d333d332d332d331d331d330d32fd32fd32ed32ed32dd32dd32cd32bd32bd32ad32ad329d329d328d327d327d326d326d325d325d324d323d323d322d322d321d321d320d31fd31fd31ed31ed31dd31cd31cd31bd31bd31ad31ad319d318d318d317d317d316d316d315d314d314d313d313d312d312d311d310d310d30fd30fd30ed30ed30dd30cd30cd30bd30bd30ad30ad309d308d308d307d307d306d306d305d304d304d303d303d302d302d301d300d300d2ffd2ffd2fed2fed2fdd2fcd2fcd2fbd2fbd2fad2fad2f9d2f8d2f8d2f7d2f7d2f6d2f6d2f5d2f4d2f4d2f3d2f3d2f2d2f2d2f1d2f0d2f0d2efd2efd2eed2edd2edd2ecd2ecd2ebd2ebd2ead2e9d2e9d2e8d2e8d2e7d2e7d2e6d2e5d2e5d2e4d2e4d2e3d2e3d2e2d2e1d2e1d2e0d2e0d2dfd2dfd2ded2ddd2ddd2dcd2dcd2dbd2dbd2dad2d9d2d9d2d8d2d8d2d7d2d7d2d6d2d5d2d5d2d4d2d4d2d3d2d3d2d2d2d1,
  0xd3f6d3f5d3f5d3f4d3f3d3f3d3f2d3f2d3f1d3f1d3f0d3efd3efd3eed3eed3edd3edd3ecd3ebd3ebd3ead3ead3e9d3e9d3e8d3e7d3e7d3e6d3e6d3e5d3e5d3e4d3e3d3e3d3e2d3e2d3e1d3e1d3e0d3dfd3dfd3ded3ded3ddd3ddd3dcd3dbd3dbd3dad3dad3d9d3d9d3d8d3d7d3d7d3d6d3d6d3d5d3d5d3d4d3d3d3d3d3d2d3d2d3d1d3d1d3d0d3cfd3cfd3ced3ced3cdd3cdd3ccd3cbd3cbd3cad3cad3c9d3c9d3c8d3c7d3c7d3c6d3c6d3c5d3c5d3c4d3c3d3c3d3c2d3c2d3c1d3c1d3c0d3bfd3bfd3bed3bed3bdd3bdd3bcd3bbd3bbd3bad3bad3b9d3b9d3b8d3b7d3b7d3b6d3b6d3b5d3b5d3b4d3b3d3b3d3b2d3b2d3b1d3b1d3b0d3afd3afd3aed3aed3add3add3acd3abd3abd3aad3aad3a9d3a9d3a8d3a7d3a7d3a6d3a6d3a5d3a5d3a4d3a3d3a3d3a2d3a2d3a1d3a1d3a0d39fd39fd39ed39ed39dd39dd39cd39bd39bd39ad39ad399d399d398d397d397d396d396d395d395d394d393d393d392d392d391d391d390d38fd38fd38ed38ed38dd38dd38cd38bd38bd38ad38ad389d389d388d387d387d386d386d385d385d384d383d383d382d382d381d381d380d37fd37fd37ed37ed37dd37dd37cd37bd37bd37ad37ad379d379d378d377d377d376d376d375d375d374d373d373d372d372d371d371d370d36fd36fd36ed36ed36dd36dd36cd36bd36bd36ad36ad369d369d368d367d367d366d366d365d365d364,
  0xd487d487d486d486d485d485d484d483d483d482d482d481d481d480d47fd47fd47ed47ed47dd47dd47cd47bd47bd47ad47ad479d479d478d477d477d476d476d475d475d474d473d473d472d472d471d471d470d46fd46fd46ed46ed46dd46dd46cd46cd46bd46ad46ad469d469d468d468d467d466d466d465d465d464d464d463d462d462d461d461d460d460d45fd45ed45ed45dd45dd45cd45cd45bd45ad45ad459d459d458d458d457d456d456d455d455d454d454d453d452d452d451d451d450d450d44fd44fd44ed44dd44dd44cd44cd44bd44bd44ad449d449d448d448d447d447d446d445d445d444d444d443d443d442d441d441d440d440d43fd43fd43ed43dd43dd43cd43cd43bd43bd43ad439d439d438d438d437d437d436d435d435d434d434d433d433d432d431d431d430d430d42fd42fd42ed42dd42dd42cd42cd42bd42bd42ad42ad429d428d428d427d427d426d426d425d424d424d423d423d422d422d421d420d420d41fd41fd41ed41ed41dd41cd41cd41bd41bd41ad41ad419d418d418d417d417d416d416d415d414d414d413d413d412d412d411d410d410d40fd40fd40ed40ed40dd40cd40cd40bd40bd40ad40ad409d408d408d407d407d406d406d405d404d404d403d403d402d402d401d400d400d3ffd3ffd3fed3fed3fdd3fcd3fcd3fbd3fbd3fad3fad3f9d3f9d3f8d3f7d3f7d3f6,
  0xd519d518d517d517d516d516d515d515d514d514d513d512d512d511d511d510d510d50fd50ed50ed50dd50dd50cd50cd50bd50ad50ad509d509d508d508d507d506d506d505d505d504d504d503d503d502d501d501d500d500d4ffd4ffd4fed4fdd4fdd4fcd4fcd4fbd4fbd4fad4f9d4f9d4f8d4f8d4f7d4f7d4f6d4f5d4f5d4f4d4f4d4f3d4f3d4f2d4f2d4f1d4f0d4f0d4efd4efd4eed4eed4edd4ecd4ecd4ebd4ebd4ead4ead4e9d4e8d4e8d4e7d4e7d4e6d4e6d4e5d4e4d4e4d4e3d4e3d4e2d4e2d4e1d4e0d4e0d4dfd4dfd4ded4ded4ddd4ddd4dcd4dbd4dbd4dad4dad4d9d4d9d4d8d4d7d4d7d4d6d4d6d4d5d4d5d4d4d4d3d4d3d4d2d4d2d4d1d4d1d4d0d4cfd4cfd4ced4ced4cdd4cdd4ccd4ccd4cbd4cad4cad4c9d4c9d4c8d4c8d4c7d4c6d4c6d4c5d4c5d4c4d4c4d4c3d4c2d4c2d4c1d4c1d4c0d4c0d4bfd4bed4bed4bdd4bdd4bcd4bcd4bbd4bad4bad4b9d4b9d4b8d4b8d4b7d4b7d4b6d4b5d4b5d4b4d4b4d4b3d4b3d4b2d4b1d4b1d4b0d4b0d4afd4afd4aed4add4add4acd4acd4abd4abd4aad4a9d4a9d4a8d4a8d4a7d4a7d4a6d4a5d4a5d4a4d4a4d4a3d4a3d4a2d4a1d4a1d4a0d4a0d49fd49fd49ed49ed49dd49cd49cd49bd49bd49ad49ad499d498d498d497d497d496d496d495d494d494d493d493d492d492d491d490d490d48fd48fd48ed48ed48dd48cd48cd48bd48bd48ad48ad489d488d488,
  0xd5a9d5a9d5a8d5a8d5a7d5a7d5a6d5a5d5a5d5a4d5a4d5a3d5a3d5a2d5a1d5a1d5a0d5a0d59fd59fd59ed59ed59dd59cd59cd59bd59bd59ad59ad599d598d598d597d597d596d596d595d594d594d593d593d592d592d591d591d590d58fd58fd58ed58ed58dd58dd58cd58bd58bd58ad58ad589d589d588d587d587d586d586d585d585d584d584d583d582d582d581d581d580d580d57fd57ed57ed57dd57dd57cd57cd57bd57bd57ad579d579d578d578d577d577d576d575d575d574d574d573d573d572d571d571d570d570d56fd56fd56ed56ed56dd56cd56cd56bd56bd56ad56ad569d568d568d567d567d566d566d565d564d564d563d563d562d562d561d560d560d55fd55fd55ed55ed55dd55dd55cd55bd55bd55ad55ad559d559d558d557d557d556d556d555d555d554d553d553d552d552d551d551d550d550d54fd54ed54ed54dd54dd54cd54cd54bd54ad54ad549d549d548d548d547d546d546d545d545d544d544d543d543d542d541d541d540d540d53fd53fd53ed53dd53dd53cd53cd53bd53bd53ad539d539d538d538d537d537d536d535d535d534d534d533d533d532d532d531d530d530d52fd52fd52ed52ed52dd52cd52cd52bd52bd52ad52ad529d528d528d527d527d526d526d525d525d524d523d523d522d522d521d521d520d51fd51fd51ed51ed51dd51dd51cd51bd51bd51ad51ad519,
  0xd63ad639d639d638d637d637d636d636d635d635d634d634d633d632d632d631d631d630d630d62fd62ed62ed62dd62dd62cd62cd62bd62bd62ad629d629d628d628d627d627d626d625d625d624d624d623d623d622d622d621d620d620d61fd61fd61ed61ed61dd61cd61cd61bd61bd61ad61ad619d618d618d617d617d616d616d615d615d614d613d613d612d612d611d611d610d60fd60fd60ed60ed60dd60dd60cd60cd60bd60ad60ad609d609d608d608d607d606d606d605d605d604d604d603d603d602d601d601d600d600d5ffd5ffd5fed5fdd5fdd5fcd5fcd5fbd5fbd5fad5fad5f9d5f8d5f8d5f7d5f7d5f6d5f6d5f5d5f4d5f4d5f3d5f3d5f2d5f2d5f1d5f0d5f0d5efd5efd5eed5eed5edd5edd5ecd5ebd5ebd5ead5ead5e9d5e9d5e8d5e7d5e7d5e6d5e6d5e5d5e5d5e4d5e4d5e3d5e2d5e2d5e1d5e1d5e0d5e0d5dfd5ded5ded5ddd5ddd5dcd5dcd5dbd5dad5dad5d9d5d9d5d8d5d8d5d7d5d7d5d6d5d5d5d5d5d4d5d4d5d3d5d3d5d2d5d1d5d1d5d0d5d0d5cfd5cfd5ced5ced5cdd5ccd5ccd5cbd5cbd5cad5cad5c9d5c8d5c8d5c7d5c7d5c6d5c6d5c5d5c4d5c4d5c3d5c3d5c2d5c2d5c1d5c1d5c0d5bfd5bfd5bed5bed5bdd5bdd5bcd5bbd5bbd5bad5bad5b9d5b9d5b8d5b8d5b7d5b6d5b6d5b5d5b5d5b4d5b4d5b3d5b2d5b2d5b1d5b1d5b0d5b0d5afd5aed5aed5add5add5acd5acd5abd5abd5aa,
  0xd6cad6c9d6c8d6c8d6c7d6c7d6c6d6c6d6c5d6c5d6c4d6c3d6c3d6c2d6c2d6c1d6c1d6c0d6bfd6bfd6bed6bed6bdd6bdd6bcd6bcd6bbd6bad6bad6b9d6b9d6b8d6b8d6b7d6b7d6b6d6b5d6b5d6b4d6b4d6b3d6b3d6b2d6b1d6b1d6b0d6b0d6afd6afd6aed6aed6add6acd6acd6abd6abd6aad6aad6a9d6a8d6a8d6a7d6a7d6a6d6a6d6a5d6a5d6a4d6a3d6a3d6a2d6a2d6a1d6a1d6a0d69fd69fd69ed69ed69dd69dd69cd69cd69bd69ad69ad699d699d698d698d697d696d696d695d695d694d694d693d693d692d691d691d690d690d68fd68fd68ed68ed68dd68cd68cd68bd68bd68ad68ad689d688d688d687d687d686d686d685d685d684d683d683d682d682d681d681d680d67fd67fd67ed67ed67dd67dd67cd67cd67bd67ad67ad679d679d678d678d677d676d676d675d675d674d674d673d673d672d671d671d670d670d66fd66fd66ed66dd66dd66cd66cd66bd66bd66ad66ad669d668d668d667d667d666d666d665d664d664d663d663d662d662d661d661d660d65fd65fd65ed65ed65dd65dd65cd65bd65bd65ad65ad659d659d658d658d657d656d656d655d655d654d654d653d652d652d651d651d650d650d64fd64fd64ed64dd64dd64cd64cd64bd64bd64ad649d649d648d648d647d647d646d646d645d644d644d643d643d642d642d641d640d640d63fd63fd63ed63ed63dd63dd63cd63bd63bd63a,
  0xd759d758d758d757d757d756d756d755d755d754d753d753d752d752d751d751d750d74fd74fd74ed74ed74dd74dd74cd74cd74bd74ad74ad749d749d748d748d747d747d746d745d745d744d744d743d743d742d742d741d740d740d73fd73fd73ed73ed73dd73cd73cd73bd73bd73ad73ad739d739d738d737d737d736d736d735d735d734d734d733d732d732d731d731d730d730d72fd72ed72ed72dd72dd72cd72cd72bd72bd72ad729d729d728d728d727d727d726d726d725d724d724d723d723d722d722d721d720d720d71fd71fd71ed71ed71dd71dd71cd71bd71bd71ad71ad719d719d718d718d717d716d716d715d715d714d714d713d712d712d711d711d710d710d70fd70fd70ed70dd70dd70cd70cd70bd70bd70ad70ad709d708d708d707d707d706d706d705d704d704d703d703d702d702d701d701d700d6ffd6ffd6fed6fed6fdd6fdd6fcd6fbd6fbd6fad6fad6f9d6f9d6f8d6f8d6f7d6f6d6f6d6f5d6f5d6f4d6f4d6f3d6f3d6f2d6f1d6f1d6f0d6f0d6efd6efd6eed6edd6edd6ecd6ecd6ebd6ebd6ead6ead6e9d6e8d6e8d6e7d6e7d6e6d6e6d6e5d6e5d6e4d6e3d6e3d6e2d6e2d6e1d6e1d6e0d6dfd6dfd6ded6ded6ddd6ddd6dcd6dcd6dbd6dad6dad6d9d6d9d6d8d6d8d6d7d6d6d6d6d6d5d6d5d6d4d6d4d6d3d6d3d6d2d6d1d6d1d6d0d6d0d6cfd6cfd6ced6ced6cdd6ccd6ccd6cbd6cbd6ca,
  0xd7e8d7e7d7e7d7e6d7e6d7e5d7e5d7e4d7e4d7e3d7e2d7e2d7e1d7e1d7e0d7e0d7dfd7ded7ded7ddd7ddd7dcd7dcd7dbd7dbd7dad7d9d7d9d7d8d7d8d7d7d7d7d7d6d7d6d7d5d7d4d7d4d7d3d7d3d7d2d7d2d7d1d7d1d7d0d7cfd7cfd7ced7ced7cdd7cdd7ccd7ccd7cbd7cad7cad7c9d7c9d7c8d7c8d7c7d7c7d7c6d7c5d7c5d7c4d7c4d7c3d7c3d7c2d7c1d7c1d7c0d7c0d7bfd7bfd7bed7bed7bdd7bcd7bcd7bbd7bbd7bad7bad7b9d7b9d7b8d7b7d7b7d7b6d7b6d7b5d7b5d7b4d7b4d7b3d7b2d7b2d7b1d7b1d7b0d7b0d7afd7afd7aed7add7add7acd7acd7abd7abd7aad7a9d7a9d7a8d7a8d7a7d7a7d7a6d7a6d7a5d7a4d7a4d7a3d7a3d7a2d7a2d7a1d7a1d7a0d79fd79fd79ed79ed79dd79dd79cd79cd79bd79ad79ad799d799d798d798d797d796d796d795d795d794d794d793d793d792d791d791d790d790d78fd78fd78ed78ed78dd78cd78cd78bd78bd78ad78ad789d789d788d787d787d786d786d785d785d784d783d783d782d782d781d781d780d780d77fd77ed77ed77dd77dd77cd77cd77bd77bd77ad779d779d778d778d777d777d776d776d775d774d774d773d773d772d772d771d770d770d76fd76fd76ed76ed76dd76dd76cd76bd76bd76ad76ad769d769d768d768d767d766d766d765d765d764d764d763d763d762d761d761d760d760d75fd75fd75ed75dd75dd75cd75cd75bd75bd75ad75a,
  0xd877d876d875d875d874d874d873d873d872d872d871d870d870d86fd86fd86ed86ed86dd86dd86cd86bd86bd86ad86ad869d869d868d867d867d866d866d865d865d864d864d863d862d862d861d861d860d860d85fd85fd85ed85dd85dd85cd85cd85bd85bd85ad85ad859d858d858d857d857d856d856d855d855d854d853d853d852d852d851d851d850d850d84fd84ed84ed84dd84dd84cd84cd84bd84bd84ad849d849d848d848d847d847d846d846d845d844d844d843d843d842d842d841d841d840d83fd83fd83ed83ed83dd83dd83cd83cd83bd83ad83ad839d839d838d838d837d837d836d835d835d834d834d833d833d832d832d831d830d830d82fd82fd82ed82ed82dd82dd82cd82bd82bd82ad82ad829d829d828d828d827d826d826d825d825d824d824d823d822d822d821d821d820d820d81fd81fd81ed81dd81dd81cd81cd81bd81bd81ad81ad819d818d818d817d817d816d816d815d815d814d813d813d812d812d811d811d810d810d80fd80ed80ed80dd80dd80cd80cd80bd80bd80ad809d809d808d808d807d807d806d806d805d804d804d803d803d802d802d801d801d800d7ffd7ffd7fed7fed7fdd7fdd7fcd7fbd7fbd7fad7fad7f9d7f9d7f8d7f8d7f7d7f6d7f6d7f5d7f5d7f4d7f4d7f3d7f3d7f2d7f1d7f1d7f0d7f0d7efd7efd7eed7eed7edd7ecd7ecd7ebd7ebd7ead7ead7e9d7e9,
  0xd905d904d903d903d902d902d901d901d900d900d8ffd8ffd8fed8fdd8fdd8fcd8fcd8fbd8fbd8fad8fad8f9d8f8d8f8d8f7d8f7d8f6d8f6d8f5d8f5d8f4d8f3d8f3d8f2d8f2d8f1d8f1d8f0d8f0d8efd8eed8eed8edd8edd8ecd8ecd8ebd8ebd8ead8e9d8e9d8e8d8e8d8e7d8e7d8e6d8e6d8e5d8e4d8e4d8e3d8e3d8e2d8e2d8e1d8e1d8e0d8dfd8dfd8ded8ded8ddd8ddd8dcd8dcd8dbd8dad8dad8d9d8d9d8d8d8d8d8d7d8d7d8d6d8d5d8d5d8d4d8d4d8d3d8d3d8d2d8d2d8d1d8d0d8d0d8cfd8cfd8ced8ced8cdd8cdd8ccd8cbd8cbd8cad8cad8c9d8c9d8c8d8c8d8c7d8c6d8c6d8c5d8c5d8c4d8c4d8c3d8c3d8c2d8c1d8c1d8c0d8c0d8bfd8bfd8bed8bed8bdd8bcd8bcd8bbd8bbd8bad8bad8b9d8b9d8b8d8b8d8b7d8b6d8b6d8b5d8b5d8b4d8b4d8b3d8b3d8b2d8b1d8b1d8b0d8b0d8afd8afd8aed8aed8add8acd8acd8abd8abd8aad8aad8a9d8a9d8a8d8a7d8a7d8a6d8a6d8a5d8a5d8a4d8a4d8a3d8a2d8a2d8a1d8a1d8a0d8a0d89fd89fd89ed89dd89dd89cd89cd89bd89bd89ad89ad899d898d898d897d897d896d896d895d895d894d893d893d892d892d891d891d890d890d88fd88ed88ed88dd88dd88cd88cd88bd88bd88ad889d889d888d888d887d887d886d886d885d884d884d883d883d882d882d881d881d880d87fd87fd87ed87ed87dd87dd87cd87cd87bd87ad87ad879d879d878d878d877,
  0xd992d992d991d991d990d98fd98fd98ed98ed98dd98dd98cd98cd98bd98bd98ad989d989d988d988d987d987d986d986d985d984d984d983d983d982d982d981d981d980d97fd97fd97ed97ed97dd97dd97cd97cd97bd97ad97ad979d979d978d978d977d977d976d976d975d974d974d973d973d972d972d971d971d970d96fd96fd96ed96ed96dd96dd96cd96cd96bd96ad96ad969d969d968d968d967d967d966d965d965d964d964d963d963d962d962d961d961d960d95fd95fd95ed95ed95dd95dd95cd95cd95bd95ad95ad959d959d958d958d957d957d956d955d955d954d954d953d953d952d952d951d950d950d94fd94fd94ed94ed94dd94dd94cd94bd94bd94ad94ad949d949d948d948d947d947d946d945d945d944d944d943d943d942d942d941d940d940d93fd93fd93ed93ed93dd93dd93cd93bd93bd93ad93ad939d939d938d938d937d936d936d935d935d934d934d933d933d932d931d931d930d930d92fd92fd92ed92ed92dd92cd92cd92bd92bd92ad92ad929d929d928d928d927d926d926d925d925d924d924d923d923d922d921d921d920d920d91fd91fd91ed91ed91dd91cd91cd91bd91bd91ad91ad919d919d918d917d917d916d916d915d915d914d914d913d912d912d911d911d910d910d90fd90fd90ed90dd90dd90cd90cd90bd90bd90ad90ad909d908d908d907d907d906d906d905,
  0xda1fda1fda1eda1eda1dda1dda1cda1cda1bda1bda1ada19da19da18da18da17da17da16da16da15da14da14da13da13da12da12da11da11da10da10da0fda0eda0eda0dda0dda0cda0cda0bda0bda0ada09da09da08da08da07da07da06da06da05da04da04da03da03da02da02da01da01da00da00d9ffd9fed9fed9fdd9fdd9fcd9fcd9fbd9fbd9fad9f9d9f9d9f8d9f8d9f7d9f7d9f6d9f6d9f5d9f4d9f4d9f3d9f3d9f2d9f2d9f1d9f1d9f0d9f0d9efd9eed9eed9edd9edd9ecd9ecd9ebd9ebd9ead9e9d9e9d9e8d9e8d9e7d9e7d9e6d9e6d9e5d9e5d9e4d9e3d9e3d9e2d9e2d9e1d9e1d9e0d9e0d9dfd9ded9ded9ddd9ddd9dcd9dcd9dbd9dbd9dad9d9d9d9d9d8d9d8d9d7d9d7d9d6d9d6d9d5d9d5d9d4d9d3d9d3d9d2d9d2d9d1d9d1d9d0d9d0d9cfd9ced9ced9cdd9cdd9ccd9ccd9cbd9cbd9cad9c9d9c9d9c8d9c8d9c7d9c7d9c6d9c6d9c5d9c5d9c4d9c3d9c3d9c2d9c2d9c1d9c1d9c0d9c0d9bfd9bed9bed9bdd9bdd9bcd9bcd9bbd9bbd9bad9b9d9b9d9b8d9b8d9b7d9b7d9b6d9b6d9b5d9b4d9b4d9b3d9b3d9b2d9b2d9b1d9b1d9b0d9b0d9afd9aed9aed9add9add9acd9acd9abd9abd9aad9a9d9a9d9a8d9a8d9a7d9a7d9a6d9a6d9a5d9a4d9a4d9a3d9a3d9a2d9a2d9a1d9a1d9a0d9a0d99fd99ed99ed99dd99dd99cd99cd99bd99bd99ad999d999d998d998d997d997d996d996d995d994d994d993d993,
  0xdaacdaacdaabdaabdaaadaaadaa9daa8daa8daa7daa7daa6daa6daa5daa5daa4daa3daa3daa2daa2daa1daa1daa0daa0da9fda9fda9eda9dda9dda9cda9cda9bda9bda9ada9ada99da99da98da97da97da96da96da95da95da94da94da93da92da92da91da91da90da90da8fda8fda8eda8eda8dda8cda8cda8bda8bda8ada8ada89da89da88da87da87da86da86da85da85da84da84da83da83da82da81da81da80da80da7fda7fda7eda7eda7dda7cda7cda7bda7bda7ada7ada79da79da78da78da77da76da76da75da75da74da74da73da73da72da71da71da70da70da6fda6fda6eda6eda6dda6dda6cda6bda6bda6ada6ada69da69da68da68da67da66da66da65da65da64da64da63da63da62da62da61da60da60da5fda5fda5eda5eda5dda5dda5cda5bda5bda5ada5ada59da59da58da58da57da57da56da55da55da54da54da53da53da52da52da51da50da50da4fda4fda4eda4eda4dda4dda4cda4cda4bda4ada4ada49da49da48da48da47da47da46da45da45da44da44da43da43da42da42da41da41da40da3fda3fda3eda3eda3dda3dda3cda3cda3bda3ada3ada39da39da38da38da37da37da36da36da35da34da34da33da33da32da32da31da31da30da2fda2fda2eda2eda2dda2dda2cda2cda2bda2ada2ada29da29da28da28da27da27da26da26da25da24da24da23da23da22da22da21da21da20,
  0xdb39db38db38db37db36db36db35db35db34db34db33db33db32db32db31db30db30db2fdb2fdb2edb2edb2ddb2ddb2cdb2cdb2bdb2adb2adb29db29db28db28db27db27db26db25db25db24db24db23db23db22db22db21db21db20db1fdb1fdb1edb1edb1ddb1ddb1cdb1cdb1bdb1bdb1adb19db19db18db18db17db17db16db16db15db15db14db13db13db12db12db11db11db10db10db0fdb0edb0edb0ddb0ddb0cdb0cdb0bdb0bdb0adb0adb09db08db08db07db07db06db06db05db05db04db04db03db02db02db01db01db00db00daffdaffdafedafddafddafcdafcdafbdafbdafadafadaf9daf9daf8daf7daf7daf6daf6daf5daf5daf4daf4daf3daf3daf2daf1daf1daf0daf0daefdaefdaeedaeedaeddaecdaecdaebdaebdaeadaeadae9dae9dae8dae8dae7dae6dae6dae5dae5dae4dae4dae3dae3dae2dae2dae1dae0dae0dadfdadfdadedadedadddadddadcdadbdadbdadadadadad9dad9dad8dad8dad7dad7dad6dad5dad5dad4dad4dad3dad3dad2dad2dad1dad1dad0dacfdacfdacedacedacddacddaccdaccdacbdacadacadac9dac9dac8dac8dac7dac7dac6dac6dac5dac4dac4dac3dac3dac2dac2dac1dac1dac0dabfdabfdabedabedabddabddabcdabcdabbdabbdabadab9dab9dab8dab8dab7dab7dab6dab6dab5dab5dab4dab3dab3dab2dab2dab1dab1dab0dab0daafdaaedaaedaaddaad,
  0xdbc5dbc4dbc4dbc3dbc2dbc2dbc1dbc1dbc0dbc0dbbfdbbfdbbedbbedbbddbbcdbbcdbbbdbbbdbbadbbadbb9dbb9dbb8dbb8dbb7dbb6dbb6dbb5dbb5dbb4dbb4dbb3dbb3dbb2dbb2dbb1dbb0dbb0dbafdbafdbaedbaedbaddbaddbacdbabdbabdbaadbaadba9dba9dba8dba8dba7dba7dba6dba5dba5dba4dba4dba3dba3dba2dba2dba1dba1dba0db9fdb9fdb9edb9edb9ddb9ddb9cdb9cdb9bdb9bdb9adb99db99db98db98db97db97db96db96db95db95db94db93db93db92db92db91db91db90db90db8fdb8fdb8edb8ddb8ddb8cdb8cdb8bdb8bdb8adb8adb89db89db88db87db87db86db86db85db85db84db84db83db83db82db81db81db80db80db7fdb7fdb7edb7edb7ddb7ddb7cdb7bdb7bdb7adb7adb79db79db78db78db77db76db76db75db75db74db74db73db73db72db72db71db70db70db6fdb6fdb6edb6edb6ddb6ddb6cdb6cdb6bdb6adb6adb69db69db68db68db67db67db66db66db65db64db64db63db63db62db62db61db61db60db60db5fdb5edb5edb5ddb5ddb5cdb5cdb5bdb5bdb5adb59db59db58db58db57db57db56db56db55db55db54db53db53db52db52db51db51db50db50db4fdb4fdb4edb4ddb4ddb4cdb4cdb4bdb4bdb4adb4adb49db49db48db47db47db46db46db45db45db44db44db43db43db42db41db41db40db40db3fdb3fdb3edb3edb3ddb3cdb3cdb3bdb3bdb3adb3adb39,
  0xdc50dc50dc4fdc4fdc4edc4ddc4ddc4cdc4cdc4bdc4bdc4adc4adc49dc49dc48dc47dc47dc46dc46dc45dc45dc44dc44dc43dc43dc42dc41dc41dc40dc40dc3fdc3fdc3edc3edc3ddc3ddc3cdc3bdc3bdc3adc3adc39dc39dc38dc38dc37dc37dc36dc35dc35dc34dc34dc33dc33dc32dc32dc31dc31dc30dc2fdc2fdc2edc2edc2ddc2ddc2cdc2cdc2bdc2bdc2adc29dc29dc28dc28dc27dc27dc26dc26dc25dc25dc24dc24dc23dc22dc22dc21dc21dc20dc20dc1fdc1fdc1edc1edc1ddc1cdc1cdc1bdc1bdc1adc1adc19dc19dc18dc18dc17dc16dc16dc15dc15dc14dc14dc13dc13dc12dc12dc11dc10dc10dc0fdc0fdc0edc0edc0ddc0ddc0cdc0cdc0bdc0adc0adc09dc09dc08dc08dc07dc07dc06dc06dc05dc04dc04dc03dc03dc02dc02dc01dc01dc00dc00dbffdbfedbfedbfddbfddbfcdbfcdbfbdbfbdbfadbfadbf9dbf8dbf8dbf7dbf7dbf6dbf6dbf5dbf5dbf4dbf4dbf3dbf2dbf2dbf1dbf1dbf0dbf0dbefdbefdbeedbeedbeddbecdbecdbebdbebdbeadbeadbe9dbe9dbe8dbe8dbe7dbe6dbe6dbe5dbe5dbe4dbe4dbe3dbe3dbe2dbe2dbe1dbe0dbe0dbdfdbdfdbdedbdedbdddbdddbdcdbdcdbdbdbdadbdadbd9dbd9dbd8dbd8dbd7dbd7dbd6dbd6dbd5dbd4dbd4dbd3dbd3dbd2dbd2dbd1dbd1dbd0dbd0dbcfdbcedbcedbcddbcddbccdbccdbcbdbcbdbcadbcadbc9dbc8dbc8dbc7dbc7dbc6dbc6dbc5,
  0xdcdbdcdbdcdadcdadcd9dcd9dcd8dcd7dcd7dcd6dcd6dcd5dcd5dcd4dcd4dcd3dcd3dcd2dcd2dcd1dcd0dcd0dccfdccfdccedccedccddccddcccdcccdccbdccadccadcc9dcc9dcc8dcc8dcc7dcc7dcc6dcc6dcc5dcc4dcc4dcc3dcc3dcc2dcc2dcc1dcc1dcc0dcc0dcbfdcbfdcbedcbddcbddcbcdcbcdcbbdcbbdcbadcbadcb9dcb9dcb8dcb7dcb7dcb6dcb6dcb5dcb5dcb4dcb4dcb3dcb3dcb2dcb1dcb1dcb0dcb0dcafdcafdcaedcaedcaddcaddcacdcabdcabdcaadcaadca9dca9dca8dca8dca7dca7dca6dca6dca5dca4dca4dca3dca3dca2dca2dca1dca1dca0dca0dc9fdc9edc9edc9ddc9ddc9cdc9cdc9bdc9bdc9adc9adc99dc98dc98dc97dc97dc96dc96dc95dc95dc94dc94dc93dc93dc92dc91dc91dc90dc90dc8fdc8fdc8edc8edc8ddc8ddc8cdc8bdc8bdc8adc8adc89dc89dc88dc88dc87dc87dc86dc85dc85dc84dc84dc83dc83dc82dc82dc81dc81dc80dc7fdc7fdc7edc7edc7ddc7ddc7cdc7cdc7bdc7bdc7adc79dc79dc78dc78dc77dc77dc76dc76dc75dc75dc74dc74dc73dc72dc72dc71dc71dc70dc70dc6fdc6fdc6edc6edc6ddc6cdc6cdc6bdc6bdc6adc6adc69dc69dc68dc68dc67dc66dc66dc65dc65dc64dc64dc63dc63dc62dc62dc61dc60dc60dc5fdc5fdc5edc5edc5ddc5ddc5cdc5cdc5bdc5adc5adc59dc59dc58dc58dc57dc57dc56dc56dc55dc55dc54dc53dc53dc52dc52dc51dc51,
  0xdd66dd65dd65dd64dd64dd63dd63dd62dd62dd61dd61dd60dd5fdd5fdd5edd5edd5ddd5ddd5cdd5cdd5bdd5bdd5add5add59dd58dd58dd57dd57dd56dd56dd55dd55dd54dd54dd53dd53dd52dd51dd51dd50dd50dd4fdd4fdd4edd4edd4ddd4ddd4cdd4bdd4bdd4add4add49dd49dd48dd48dd47dd47dd46dd46dd45dd44dd44dd43dd43dd42dd42dd41dd41dd40dd40dd3fdd3edd3edd3ddd3ddd3cdd3cdd3bdd3bdd3add3add39dd39dd38dd37dd37dd36dd36dd35dd35dd34dd34dd33dd33dd32dd31dd31dd30dd30dd2fdd2fdd2edd2edd2ddd2ddd2cdd2cdd2bdd2add2add29dd29dd28dd28dd27dd27dd26dd26dd25dd24dd24dd23dd23dd22dd22dd21dd21dd20dd20dd1fdd1fdd1edd1ddd1ddd1cdd1cdd1bdd1bdd1add1add19dd19dd18dd17dd17dd16dd16dd15dd15dd14dd14dd13dd13dd12dd12dd11dd10dd10dd0fdd0fdd0edd0edd0ddd0ddd0cdd0cdd0bdd0add0add09dd09dd08dd08dd07dd07dd06dd06dd05dd04dd04dd03dd03dd02dd02dd01dd01dd00dd00dcffdcffdcfedcfddcfddcfcdcfcdcfbdcfbdcfadcfadcf9dcf9dcf8dcf7dcf7dcf6dcf6dcf5dcf5dcf4dcf4dcf3dcf3dcf2dcf2dcf1dcf0dcf0dcefdcefdceedceedceddceddcecdcecdcebdceadceadce9dce9dce8dce8dce7dce7dce6dce6dce5dce4dce4dce3dce3dce2dce2dce1dce1dce0dce0dcdfdcdfdcdedcdddcdddcdcdcdc,
  0xddf0ddf0ddefddefddeeddeeddedddedddecddebddebddeaddeadde9dde9dde8dde8dde7dde7dde6dde6dde5dde4dde4dde3dde3dde2dde2dde1dde1dde0dde0dddfdddedddedddddddddddcdddcdddbdddbdddadddaddd9ddd9ddd8ddd7ddd7ddd6ddd6ddd5ddd5ddd4ddd4ddd3ddd3ddd2ddd2ddd1ddd0ddd0ddcfddcfddceddceddcdddcdddccddccddcbddcbddcaddc9ddc9ddc8ddc8ddc7ddc7ddc6ddc6ddc5ddc5ddc4ddc4ddc3ddc2ddc2ddc1ddc1ddc0ddc0ddbfddbfddbeddbeddbdddbcddbcddbbddbbddbaddbaddb9ddb9ddb8ddb8ddb7ddb7ddb6ddb5ddb5ddb4ddb4ddb3ddb3ddb2ddb2ddb1ddb1ddb0ddb0ddafddaeddaeddadddadddacddacddabddabddaaddaadda9dda8dda8dda7dda7dda6dda6dda5dda5dda4dda4dda3dda3dda2dda1dda1dda0dda0dd9fdd9fdd9edd9edd9ddd9ddd9cdd9cdd9bdd9add9add99dd99dd98dd98dd97dd97dd96dd96dd95dd94dd94dd93dd93dd92dd92dd91dd91dd90dd90dd8fdd8fdd8edd8ddd8ddd8cdd8cdd8bdd8bdd8add8add89dd89dd88dd88dd87dd86dd86dd85dd85dd84dd84dd83dd83dd82dd82dd81dd80dd80dd7fdd7fdd7edd7edd7ddd7ddd7cdd7cdd7bdd7bdd7add79dd79dd78dd78dd77dd77dd76dd76dd75dd75dd74dd74dd73dd72dd72dd71dd71dd70dd70dd6fdd6fdd6edd6edd6ddd6cdd6cdd6bdd6bdd6add6add69dd69dd68dd68dd67dd67,
  0xde7ade7ade79de79de78de78de77de76de76de75de75de74de74de73de73de72de72de71de71de70de6fde6fde6ede6ede6dde6dde6cde6cde6bde6bde6ade6ade69de68de68de67de67de66de66de65de65de64de64de63de63de62de61de61de60de60de5fde5fde5ede5ede5dde5dde5cde5cde5bde5ade5ade59de59de58de58de57de57de56de56de55de55de54de53de53de52de52de51de51de50de50de4fde4fde4ede4ede4dde4cde4cde4bde4bde4ade4ade49de49de48de48de47de47de46de45de45de44de44de43de43de42de42de41de41de40de40de3fde3ede3ede3dde3dde3cde3cde3bde3bde3ade3ade39de39de38de37de37de36de36de35de35de34de34de33de33de32de32de31de30de30de2fde2fde2ede2ede2dde2dde2cde2cde2bde2bde2ade29de29de28de28de27de27de26de26de25de25de24de24de23de22de22de21de21de20de20de1fde1fde1ede1ede1dde1dde1cde1bde1bde1ade1ade19de19de18de18de17de17de16de16de15de14de14de13de13de12de12de11de11de10de10de0fde0fde0ede0dde0dde0cde0cde0bde0bde0ade0ade09de09de08de07de07de06de06de05de05de04de04de03de03de02de02de01de00de00ddffddffddfeddfeddfdddfdddfcddfcddfbddfbddfaddf9ddf9ddf8ddf8ddf7ddf7ddf6ddf6ddf5ddf5ddf4ddf4ddf3ddf2ddf2ddf1ddf1,
  0xdf04df03df03df02df02df01df00df00deffdeffdefedefedefddefddefcdefcdefbdefbdefadefadef9def8def8def7def7def6def6def5def5def4def4def3def3def2def1def1def0def0deefdeefdeeedeeedeeddeeddeecdeecdeebdeeadeeadee9dee9dee8dee8dee7dee7dee6dee6dee5dee5dee4dee4dee3dee2dee2dee1dee1dee0dee0dedfdedfdedededededddedddedcdedbdedbdedadedaded9ded9ded8ded8ded7ded7ded6ded6ded5ded4ded4ded3ded3ded2ded2ded1ded1ded0ded0decfdecfdecedecedecddeccdeccdecbdecbdecadecadec9dec9dec8dec8dec7dec7dec6dec5dec5dec4dec4dec3dec3dec2dec2dec1dec1dec0dec0debfdebedebedebddebddebcdebcdebbdebbdebadebadeb9deb9deb8deb7deb7deb6deb6deb5deb5deb4deb4deb3deb3deb2deb2deb1deb1deb0deafdeafdeaedeaedeaddeaddeacdeacdeabdeabdeaadeaadea9dea8dea8dea7dea7dea6dea6dea5dea5dea4dea4dea3dea3dea2dea1dea1dea0dea0de9fde9fde9ede9ede9dde9dde9cde9cde9bde9ade9ade99de99de98de98de97de97de96de96de95de95de94de93de93de92de92de91de91de90de90de8fde8fde8ede8ede8dde8cde8cde8bde8bde8ade8ade89de89de88de88de87de87de86de86de85de84de84de83de83de82de82de81de81de80de80de7fde7fde7ede7dde7dde7cde7cde7bde7b,
  0xdf8ddf8cdf8cdf8bdf8bdf8adf8adf89df89df88df87df87df86df86df85df85df84df84df83df83df82df82df81df81df80df7fdf7fdf7edf7edf7ddf7ddf7cdf7cdf7bdf7bdf7adf7adf79df79df78df77df77df76df76df75df75df74df74df73df73df72df72df71df70df70df6fdf6fdf6edf6edf6ddf6ddf6cdf6cdf6bdf6bdf6adf6adf69df68df68df67df67df66df66df65df65df64df64df63df63df62df61df61df60df60df5fdf5fdf5edf5edf5ddf5ddf5cdf5cdf5bdf5bdf5adf59df59df58df58df57df57df56df56df55df55df54df54df53df52df52df51df51df50df50df4fdf4fdf4edf4edf4ddf4ddf4cdf4cdf4bdf4adf4adf49df49df48df48df47df47df46df46df45df45df44df43df43df42df42df41df41df40df40df3fdf3fdf3edf3edf3ddf3ddf3cdf3bdf3bdf3adf3adf39df39df38df38df37df37df36df36df35df34df34df33df33df32df32df31df31df30df30df2fdf2fdf2edf2edf2ddf2cdf2cdf2bdf2bdf2adf2adf29df29df28df28df27df27df26df25df25df24df24df23df23df22df22df21df21df20df20df1fdf1fdf1edf1ddf1ddf1cdf1cdf1bdf1bdf1adf1adf19df19df18df18df17df16df16df15df15df14df14df13df13df12df12df11df11df10df10df0fdf0edf0edf0ddf0ddf0cdf0cdf0bdf0bdf0adf0adf09df09df08df07df07df06df06df05df05df04,
  0xe016e015e014e014e013e013e012e012e011e011e010e010e00fe00fe00ee00ee00de00ce00ce00be00be00ae00ae009e009e008e008e007e007e006e006e005e004e004e003e003e002e002e001e001e000e000dfffdfffdffedffedffddffcdffcdffbdffbdffadffadff9dff9dff8dff8dff7dff7dff6dff6dff5dff4dff4dff3dff3dff2dff2dff1dff1dff0dff0dfefdfefdfeedfeedfeddfecdfecdfebdfebdfeadfeadfe9dfe9dfe8dfe8dfe7dfe7dfe6dfe6dfe5dfe4dfe4dfe3dfe3dfe2dfe2dfe1dfe1dfe0dfe0dfdfdfdfdfdedfdedfdddfdcdfdcdfdbdfdbdfdadfdadfd9dfd9dfd8dfd8dfd7dfd7dfd6dfd6dfd5dfd4dfd4dfd3dfd3dfd2dfd2dfd1dfd1dfd0dfd0dfcfdfcfdfcedfcddfcddfccdfccdfcbdfcbdfcadfcadfc9dfc9dfc8dfc8dfc7dfc7dfc6dfc5dfc5dfc4dfc4dfc3dfc3dfc2dfc2dfc1dfc1dfc0dfc0dfbfdfbfdfbedfbddfbddfbcdfbcdfbbdfbbdfbadfbadfb9dfb9dfb8dfb8dfb7dfb7dfb6dfb5dfb5dfb4dfb4dfb3dfb3dfb2dfb2dfb1dfb1dfb0dfb0dfafdfafdfaedfaddfaddfacdfacdfabdfabdfaadfaadfa9dfa9dfa8dfa8dfa7dfa6dfa6dfa5dfa5dfa4dfa4dfa3dfa3dfa2dfa2dfa1dfa1dfa0dfa0df9fdf9edf9edf9ddf9ddf9cdf9cdf9bdf9bdf9adf9adf99df99df98df98df97df96df96df95df95df94df94df93df93df92df92df91df91df90df8fdf8fdf8edf8edf8d,
  0xe09ee09de09de09ce09ce09be09be09ae09ae099e099e098e097e097e096e096e095e095e094e094e093e093e092e092e091e091e090e090e08fe08ee08ee08de08de08ce08ce08be08be08ae08ae089e089e088e088e087e086e086e085e085e084e084e083e083e082e082e081e081e080e080e07fe07ee07ee07de07de07ce07ce07be07be07ae07ae079e079e078e078e077e077e076e075e075e074e074e073e073e072e072e071e071e070e070e06fe06fe06ee06de06de06ce06ce06be06be06ae06ae069e069e068e068e067e067e066e065e065e064e064e063e063e062e062e061e061e060e060e05fe05fe05ee05de05de05ce05ce05be05be05ae05ae059e059e058e058e057e057e056e055e055e054e054e053e053e052e052e051e051e050e050e04fe04fe04ee04ee04de04ce04ce04be04be04ae04ae049e049e048e048e047e047e046e046e045e044e044e043e043e042e042e041e041e040e040e03fe03fe03ee03ee03de03ce03ce03be03be03ae03ae039e039e038e038e037e037e036e036e035e034e034e033e033e032e032e031e031e030e030e02fe02fe02ee02ee02de02ce02ce02be02be02ae02ae029e029e028e028e027e027e026e026e025e024e024e023e023e022e022e021e021e020e020e01fe01fe01ee01ee01de01ce01ce01be01be01ae01ae019e019e018e018e017e017e016,
  0xe126e125e125e124e124e123e123e122e122e121e121e120e11fe11fe11ee11ee11de11de11ce11ce11be11be11ae11ae119e119e118e117e117e116e116e115e115e114e114e113e113e112e112e111e111e110e110e10fe10ee10ee10de10de10ce10ce10be10be10ae10ae109e109e108e108e107e107e106e105e105e104e104e103e103e102e102e101e101e100e100e0ffe0ffe0fee0fde0fde0fce0fce0fbe0fbe0fae0fae0f9e0f9e0f8e0f8e0f7e0f7e0f6e0f6e0f5e0f4e0f4e0f3e0f3e0f2e0f2e0f1e0f1e0f0e0f0e0efe0efe0eee0eee0ede0ede0ece0ebe0ebe0eae0eae0e9e0e9e0e8e0e8e0e7e0e7e0e6e0e6e0e5e0e5e0e4e0e3e0e3e0e2e0e2e0e1e0e1e0e0e0e0e0dfe0dfe0dee0dee0dde0dde0dce0dce0dbe0dae0dae0d9e0d9e0d8e0d8e0d7e0d7e0d6e0d6e0d5e0d5e0d4e0d4e0d3e0d2e0d2e0d1e0d1e0d0e0d0e0cfe0cfe0cee0cee0cde0cde0cce0cce0cbe0cbe0cae0c9e0c9e0c8e0c8e0c7e0c7e0c6e0c6e0c5e0c5e0c4e0c4e0c3e0c3e0c2e0c1e0c1e0c0e0c0e0bfe0bfe0bee0bee0bde0bde0bce0bce0bbe0bbe0bae0bae0b9e0b8e0b8e0b7e0b7e0b6e0b6e0b5e0b5e0b4e0b4e0b3e0b3e0b2e0b2e0b1e0b0e0b0e0afe0afe0aee0aee0ade0ade0ace0ace0abe0abe0aae0aae0a9e0a9e0a8e0a7e0a7e0a6e0a6e0a5e0a5e0a4e0a4e0a3e0a3e0a2e0a2e0a1e0a1e0a0e09fe09fe09e,
  0xe1ade1ade1ace1ace1abe1abe1aae1aae1a9e1a9e1a8e1a8e1a7e1a6e1a6e1a5e1a5e1a4e1a4e1a3e1a3e1a2e1a2e1a1e1a1e1a0e1a0e19fe19fe19ee19ee19de19ce19ce19be19be19ae19ae199e199e198e198e197e197e196e196e195e195e194e193e193e192e192e191e191e190e190e18fe18fe18ee18ee18de18de18ce18ce18be18ae18ae189e189e188e188e187e187e186e186e185e185e184e184e183e183e182e181e181e180e180e17fe17fe17ee17ee17de17de17ce17ce17be17be17ae17ae179e178e178e177e177e176e176e175e175e174e174e173e173e172e172e171e171e170e16fe16fe16ee16ee16de16de16ce16ce16be16be16ae16ae169e169e168e168e167e166e166e165e165e164e164e163e163e162e162e161e161e160e160e15fe15fe15ee15de15de15ce15ce15be15be15ae15ae159e159e158e158e157e157e156e156e155e154e154e153e153e152e152e151e151e150e150e14fe14fe14ee14ee14de14de14ce14be14be14ae14ae149e149e148e148e147e147e146e146e145e145e144e143e143e142e142e141e141e140e140e13fe13fe13ee13ee13de13de13ce13ce13be13ae13ae139e139e138e138e137e137e136e136e135e135e134e134e133e133e132e131e131e130e130e12fe12fe12ee12ee12de12de12ce12ce12be12be12ae12ae129e128e128e127e127e126,
  0xe235e234e233e233e232e232e231e231e230e230e22fe22fe22ee22ee22de22de22ce22ce22be22be22ae229e229e228e228e227e227e226e226e225e225e224e224e223e223e222e222e221e221e220e21fe21fe21ee21ee21de21de21ce21ce21be21be21ae21ae219e219e218e218e217e216e216e215e215e214e214e213e213e212e212e211e211e210e210e20fe20fe20ee20ee20de20ce20ce20be20be20ae20ae209e209e208e208e207e207e206e206e205e205e204e203e203e202e202e201e201e200e200e1ffe1ffe1fee1fee1fde1fde1fce1fce1fbe1fbe1fae1f9e1f9e1f8e1f8e1f7e1f7e1f6e1f6e1f5e1f5e1f4e1f4e1f3e1f3e1f2e1f2e1f1e1f0e1f0e1efe1efe1eee1eee1ede1ede1ece1ece1ebe1ebe1eae1eae1e9e1e9e1e8e1e7e1e7e1e6e1e6e1e5e1e5e1e4e1e4e1e3e1e3e1e2e1e2e1e1e1e1e1e0e1e0e1dfe1dfe1dee1dde1dde1dce1dce1dbe1dbe1dae1dae1d9e1d9e1d8e1d8e1d7e1d7e1d6e1d6e1d5e1d4e1d4e1d3e1d3e1d2e1d2e1d1e1d1e1d0e1d0e1cfe1cfe1cee1cee1cde1cde1cce1cce1cbe1cae1cae1c9e1c9e1c8e1c8e1c7e1c7e1c6e1c6e1c5e1c5e1c4e1c4e1c3e1c3e1c2e1c1e1c1e1c0e1c0e1bfe1bfe1bee1bee1bde1bde1bce1bce1bbe1bbe1bae1bae1b9e1b8e1b8e1b7e1b7e1b6e1b6e1b5e1b5e1b4e1b4e1b3e1b3e1b2e1b2e1b1e1b1e1b0e1afe1afe1aee1ae,
  0xe2bbe2bbe2bae2bae2b9e2b9e2b8e2b8e2b7e2b7e2b6e2b6e2b5e2b5e2b4e2b3e2b3e2b2e2b2e2b1e2b1e2b0e2b0e2afe2afe2aee2aee2ade2ade2ace2ace2abe2abe2aae2a9e2a9e2a8e2a8e2a7e2a7e2a6e2a6e2a5e2a5e2a4e2a4e2a3e2a3e2a2e2a2e2a1e2a1e2a0e29fe29fe29ee29ee29de29de29ce29ce29be29be29ae29ae299e299e298e298e297e297e296e295e295e294e294e293e293e292e292e291e291e290e290e28fe28fe28ee28ee28de28de28ce28be28be28ae28ae289e289e288e288e287e287e286e286e285e285e284e284e283e283e282e281e281e280e280e27fe27fe27ee27ee27de27de27ce27ce27be27be27ae27ae279e279e278e277e277e276e276e275e275e274e274e273e273e272e272e271e271e270e270e26fe26fe26ee26de26de26ce26ce26be26be26ae26ae269e269e268e268e267e267e266e266e265e265e264e263e263e262e262e261e261e260e260e25fe25fe25ee25ee25de25de25ce25ce25be25ae25ae259e259e258e258e257e257e256e256e255e255e254e254e253e253e252e252e251e250e250e24fe24fe24ee24ee24de24de24ce24ce24be24be24ae24ae249e249e248e248e247e246e246e245e245e244e244e243e243e242e242e241e241e240e240e23fe23fe23ee23ee23de23ce23ce23be23be23ae23ae239e239e238e238e237e237e236e236e235,
  0xe342e341e341e340e340e33fe33fe33ee33ee33de33de33ce33be33be33ae33ae339e339e338e338e337e337e336e336e335e335e334e334e333e333e332e332e331e330e330e32fe32fe32ee32ee32de32de32ce32ce32be32be32ae32ae329e329e328e328e327e326e326e325e325e324e324e323e323e322e322e321e321e320e320e31fe31fe31ee31ee31de31de31ce31be31be31ae31ae319e319e318e318e317e317e316e316e315e315e314e314e313e313e312e312e311e310e310e30fe30fe30ee30ee30de30de30ce30ce30be30be30ae30ae309e309e308e308e307e306e306e305e305e304e304e303e303e302e302e301e301e300e300e2ffe2ffe2fee2fee2fde2fde2fce2fbe2fbe2fae2fae2f9e2f9e2f8e2f8e2f7e2f7e2f6e2f6e2f5e2f5e2f4e2f4e2f3e2f3e2f2e2f1e2f1e2f0e2f0e2efe2efe2eee2eee2ede2ede2ece2ece2ebe2ebe2eae2eae2e9e2e9e2e8e2e7e2e7e2e6e2e6e2e5e2e5e2e4e2e4e2e3e2e3e2e2e2e2e2e1e2e1e2e0e2e0e2dfe2dfe2dee2dee2dde2dce2dce2dbe2dbe2dae2dae2d9e2d9e2d8e2d8e2d7e2d7e2d6e2d6e2d5e2d5e2d4e2d4e2d3e2d2e2d2e2d1e2d1e2d0e2d0e2cfe2cfe2cee2cee2cde2cde2cce2cce2cbe2cbe2cae2cae2c9e2c8e2c8e2c7e2c7e2c6e2c6e2c5e2c5e2c4e2c4e2c3e2c3e2c2e2c2e2c1e2c1e2c0e2c0e2bfe2bfe2bee2bde2bde2bce2bc,
  0xe3c8e3c7e3c7e3c6e3c6e3c5e3c5e3c4e3c4e3c3e3c3e3c2e3c2e3c1e3c1e3c0e3bfe3bfe3bee3bee3bde3bde3bce3bce3bbe3bbe3bae3bae3b9e3b9e3b8e3b8e3b7e3b7e3b6e3b6e3b5e3b4e3b4e3b3e3b3e3b2e3b2e3b1e3b1e3b0e3b0e3afe3afe3aee3aee3ade3ade3ace3ace3abe3abe3aae3a9e3a9e3a8e3a8e3a7e3a7e3a6e3a6e3a5e3a5e3a4e3a4e3a3e3a3e3a2e3a2e3a1e3a1e3a0e3a0e39fe39ee39ee39de39de39ce39ce39be39be39ae39ae399e399e398e398e397e397e396e396e395e395e394e394e393e392e392e391e391e390e390e38fe38fe38ee38ee38de38de38ce38ce38be38be38ae38ae389e389e388e387e387e386e386e385e385e384e384e383e383e382e382e381e381e380e380e37fe37fe37ee37ee37de37ce37ce37be37be37ae37ae379e379e378e378e377e377e376e376e375e375e374e374e373e373e372e371e371e370e370e36fe36fe36ee36ee36de36de36ce36ce36be36be36ae36ae369e369e368e368e367e366e366e365e365e364e364e363e363e362e362e361e361e360e360e35fe35fe35ee35ee35de35de35ce35be35be35ae35ae359e359e358e358e357e357e356e356e355e355e354e354e353e353e352e352e351e350e350e34fe34fe34ee34ee34de34de34ce34ce34be34be34ae34ae349e349e348e348e347e346e346e345e345e344e344e343e343e342,
  0xe44ee44de44ce44ce44be44be44ae44ae449e449e448e448e447e447e446e446e445e445e444e444e443e443e442e442e441e440e440e43fe43fe43ee43ee43de43de43ce43ce43be43be43ae43ae439e439e438e438e437e437e436e436e435e434e434e433e433e432e432e431e431e430e430e42fe42fe42ee42ee42de42de42ce42ce42be42be42ae42ae429e428e428e427e427e426e426e425e425e424e424e423e423e422e422e421e421e420e420e41fe41fe41ee41ee41de41ce41ce41be41be41ae41ae419e419e418e418e417e417e416e416e415e415e414e414e413e413e412e412e411e410e410e40fe40fe40ee40ee40de40de40ce40ce40be40be40ae40ae409e409e408e408e407e407e406e405e405e404e404e403e403e402e402e401e401e400e400e3ffe3ffe3fee3fee3fde3fde3fce3fce3fbe3fbe3fae3f9e3f9e3f8e3f8e3f7e3f7e3f6e3f6e3f5e3f5e3f4e3f4e3f3e3f3e3f2e3f2e3f1e3f1e3f0e3f0e3efe3efe3eee3ede3ede3ece3ece3ebe3ebe3eae3eae3e9e3e9e3e8e3e8e3e7e3e7e3e6e3e6e3e5e3e5e3e4e3e4e3e3e3e2e3e2e3e1e3e1e3e0e3e0e3dfe3dfe3dee3dee3dde3dde3dce3dce3dbe3dbe3dae3dae3d9e3d9e3d8e3d8e3d7e3d6e3d6e3d5e3d5e3d4e3d4e3d3e3d3e3d2e3d2e3d1e3d1e3d0e3d0e3cfe3cfe3cee3cee3cde3cde3cce3cbe3cbe3cae3cae3c9e3c9e3c8,
  0xe4d3e4d2e4d2e4d1e4d1e4d0e4d0e4cfe4cfe4cee4cee4cde4cde4cce4cce4cbe4cbe4cae4c9e4c9e4c8e4c8e4c7e4c7e4c6e4c6e4c5e4c5e4c4e4c4e4c3e4c3e4c2e4c2e4c1e4c1e4c0e4c0e4bfe4bfe4bee4bde4bde4bce4bce4bbe4bbe4bae4bae4b9e4b9e4b8e4b8e4b7e4b7e4b6e4b6e4b5e4b5e4b4e4b4e4b3e4b3e4b2e4b2e4b1e4b0e4b0e4afe4afe4aee4aee4ade4ade4ace4ace4abe4abe4aae4aae4a9e4a9e4a8e4a8e4a7e4a7e4a6e4a6e4a5e4a5e4a4e4a3e4a3e4a2e4a2e4a1e4a1e4a0e4a0e49fe49fe49ee49ee49de49de49ce49ce49be49be49ae49ae499e499e498e498e497e496e496e495e495e494e494e493e493e492e492e491e491e490e490e48fe48fe48ee48ee48de48de48ce48ce48be48ae48ae489e489e488e488e487e487e486e486e485e485e484e484e483e483e482e482e481e481e480e480e47fe47fe47ee47de47de47ce47ce47be47be47ae47ae479e479e478e478e477e477e476e476e475e475e474e474e473e473e472e471e471e470e470e46fe46fe46ee46ee46de46de46ce46ce46be46be46ae46ae469e469e468e468e467e467e466e465e465e464e464e463e463e462e462e461e461e460e460e45fe45fe45ee45ee45de45de45ce45ce45be45be45ae45ae459e458e458e457e457e456e456e455e455e454e454e453e453e452e452e451e451e450e450e44fe44fe44e,
  0xe558e557e557e556e556e555e555e554e554e553e553e552e552e551e551e550e54fe54fe54ee54ee54de54de54ce54ce54be54be54ae54ae549e549e548e548e547e547e546e546e545e545e544e544e543e543e542e541e541e540e540e53fe53fe53ee53ee53de53de53ce53ce53be53be53ae53ae539e539e538e538e537e537e536e536e535e535e534e533e533e532e532e531e531e530e530e52fe52fe52ee52ee52de52de52ce52ce52be52be52ae52ae529e529e528e528e527e526e526e525e525e524e524e523e523e522e522e521e521e520e520e51fe51fe51ee51ee51de51de51ce51ce51be51be51ae51ae519e518e518e517e517e516e516e515e515e514e514e513e513e512e512e511e511e510e510e50fe50fe50ee50ee50de50de50ce50be50be50ae50ae509e509e508e508e507e507e506e506e505e505e504e504e503e503e502e502e501e501e500e500e4ffe4fee4fee4fde4fde4fce4fce4fbe4fbe4fae4fae4f9e4f9e4f8e4f8e4f7e4f7e4f6e4f6e4f5e4f5e4f4e4f4e4f3e4f3e4f2e4f2e4f1e4f0e4f0e4efe4efe4eee4eee4ede4ede4ece4ece4ebe4ebe4eae4eae4e9e4e9e4e8e4e8e4e7e4e7e4e6e4e6e4e5e4e5e4e4e4e3e4e3e4e2e4e2e4e1e4e1e4e0e4e0e4dfe4dfe4dee4dee4dde4dde4dce4dce4dbe4dbe4dae4dae4d9e4d9e4d8e4d8e4d7e4d6e4d6e4d5e4d5e4d4e4d4e4d3,
  0xe5dce5dce5dbe5dbe5dae5dae5d9e5d9e5d8e5d8e5d7e5d7e5d6e5d6e5d5e5d5e5d4e5d4e5d3e5d3e5d2e5d2e5d1e5d0e5d0e5cfe5cfe5cee5cee5cde5cde5cce5cce5cbe5cbe5cae5cae5c9e5c9e5c8e5c8e5c7e5c7e5c6e5c6e5c5e5c5e5c4e5c4e5c3e5c3e5c2e5c1e5c1e5c0e5c0e5bfe5bfe5bee5bee5bde5bde5bce5bce5bbe5bbe5bae5bae5b9e5b9e5b8e5b8e5b7e5b7e5b6e5b6e5b5e5b5e5b4e5b3e5b3e5b2e5b2e5b1e5b1e5b0e5b0e5afe5afe5aee5aee5ade5ade5ace5ace5abe5abe5aae5aae5a9e5a9e5a8e5a8e5a7e5a7e5a6e5a6e5a5e5a4e5a4e5a3e5a3e5a2e5a2e5a1e5a1e5a0e5a0e59fe59fe59ee59ee59de59de59ce59ce59be59be59ae59ae599e599e598e598e597e596e596e595e595e594e594e593e593e592e592e591e591e590e590e58fe58fe58ee58ee58de58de58ce58ce58be58be58ae58ae589e589e588e587e587e586e586e585e585e584e584e583e583e582e582e581e581e580e580e57fe57fe57ee57ee57de57de57ce57ce57be57be57ae579e579e578e578e577e577e576e576e575e575e574e574e573e573e572e572e571e571e570e570e56fe56fe56ee56ee56de56de56ce56be56be56ae56ae569e569e568e568e567e567e566e566e565e565e564e564e563e563e562e562e561e561e560e560e55fe55fe55ee55de55de55ce55ce55be55be55ae55ae559e559e558,
  0xe661e660e660e65fe65fe65ee65ee65de65ce65ce65be65be65ae65ae659e659e658e658e657e657e656e656e655e655e654e654e653e653e652e652e651e651e650e650e64fe64fe64ee64ee64de64ce64ce64be64be64ae64ae649e649e648e648e647e647e646e646e645e645e644e644e643e643e642e642e641e641e640e640e63fe63fe63ee63ee63de63ce63ce63be63be63ae63ae639e639e638e638e637e637e636e636e635e635e634e634e633e633e632e632e631e631e630e630e62fe62fe62ee62ee62de62ce62ce62be62be62ae62ae629e629e628e628e627e627e626e626e625e625e624e624e623e623e622e622e621e621e620e620e61fe61fe61ee61ee61de61ce61ce61be61be61ae61ae619e619e618e618e617e617e616e616e615e615e614e614e613e613e612e612e611e611e610e610e60fe60fe60ee60de60de60ce60ce60be60be60ae60ae609e609e608e608e607e607e606e606e605e605e604e604e603e603e602e602e601e601e600e600e5ffe5ffe5fee5fde5fde5fce5fce5fbe5fbe5fae5fae5f9e5f9e5f8e5f8e5f7e5f7e5f6e5f6e5f5e5f5e5f4e5f4e5f3e5f3e5f2e5f2e5f1e5f1e5f0e5f0e5efe5eee5eee5ede5ede5ece5ece5ebe5ebe5eae5eae5e9e5e9e5e8e5e8e5e7e5e7e5e6e5e6e5e5e5e5e5e4e5e4e5e3e5e3e5e2e5e2e5e1e5e1e5e0e5dfe5dfe5dee5dee5dde5dd,
  0xe6e4e6e4e6e3e6e3e6e2e6e2e6e1e6e1e6e0e6e0e6dfe6dfe6dee6dee6dde6dde6dce6dce6dbe6dbe6dae6dae6d9e6d9e6d8e6d8e6d7e6d7e6d6e6d6e6d5e6d5e6d4e6d4e6d3e6d2e6d2e6d1e6d1e6d0e6d0e6cfe6cfe6cee6cee6cde6cde6cce6cce6cbe6cbe6cae6cae6c9e6c9e6c8e6c8e6c7e6c7e6c6e6c6e6c5e6c5e6c4e6c4e6c3e6c3e6c2e6c1e6c1e6c0e6c0e6bfe6bfe6bee6bee6bde6bde6bce6bce6bbe6bbe6bae6bae6b9e6b9e6b8e6b8e6b7e6b7e6b6e6b6e6b5e6b5e6b4e6b4e6b3e6b3e6b2e6b2e6b1e6b1e6b0e6afe6afe6aee6aee6ade6ade6ace6ace6abe6abe6aae6aae6a9e6a9e6a8e6a8e6a7e6a7e6a6e6a6e6a5e6a5e6a4e6a4e6a3e6a3e6a2e6a2e6a1e6a1e6a0e6a0e69fe69ee69ee69de69de69ce69ce69be69be69ae69ae699e699e698e698e697e697e696e696e695e695e694e694e693e693e692e692e691e691e690e690e68fe68fe68ee68de68de68ce68ce68be68be68ae68ae689e689e688e688e687e687e686e686e685e685e684e684e683e683e682e682e681e681e680e680e67fe67fe67ee67de67de67ce67ce67be67be67ae67ae679e679e678e678e677e677e676e676e675e675e674e674e673e673e672e672e671e671e670e670e66fe66fe66ee66ee66de66ce66ce66be66be66ae66ae669e669e668e668e667e667e666e666e665e665e664e664e663e663e662e662e661,
  0xe768e768e767e766e766e765e765e764e764e763e763e762e762e761e761e760e760e75fe75fe75ee75ee75de75de75ce75ce75be75be75ae75ae759e759e758e758e757e757e756e756e755e755e754e754e753e752e752e751e751e750e750e74fe74fe74ee74ee74de74de74ce74ce74be74be74ae74ae749e749e748e748e747e747e746e746e745e745e744e744e743e743e742e742e741e741e740e73fe73fe73ee73ee73de73de73ce73ce73be73be73ae73ae739e739e738e738e737e737e736e736e735e735e734e734e733e733e732e732e731e731e730e730e72fe72fe72ee72ee72de72ce72ce72be72be72ae72ae729e729e728e728e727e727e726e726e725e725e724e724e723e723e722e722e721e721e720e720e71fe71fe71ee71ee71de71de71ce71ce71be71ae71ae719e719e718e718e717e717e716e716e715e715e714e714e713e713e712e712e711e711e710e710e70fe70fe70ee70ee70de70de70ce70ce70be70be70ae70ae709e708e708e707e707e706e706e705e705e704e704e703e703e702e702e701e701e700e700e6ffe6ffe6fee6fee6fde6fde6fce6fce6fbe6fbe6fae6fae6f9e6f9e6f8e6f8e6f7e6f7e6f6e6f5e6f5e6f4e6f4e6f3e6f3e6f2e6f2e6f1e6f1e6f0e6f0e6efe6efe6eee6eee6ede6ede6ece6ece6ebe6ebe6eae6eae6e9e6e9e6e8e6e8e6e7e6e7e6e6e6e6e6e5,
  0xe7ebe7ebe7eae7eae7e9e7e9e7e8e7e8e7e7e7e7e7e6e7e6e7e5e7e5e7e4e7e4e7e3e7e3e7e2e7e1e7e1e7e0e7e0e7dfe7dfe7dee7dee7dde7dde7dce7dce7dbe7dbe7dae7dae7d9e7d9e7d8e7d8e7d7e7d7e7d6e7d6e7d5e7d5e7d4e7d4e7d3e7d3e7d2e7d2e7d1e7d1e7d0e7d0e7cfe7cfe7cee7cee7cde7cce7cce7cbe7cbe7cae7cae7c9e7c9e7c8e7c8e7c7e7c7e7c6e7c6e7c5e7c5e7c4e7c4e7c3e7c3e7c2e7c2e7c1e7c1e7c0e7c0e7bfe7bfe7bee7bee7bde7bde7bce7bce7bbe7bbe7bae7bae7b9e7b9e7b8e7b7e7b7e7b6e7b6e7b5e7b5e7b4e7b4e7b3e7b3e7b2e7b2e7b1e7b1e7b0e7b0e7afe7afe7aee7aee7ade7ade7ace7ace7abe7abe7aae7aae7a9e7a9e7a8e7a8e7a7e7a7e7a6e7a6e7a5e7a5e7a4e7a4e7a3e7a2e7a2e7a1e7a1e7a0e7a0e79fe79fe79ee79ee79de79de79ce79ce79be79be79ae79ae799e799e798e798e797e797e796e796e795e795e794e794e793e793e792e792e791e791e790e790e78fe78ee78ee78de78de78ce78ce78be78be78ae78ae789e789e788e788e787e787e786e786e785e785e784e784e783e783e782e782e781e781e780e780e77fe77fe77ee77ee77de77de77ce77ce77be77ae77ae779e779e778e778e777e777e776e776e775e775e774e774e773e773e772e772e771e771e770e770e76fe76fe76ee76ee76de76de76ce76ce76be76be76ae76ae769e769,
  0xe86ee86ee86de86de86ce86be86be86ae86ae869e869e868e868e867e867e866e866e865e865e864e864e863e863e862e862e861e861e860e860e85fe85fe85ee85ee85de85de85ce85ce85be85be85ae85ae859e859e858e858e857e857e856e856e855e855e854e853e853e852e852e851e851e850e850e84fe84fe84ee84ee84de84de84ce84ce84be84be84ae84ae849e849e848e848e847e847e846e846e845e845e844e844e843e843e842e842e841e841e840e840e83fe83fe83ee83ee83de83de83ce83be83be83ae83ae839e839e838e838e837e837e836e836e835e835e834e834e833e833e832e832e831e831e830e830e82fe82fe82ee82ee82de82de82ce82ce82be82be82ae82ae829e829e828e828e827e827e826e826e825e824e824e823e823e822e822e821e821e820e820e81fe81fe81ee81ee81de81de81ce81ce81be81be81ae81ae819e819e818e818e817e817e816e816e815e815e814e814e813e813e812e812e811e811e810e810e80fe80fe80ee80de80de80ce80ce80be80be80ae80ae809e809e808e808e807e807e806e806e805e805e804e804e803e803e802e802e801e801e800e800e7ffe7ffe7fee7fee7fde7fde7fce7fce7fbe7fbe7fae7fae7f9e7f9e7f8e7f7e7f7e7f6e7f6e7f5e7f5e7f4e7f4e7f3e7f3e7f2e7f2e7f1e7f1e7f0e7f0e7efe7efe7eee7eee7ede7ede7ece7ec,
  0xe8f1e8f0e8f0e8efe8eee8eee8ede8ede8ece8ece8ebe8ebe8eae8eae8e9e8e9e8e8e8e8e8e7e8e7e8e6e8e6e8e5e8e5e8e4e8e4e8e3e8e3e8e2e8e2e8e1e8e1e8e0e8e0e8dfe8dfe8dee8dee8dde8dde8dce8dce8dbe8dbe8dae8dae8d9e8d9e8d8e8d8e8d7e8d7e8d6e8d6e8d5e8d5e8d4e8d4e8d3e8d2e8d2e8d1e8d1e8d0e8d0e8cfe8cfe8cee8cee8cde8cde8cce8cce8cbe8cbe8cae8cae8c9e8c9e8c8e8c8e8c7e8c7e8c6e8c6e8c5e8c5e8c4e8c4e8c3e8c3e8c2e8c2e8c1e8c1e8c0e8c0e8bfe8bfe8bee8bee8bde8bde8bce8bce8bbe8bbe8bae8bae8b9e8b9e8b8e8b7e8b7e8b6e8b6e8b5e8b5e8b4e8b4e8b3e8b3e8b2e8b2e8b1e8b1e8b0e8b0e8afe8afe8aee8aee8ade8ade8ace8ace8abe8abe8aae8aae8a9e8a9e8a8e8a8e8a7e8a7e8a6e8a6e8a5e8a5e8a4e8a4e8a3e8a3e8a2e8a2e8a1e8a1e8a0e8a0e89fe89fe89ee89de89de89ce89ce89be89be89ae89ae899e899e898e898e897e897e896e896e895e895e894e894e893e893e892e892e891e891e890e890e88fe88fe88ee88ee88de88de88ce88ce88be88be88ae88ae889e889e888e888e887e887e886e886e885e884e884e883e883e882e882e881e881e880e880e87fe87fe87ee87ee87de87de87ce87ce87be87be87ae87ae879e879e878e878e877e877e876e876e875e875e874e874e873e873e872e872e871e871e870e870e86fe86f,
  0xe973e972e972e971e971e970e970e96fe96fe96ee96ee96de96de96ce96ce96be96be96ae96ae969e969e968e968e967e966e966e965e965e964e964e963e963e962e962e961e961e960e960e95fe95fe95ee95ee95de95de95ce95ce95be95be95ae95ae959e959e958e958e957e957e956e956e955e955e954e954e953e953e952e952e951e951e950e950e94fe94fe94ee94ee94de94de94ce94ce94be94be94ae94ae949e949e948e948e947e946e946e945e945e944e944e943e943e942e942e941e941e940e940e93fe93fe93ee93ee93de93de93ce93ce93be93be93ae93ae939e939e938e938e937e937e936e936e935e935e934e934e933e933e932e932e931e931e930e930e92fe92fe92ee92ee92de92de92ce92ce92be92be92ae92ae929e928e928e927e927e926e926e925e925e924e924e923e923e922e922e921e921e920e920e91fe91fe91ee91ee91de91de91ce91ce91be91be91ae91ae919e919e918e918e917e917e916e916e915e915e914e914e913e913e912e912e911e911e910e910e90fe90fe90ee90ee90de90de90ce90ce90be90ae90ae909e909e908e908e907e907e906e906e905e905e904e904e903e903e902e902e901e901e900e900e8ffe8ffe8fee8fee8fde8fde8fce8fce8fbe8fbe8fae8fae8f9e8f9e8f8e8f8e8f7e8f7e8f6e8f6e8f5e8f5e8f4e8f4e8f3e8f3e8f2e8f2e8f1,
  0xe9f4e9f4e9f3e9f3e9f2e9f2e9f1e9f1e9f0e9f0e9efe9efe9eee9eee9ede9ede9ece9ece9ebe9ebe9eae9eae9e9e9e9e9e8e9e8e9e7e9e7e9e6e9e6e9e5e9e5e9e4e9e4e9e3e9e3e9e2e9e2e9e1e9e1e9e0e9e0e9dfe9dfe9dee9dee9dde9dde9dce9dce9dbe9dbe9dae9dae9d9e9d9e9d8e9d8e9d7e9d7e9d6e9d6e9d5e9d5e9d4e9d4e9d3e9d3e9d2e9d2e9d1e9d1e9d0e9d0e9cfe9cee9cee9cde9cde9cce9cce9cbe9cbe9cae9cae9c9e9c9e9c8e9c8e9c7e9c7e9c6e9c6e9c5e9c5e9c4e9c4e9c3e9c3e9c2e9c2e9c1e9c1e9c0e9c0e9bfe9bfe9bee9bee9bde9bde9bce9bce9bbe9bbe9bae9bae9b9e9b9e9b8e9b8e9b7e9b7e9b6e9b6e9b5e9b5e9b4e9b4e9b3e9b3e9b2e9b2e9b1e9b1e9b0e9b0e9afe9afe9aee9aee9ade9ade9ace9ace9abe9aae9aae9a9e9a9e9a8e9a8e9a7e9a7e9a6e9a6e9a5e9a5e9a4e9a4e9a3e9a3e9a2e9a2e9a1e9a1e9a0e9a0e99fe99fe99ee99ee99de99de99ce99ce99be99be99ae99ae999e999e998e998e997e997e996e996e995e995e994e994e993e993e992e992e991e991e990e990e98fe98fe98ee98ee98de98de98ce98ce98be98be98ae98ae989e989e988e987e987e986e986e985e985e984e984e983e983e982e982e981e981e980e980e97fe97fe97ee97ee97de97de97ce97ce97be97be97ae97ae979e979e978e978e977e977e976e976e975e975e974e974e973,
  0xea76ea75ea75ea74ea74ea73ea73ea72ea72ea71ea71ea70ea70ea6fea6fea6eea6eea6dea6dea6cea6cea6bea6bea6aea6aea69ea69ea68ea68ea67ea67ea66ea66ea65ea65ea64ea64ea63ea63ea62ea62ea61ea61ea60ea60ea5fea5fea5eea5eea5dea5dea5cea5cea5bea5bea5aea5aea59ea59ea58ea58ea57ea57ea56ea56ea55ea55ea54ea54ea53ea53ea52ea52ea51ea51ea50ea50ea4fea4fea4eea4eea4dea4dea4cea4cea4bea4bea4aea49ea49ea48ea48ea47ea47ea46ea46ea45ea45ea44ea44ea43ea43ea42ea42ea41ea41ea40ea40ea3fea3fea3eea3eea3dea3dea3cea3cea3bea3bea3aea3aea39ea39ea38ea38ea37ea37ea36ea36ea35ea35ea34ea34ea33ea33ea32ea32ea31ea31ea30ea30ea2fea2fea2eea2eea2dea2dea2cea2cea2bea2bea2aea2aea29ea29ea28ea28ea27ea27ea26ea26ea25ea25ea24ea24ea23ea23ea22ea22ea21ea21ea20ea20ea1fea1fea1eea1dea1dea1cea1cea1bea1bea1aea1aea19ea19ea18ea18ea17ea17ea16ea16ea15ea15ea14ea14ea13ea13ea12ea12ea11ea11ea10ea10ea0fea0fea0eea0eea0dea0dea0cea0cea0bea0bea0aea0aea09ea09ea08ea08ea07ea07ea06ea06ea05ea05ea04ea04ea03ea03ea02ea02ea01ea01ea00ea00e9ffe9ffe9fee9fee9fde9fde9fce9fce9fbe9fbe9fae9fae9f9e9f9e9f8e9f8e9f7e9f7e9f6e9f6e9f5,
  0xeaf7eaf7eaf6eaf6eaf5eaf5eaf4eaf4eaf3eaf3eaf2eaf2eaf1eaf1eaf0eaf0eaefeaefeaeeeaeeeaedeaedeaeceaeceaebeaebeaeaeae9eae9eae8eae8eae7eae7eae6eae6eae5eae5eae4eae4eae3eae3eae2eae2eae1eae1eae0eae0eadfeadfeadeeadeeaddeaddeadceadceadbeadbeadaeadaead9ead9ead8ead8ead7ead7ead6ead6ead5ead5ead4ead4ead3ead3ead2ead2ead1ead1ead0ead0eacfeacfeaceeaceeacdeacdeacceacceacbeacbeacaeacaeac9eac9eac8eac8eac7eac7eac6eac6eac5eac5eac4eac4eac3eac3eac2eac2eac1eac1eac0eac0eabfeabfeabeeabeeabdeabdeabceabceabbeabbeabaeabaeab9eab9eab8eab8eab7eab7eab6eab6eab5eab5eab4eab4eab3eab3eab2eab2eab1eab1eab0eab0eaafeaaeeaaeeaadeaadeaaceaaceaabeaabeaaaeaaaeaa9eaa9eaa8eaa8eaa7eaa7eaa6eaa6eaa5eaa5eaa4eaa4eaa3eaa3eaa2eaa2eaa1eaa1eaa0eaa0ea9fea9fea9eea9eea9dea9dea9cea9cea9bea9bea9aea9aea99ea99ea98ea98ea97ea97ea96ea96ea95ea95ea94ea94ea93ea93ea92ea92ea91ea91ea90ea90ea8fea8fea8eea8eea8dea8dea8cea8cea8bea8bea8aea8aea89ea89ea88ea88ea87ea87ea86ea86ea85ea85ea84ea84ea83ea83ea82ea82ea81ea81ea80ea80ea7fea7fea7eea7eea7dea7dea7cea7cea7bea7bea7aea79ea79ea78ea78ea77ea77ea76,
  0xeb78eb77eb77eb76eb76eb75eb75eb74eb74eb73eb73eb72eb72eb71eb71eb70eb70eb6feb6feb6eeb6eeb6deb6deb6ceb6ceb6beb6beb6aeb6aeb69eb69eb68eb68eb67eb67eb66eb66eb65eb65eb64eb64eb63eb63eb62eb62eb61eb61eb60eb60eb5feb5feb5eeb5eeb5deb5deb5ceb5ceb5beb5beb5aeb5aeb59eb59eb58eb58eb57eb57eb56eb56eb55eb55eb54eb54eb53eb53eb52eb52eb51eb51eb50eb50eb4feb4feb4eeb4eeb4deb4deb4ceb4ceb4beb4beb4aeb4aeb49eb49eb48eb48eb47eb47eb46eb46eb45eb45eb44eb44eb43eb43eb42eb42eb41eb41eb40eb40eb3feb3feb3eeb3eeb3deb3deb3ceb3ceb3beb3beb3aeb3aeb39eb39eb38eb38eb37eb37eb36eb36eb35eb35eb34eb34eb33eb33eb32eb32eb31eb30eb30eb2feb2feb2eeb2eeb2deb2deb2ceb2ceb2beb2beb2aeb2aeb29eb29eb28eb28eb27eb27eb26eb26eb25eb25eb24eb24eb23eb23eb22eb22eb21eb21eb20eb20eb1feb1feb1eeb1eeb1deb1deb1ceb1ceb1beb1beb1aeb1aeb19eb19eb18eb18eb17eb17eb16eb16eb15eb15eb14eb14eb13eb13eb12eb12eb11eb11eb10eb10eb0feb0feb0eeb0eeb0deb0deb0ceb0ceb0beb0beb0aeb0aeb09eb09eb08eb08eb07eb07eb06eb06eb05eb05eb04eb04eb03eb03eb02eb02eb01eb01eb00eb00eaffeaffeafeeafeeafdeafdeafceafceafbeafbeafaeafaeaf9eaf9eaf8eaf8,
  0xebf8ebf8ebf7ebf7ebf6ebf6ebf5ebf5ebf4ebf4ebf3ebf3ebf2ebf2ebf1ebf1ebf0ebf0ebefebefebeeebeeebedebedebecebecebebebebebeaebeaebe9ebe9ebe8ebe8ebe7ebe7ebe6ebe6ebe5ebe5ebe4ebe4ebe3ebe3ebe2ebe2ebe1ebe1ebe0ebe0ebdfebdfebdeebdeebddebddebdcebdcebdbebdbebdaebdaebd9ebd9ebd8ebd8ebd7ebd7ebd6ebd6ebd5ebd5ebd4ebd4ebd3ebd3ebd2ebd2ebd1ebd1ebd0ebd0ebcfebcfebceebceebcdebcdebccebccebcbebcbebcaebcaebc9ebc9ebc8ebc8ebc7ebc7ebc6ebc6ebc5ebc5ebc4ebc4ebc3ebc3ebc2ebc2ebc1ebc1ebc0ebc0ebbfebbfebbeebbeebbdebbdebbcebbcebbbebbbebbaebbaebb9ebb9ebb8ebb8ebb7ebb7ebb6ebb6ebb5ebb5ebb4ebb4ebb3ebb3ebb2ebb2ebb1ebb1ebb0ebb0ebafebafebaeebaeebadebadebacebacebabebabebaaebaaeba9eba9eba8eba8eba7eba7eba6eba6eba5eba5eba4eba4eba3eba3eba2eba2eba1eba1eba0eba0eb9feb9feb9eeb9eeb9deb9deb9ceb9ceb9beb9beb9aeb9aeb99eb99eb98eb98eb97eb97eb96eb96eb95eb95eb94eb94eb93eb93eb92eb92eb91eb91eb90eb90eb8feb8feb8eeb8eeb8deb8ceb8ceb8beb8beb8aeb8aeb89eb89eb88eb88eb87eb87eb86eb86eb85eb85eb84eb84eb83eb83eb82eb82eb81eb81eb80eb80eb7feb7feb7eeb7eeb7deb7deb7ceb7ceb7beb7beb7aeb7aeb79eb79eb78,
  0xec79ec78ec78ec77ec77ec76ec76ec75ec75ec74ec74ec73ec73ec72ec72ec71ec71ec70ec70ec6fec6fec6eec6eec6dec6dec6cec6cec6bec6bec6aec6aec69ec69ec68ec68ec67ec67ec66ec66ec65ec65ec64ec64ec63ec63ec62ec62ec61ec61ec60ec60ec5fec5fec5eec5eec5dec5dec5cec5cec5bec5bec5aec5aec59ec59ec58ec58ec57ec57ec56ec56ec55ec55ec54ec54ec53ec53ec52ec52ec51ec51ec50ec50ec4fec4fec4eec4eec4dec4dec4cec4cec4bec4bec4aec4aec49ec49ec48ec48ec47ec47ec46ec46ec45ec45ec44ec44ec43ec43ec42ec42ec41ec41ec40ec40ec3fec3fec3eec3eec3dec3dec3cec3cec3bec3aec3aec39ec39ec38ec38ec37ec37ec36ec36ec35ec35ec34ec34ec33ec33ec32ec32ec31ec31ec30ec30ec2fec2fec2eec2eec2dec2dec2cec2cec2bec2bec2aec2aec29ec29ec28ec28ec27ec27ec26ec26ec25ec25ec24ec24ec23ec23ec22ec22ec21ec21ec20ec20ec1fec1fec1eec1eec1dec1dec1cec1cec1bec1bec1aec1aec19ec19ec18ec18ec17ec17ec16ec16ec15ec15ec14ec14ec13ec13ec12ec12ec11ec11ec10ec10ec0fec0fec0eec0eec0dec0dec0cec0cec0bec0bec0aec0aec09ec09ec08ec08ec07ec07ec06ec06ec05ec05ec04ec04ec03ec03ec02ec02ec01ec01ec00ec00ebffebffebfeebfeebfdebfdebfcebfcebfbebfbebfaebfaebf9ebf9,
  0xecf8ecf8ecf7ecf7ecf6ecf6ecf5ecf5ecf4ecf4ecf3ecf3ecf2ecf2ecf1ecf1ecf0ecf0ecefecefeceeeceeecedecedecececececebecebeceaeceaece9ece9ece8ece8ece7ece7ece6ece6ece5ece5ece4ece4ece3ece3ece2ece2ece1ece1ece0ece0ecdfecdfecdeecdeecddecddecdcecdcecdbecdbecdaecdaecd9ecd9ecd8ecd8ecd7ecd7ecd6ecd6ecd5ecd5ecd4ecd4ecd3ecd3ecd2ecd2ecd1ecd1ecd0ecd0eccfeccfecceecceeccdeccdeccceccceccbeccbeccaeccaecc9ecc9ecc8ecc8ecc7ecc7ecc6ecc6ecc5ecc5ecc4ecc4ecc3ecc3ecc2ecc2ecc1ecc1ecc0ecc0ecbfecbfecbeecbeecbdecbdecbcecbcecbbecbbecbaecbaecb9ecb9ecb8ecb8ecb7ecb7ecb6ecb6ecb5ecb5ecb4ecb4ecb3ecb3ecb2ecb2ecb1ecb1ecb0ecb0ecafecafecaeecaeecadecadecacecacecabecabecaaecaaeca9eca9eca8eca8eca7eca7eca7eca6eca6eca5eca5eca4eca4eca3eca3eca2eca2eca1eca1eca0eca0ec9fec9fec9eec9eec9dec9dec9cec9cec9bec9bec9aec9aec99ec99ec98ec98ec97ec97ec96ec96ec95ec95ec94ec94ec93ec93ec92ec92ec91ec91ec90ec90ec8fec8fec8eec8eec8dec8dec8cec8cec8bec8bec8aec8aec89ec89ec88ec88ec87ec87ec86ec86ec85ec85ec84ec84ec83ec83ec82ec82ec81ec81ec80ec80ec7fec7fec7eec7eec7dec7dec7cec7cec7bec7bec7aec7aec79,
  0xed78ed77ed77ed76ed76ed75ed75ed74ed74ed73ed73ed72ed72ed71ed71ed70ed70ed6fed6fed6eed6eed6ded6ded6ced6ced6bed6bed6aed6aed69ed69ed68ed68ed67ed67ed66ed66ed65ed65ed64ed64ed63ed63ed62ed62ed61ed61ed60ed60ed5fed5fed5eed5eed5ded5ded5ced5ced5bed5bed5bed5aed5aed59ed59ed58ed58ed57ed57ed56ed56ed55ed55ed54ed54ed53ed53ed52ed52ed51ed51ed50ed50ed4fed4fed4eed4eed4ded4ded4ced4ced4bed4bed4aed4aed49ed49ed48ed48ed47ed47ed46ed46ed45ed45ed44ed44ed43ed43ed42ed42ed41ed41ed40ed40ed3fed3fed3eed3eed3ded3ded3ced3ced3bed3bed3aed3aed39ed39ed38ed38ed37ed37ed36ed36ed35ed35ed34ed34ed33ed33ed32ed32ed31ed31ed30ed30ed2fed2fed2eed2eed2ded2ded2ced2ced2bed2bed2aed2aed29ed29ed28ed28ed27ed27ed26ed26ed25ed25ed24ed24ed23ed23ed22ed22ed21ed21ed20ed20ed1fed1fed1eed1eed1ded1ded1ced1ced1bed1bed1aed1aed19ed19ed18ed18ed17ed17ed16ed16ed15ed15ed14ed14ed13ed13ed12ed12ed11ed11ed10ed10ed0fed0fed0eed0eed0ded0ded0ced0ced0bed0bed0aed0aed09ed09ed08ed08ed07ed07ed06ed06ed05ed05ed04ed04ed03ed03ed02ed02ed01ed01ed00ed00ecffecffecfeecfeecfdecfdecfcecfcecfbecfbecfaecfaecf9ecf9,
  0xedf7edf7edf6edf6edf5edf5edf4edf4edf3edf3edf2edf2edf1edf1edf0edf0edefedefedeeedeeedededededecedecedebedebedeaedeaede9ede9ede8ede8ede7ede7ede6ede6ede5ede5ede4ede4ede3ede3ede2ede2ede1ede1ede0ede0eddfeddfeddeeddeedddedddeddceddceddbeddbeddaeddaedd9edd9edd8edd8edd7edd7edd6edd6edd5edd5edd4edd4edd3edd3edd2edd2edd1edd1edd0edd0edcfedcfedceedceedcdedcdedccedccedcbedcbedcaedcaedc9edc9edc8edc8edc7edc7edc6edc6edc5edc5edc4edc4edc3edc3edc2edc2edc1edc1edc0edc0edbfedbfedbeedbeedbdedbdedbcedbcedbbedbbedbaedbaedb9edb9edb8edb8edb7edb7edb6edb6edb5edb5edb5edb4edb4edb3edb3edb2edb2edb1edb1edb0edb0edafedafedaeedaeedadedadedacedacedabedabedaaedaaeda9eda9eda8eda8eda7eda7eda6eda6eda5eda5eda4eda4eda3eda3eda2eda2eda1eda1eda0eda0ed9fed9fed9eed9eed9ded9ded9ced9ced9bed9bed9aed9aed99ed99ed98ed98ed97ed97ed96ed96ed95ed95ed94ed94ed93ed93ed92ed92ed91ed91ed90ed90ed8fed8fed8eed8eed8ded8ded8ced8ced8bed8bed8aed8aed89ed89ed88ed88ed87ed87ed86ed86ed85ed85ed84ed84ed83ed83ed82ed82ed81ed81ed80ed80ed7fed7fed7eed7eed7ded7ded7ced7ced7bed7bed7aed7aed79ed79ed78,
  0xee76ee75ee75ee74ee74ee73ee73ee72ee72ee71ee71ee70ee70ee6fee6fee6eee6eee6dee6dee6cee6cee6cee6bee6bee6aee6aee69ee69ee68ee68ee67ee67ee66ee66ee65ee65ee64ee64ee63ee63ee62ee62ee61ee61ee60ee60ee5fee5fee5eee5eee5dee5dee5cee5cee5bee5bee5aee5aee59ee59ee58ee58ee57ee57ee56ee56ee55ee55ee54ee54ee53ee53ee52ee52ee51ee51ee50ee50ee4fee4fee4eee4eee4dee4dee4cee4cee4bee4bee4aee4aee49ee49ee48ee48ee47ee47ee46ee46ee45ee45ee44ee44ee43ee43ee42ee42ee41ee41ee40ee40ee3fee3fee3eee3eee3dee3dee3cee3cee3bee3bee3aee3aee39ee39ee38ee38ee38ee37ee37ee36ee36ee35ee35ee34ee34ee33ee33ee32ee32ee31ee31ee30ee30ee2fee2fee2eee2eee2dee2dee2cee2cee2bee2bee2aee2aee29ee29ee28ee28ee27ee27ee26ee26ee25ee25ee24ee24ee23ee23ee22ee22ee21ee21ee20ee20ee1fee1fee1eee1eee1dee1dee1cee1cee1bee1bee1aee1aee19ee19ee18ee18ee17ee17ee16ee16ee15ee15ee14ee14ee13ee13ee12ee12ee11ee11ee10ee10ee0fee0fee0eee0eee0dee0dee0cee0cee0bee0bee0aee0aee09ee09ee08ee08ee07ee07ee06ee06ee05ee05ee04ee04ee03ee03ee02ee02ee01ee01ee00ee00edffedffedfeedfeedfdedfdedfcedfcedfcedfbedfbedfaedfaedf9edf9edf8edf8,
  0xeef4eef4eef3eef3eef2eef2eef1eef1eef1eef0eef0eeefeeefeeeeeeeeeeedeeedeeeceeeceeebeeebeeeaeeeaeee9eee9eee8eee8eee7eee7eee6eee6eee5eee5eee4eee4eee3eee3eee2eee2eee1eee1eee0eee0eedfeedfeedeeedeeeddeeddeedceedceedbeedbeedaeedaeed9eed9eed8eed8eed7eed7eed6eed6eed5eed5eed4eed4eed3eed3eed2eed2eed1eed1eed0eed0eecfeecfeeceeeceeecdeecdeecceecceecbeecbeecaeecaeec9eec9eec8eec8eec8eec7eec7eec6eec6eec5eec5eec4eec4eec3eec3eec2eec2eec1eec1eec0eec0eebfeebfeebeeebeeebdeebdeebceebceebbeebbeebaeebaeeb9eeb9eeb8eeb8eeb7eeb7eeb6eeb6eeb5eeb5eeb4eeb4eeb3eeb3eeb2eeb2eeb1eeb1eeb0eeb0eeafeeafeeaeeeaeeeadeeadeeaceeaceeabeeabeeaaeeaaeea9eea9eea8eea8eea7eea7eea6eea6eea5eea5eea4eea4eea3eea3eea2eea2eea1eea1eea0eea0ee9fee9fee9eee9eee9dee9dee9cee9cee9cee9bee9bee9aee9aee99ee99ee98ee98ee97ee97ee96ee96ee95ee95ee94ee94ee93ee93ee92ee92ee91ee91ee90ee90ee8fee8fee8eee8eee8dee8dee8cee8cee8bee8bee8aee8aee89ee89ee88ee88ee87ee87ee86ee86ee85ee85ee84ee84ee83ee83ee82ee82ee81ee81ee80ee80ee7fee7fee7eee7eee7dee7dee7cee7cee7bee7bee7aee7aee79ee79ee78ee78ee77ee77ee76,
  0xef73ef72ef72ef71ef71ef70ef70ef6fef6fef6eef6eef6def6def6cef6cef6bef6bef6aef6aef69ef69ef68ef68ef67ef67ef66ef66ef65ef65ef64ef64ef63ef63ef62ef62ef61ef61ef60ef60ef5fef5fef5eef5eef5eef5def5def5cef5cef5bef5bef5aef5aef59ef59ef58ef58ef57ef57ef56ef56ef55ef55ef54ef54ef53ef53ef52ef52ef51ef51ef50ef50ef4fef4fef4eef4eef4def4def4cef4cef4bef4bef4aef4aef49ef49ef48ef48ef47ef47ef46ef46ef45ef45ef44ef44ef43ef43ef42ef42ef41ef41ef40ef40ef3fef3fef3eef3eef3def3def3cef3cef3bef3bef3bef3aef3aef39ef39ef38ef38ef37ef37ef36ef36ef35ef35ef34ef34ef33ef33ef32ef32ef31ef31ef30ef30ef2fef2fef2eef2eef2def2def2cef2cef2bef2bef2aef2aef29ef29ef28ef28ef27ef27ef26ef26ef25ef25ef24ef24ef23ef23ef22ef22ef21ef21ef20ef20ef1fef1fef1eef1eef1def1def1cef1cef1bef1bef1aef1aef19ef19ef18ef18ef17ef17ef17ef16ef16ef15ef15ef14ef14ef13ef13ef12ef12ef11ef11ef10ef10ef0fef0fef0eef0eef0def0def0cef0cef0bef0bef0aef0aef09ef09ef08ef08ef07ef07ef06ef06ef05ef05ef04ef04ef03ef03ef02ef02ef01ef01ef00ef00eeffeeffeefeeefeeefdeefdeefceefceefbeefbeefaeefaeef9eef9eef8eef8eef7eef7eef6eef6eef5eef5,
  0xeff1eff0eff0efefefefefeeefeeefedefedefecefecefebefebefeaefeaefe9efe9efe8efe8efe7efe7efe6efe6efe5efe5efe4efe4efe3efe3efe2efe2efe1efe1efe0efe0efdfefdfefdeefdeefddefddefdcefdcefdbefdbefdaefdaefdaefd9efd9efd8efd8efd7efd7efd6efd6efd5efd5efd4efd4efd3efd3efd2efd2efd1efd1efd0efd0efcfefcfefceefceefcdefcdefccefccefcbefcbefcaefcaefc9efc9efc8efc8efc7efc7efc6efc6efc5efc5efc4efc4efc3efc3efc2efc2efc1efc1efc0efc0efbfefbfefbeefbeefbdefbdefbdefbcefbcefbbefbbefbaefbaefb9efb9efb8efb8efb7efb7efb6efb6efb5efb5efb4efb4efb3efb3efb2efb2efb1efb1efb0efb0efafefafefaeefaeefadefadefacefacefabefabefaaefaaefa9efa9efa8efa8efa7efa7efa6efa6efa5efa5efa4efa4efa3efa3efa2efa2efa1efa1efa0efa0ef9fef9fef9eef9eef9eef9def9def9cef9cef9bef9bef9aef9aef99ef99ef98ef98ef97ef97ef96ef96ef95ef95ef94ef94ef93ef93ef92ef92ef91ef91ef90ef90ef8fef8fef8eef8eef8def8def8cef8cef8bef8bef8aef8aef89ef89ef88ef88ef87ef87ef86ef86ef85ef85ef84ef84ef83ef83ef82ef82ef81ef81ef80ef80ef7fef7fef7fef7eef7eef7def7def7cef7cef7bef7bef7aef7aef79ef79ef78ef78ef77ef77ef76ef76ef75ef75ef74ef74ef73,
  0xf06ef06ef06df06df06cf06cf06bf06bf06af06af069f069f068f068f067f067f066f066f065f065f064f064f063f063f062f062f061f061f061f060f060f05ff05ff05ef05ef05df05df05cf05cf05bf05bf05af05af059f059f058f058f057f057f056f056f055f055f054f054f053f053f052f052f051f051f050f050f04ff04ff04ef04ef04df04df04cf04cf04bf04bf04af04af049f049f048f048f047f047f047f046f046f045f045f044f044f043f043f042f042f041f041f040f040f03ff03ff03ef03ef03df03df03cf03cf03bf03bf03af03af039f039f038f038f037f037f036f036f035f035f034f034f033f033f032f032f031f031f030f030f02ff02ff02ef02ef02df02df02df02cf02cf02bf02bf02af02af029f029f028f028f027f027f026f026f025f025f024f024f023f023f022f022f021f021f020f020f01ff01ff01ef01ef01df01df01cf01cf01bf01bf01af01af019f019f018f018f017f017f016f016f015f015f014f014f013f013f012f012f012f011f011f010f010f00ff00ff00ef00ef00df00df00cf00cf00bf00bf00af00af009f009f008f008f007f007f006f006f005f005f004f004f003f003f002f002f001f001f000f000efffefffeffeeffeeffdeffdeffceffceffbeffbeffaeffaeff9eff9eff8eff8eff7eff7eff7eff6eff6eff5eff5eff4eff4eff3eff3eff2eff2eff1,
  0xf0ecf0ebf0ebf0eaf0eaf0e9f0e9f0e8f0e8f0e7f0e7f0e6f0e6f0e5f0e5f0e4f0e4f0e3f0e3f0e2f0e2f0e1f0e1f0e0f0e0f0dff0dff0def0def0ddf0ddf0dcf0dcf0dbf0dbf0daf0daf0d9f0d9f0d8f0d8f0d7f0d7f0d7f0d6f0d6f0d5f0d5f0d4f0d4f0d3f0d3f0d2f0d2f0d1f0d1f0d0f0d0f0cff0cff0cef0cef0cdf0cdf0ccf0ccf0cbf0cbf0caf0caf0c9f0c9f0c8f0c8f0c7f0c7f0c6f0c6f0c5f0c5f0c4f0c4f0c3f0c3f0c2f0c2f0c1f0c1f0c0f0c0f0c0f0bff0bff0bef0bef0bdf0bdf0bcf0bcf0bbf0bbf0baf0baf0b9f0b9f0b8f0b8f0b7f0b7f0b6f0b6f0b5f0b5f0b4f0b4f0b3f0b3f0b2f0b2f0b1f0b1f0b0f0b0f0aff0aff0aef0aef0adf0adf0acf0acf0abf0abf0aaf0aaf0a9f0a9f0a9f0a8f0a8f0a7f0a7f0a6f0a6f0a5f0a5f0a4f0a4f0a3f0a3f0a2f0a2f0a1f0a1f0a0f0a0f09ff09ff09ef09ef09df09df09cf09cf09bf09bf09af09af099f099f098f098f097f097f096f096f095f095f094f094f093f093f092f092f091f091f091f090f090f08ff08ff08ef08ef08df08df08cf08cf08bf08bf08af08af089f089f088f088f087f087f086f086f085f085f084f084f083f083f082f082f081f081f080f080f07ff07ff07ef07ef07df07df07cf07cf07bf07bf07af07af079f079f079f078f078f077f077f076f076f075f075f074f074f073f073f072f072f071f071f070f070f06ff06f,
  0xf169f168f168f167f167f166f166f165f165f164f164f163f163f162f162f161f161f160f160f15ff15ff15ef15ef15df15df15cf15cf15bf15bf15af15af159f159f158f158f157f157f156f156f156f155f155f154f154f153f153f152f152f151f151f150f150f14ff14ff14ef14ef14df14df14cf14cf14bf14bf14af14af149f149f148f148f147f147f146f146f145f145f144f144f143f143f142f142f142f141f141f140f140f13ff13ff13ef13ef13df13df13cf13cf13bf13bf13af13af139f139f138f138f137f137f136f136f135f135f134f134f133f133f132f132f131f131f130f130f12ff12ff12ef12ef12df12df12df12cf12cf12bf12bf12af12af129f129f128f128f127f127f126f126f125f125f124f124f123f123f122f122f121f121f120f120f11ff11ff11ef11ef11df11df11cf11cf11bf11bf11af11af119f119f118f118f118f117f117f116f116f115f115f114f114f113f113f112f112f111f111f110f110f10ff10ff10ef10ef10df10df10cf10cf10bf10bf10af10af109f109f108f108f107f107f106f106f105f105f104f104f103f103f103f102f102f101f101f100f100f0fff0fff0fef0fef0fdf0fdf0fcf0fcf0fbf0fbf0faf0faf0f9f0f9f0f8f0f8f0f7f0f7f0f6f0f6f0f5f0f5f0f4f0f4f0f3f0f3f0f2f0f2f0f1f0f1f0f0f0f0f0eff0eff0eef0eef0edf0edf0edf0ec,
  0xf1e5f1e5f1e4f1e4f1e3f1e3f1e2f1e2f1e1f1e1f1e0f1e0f1dff1dff1def1def1ddf1ddf1dcf1dcf1dcf1dbf1dbf1daf1daf1d9f1d9f1d8f1d8f1d7f1d7f1d6f1d6f1d5f1d5f1d4f1d4f1d3f1d3f1d2f1d2f1d1f1d1f1d0f1d0f1cff1cff1cef1cef1cdf1cdf1ccf1ccf1cbf1cbf1caf1caf1c9f1c9f1c9f1c8f1c8f1c7f1c7f1c6f1c6f1c5f1c5f1c4f1c4f1c3f1c3f1c2f1c2f1c1f1c1f1c0f1c0f1bff1bff1bef1bef1bdf1bdf1bcf1bcf1bbf1bbf1baf1baf1b9f1b9f1b8f1b8f1b7f1b7f1b7f1b6f1b6f1b5f1b5f1b4f1b4f1b3f1b3f1b2f1b2f1b1f1b1f1b0f1b0f1aff1aff1aef1aef1adf1adf1acf1acf1abf1abf1aaf1aaf1a9f1a9f1a8f1a8f1a7f1a7f1a6f1a6f1a5f1a5f1a4f1a4f1a4f1a3f1a3f1a2f1a2f1a1f1a1f1a0f1a0f19ff19ff19ef19ef19df19df19cf19cf19bf19bf19af19af199f199f198f198f197f197f196f196f195f195f194f194f193f193f192f192f191f191f191f190f190f18ff18ff18ef18ef18df18df18cf18cf18bf18bf18af18af189f189f188f188f187f187f186f186f185f185f184f184f183f183f182f182f181f181f180f180f17ff17ff17ef17ef17ef17df17df17cf17cf17bf17bf17af17af179f179f178f178f177f177f176f176f175f175f174f174f173f173f172f172f171f171f170f170f16ff16ff16ef16ef16df16df16cf16cf16bf16bf16af16af16af169,
  0xf262f261f261f260f260f25ff25ff25ef25ef25df25df25cf25cf25bf25bf25af25af259f259f258f258f257f257f256f256f256f255f255f254f254f253f253f252f252f251f251f250f250f24ff24ff24ef24ef24df24df24cf24cf24bf24bf24af24af249f249f248f248f247f247f246f246f245f245f245f244f244f243f243f242f242f241f241f240f240f23ff23ff23ef23ef23df23df23cf23cf23bf23bf23af23af239f239f238f238f237f237f236f236f235f235f234f234f234f233f233f232f232f231f231f230f230f22ff22ff22ef22ef22df22df22cf22cf22bf22bf22af22af229f229f228f228f227f227f226f226f225f225f224f224f223f223f223f222f222f221f221f220f220f21ff21ff21ef21ef21df21df21cf21cf21bf21bf21af21af219f219f218f218f217f217f216f216f215f215f214f214f213f213f212f212f211f211f211f210f210f20ff20ff20ef20ef20df20df20cf20cf20bf20bf20af20af209f209f208f208f207f207f206f206f205f205f204f204f203f203f202f202f201f201f200f200f200f1fff1fff1fef1fef1fdf1fdf1fcf1fcf1fbf1fbf1faf1faf1f9f1f9f1f8f1f8f1f7f1f7f1f6f1f6f1f5f1f5f1f4f1f4f1f3f1f3f1f2f1f2f1f1f1f1f1f0f1f0f1eff1eff1eef1eef1eef1edf1edf1ecf1ecf1ebf1ebf1eaf1eaf1e9f1e9f1e8f1e8f1e7f1e7f1e6f1e6,
  0xf2def2ddf2ddf2dcf2dcf2dbf2dbf2daf2daf2d9f2d9f2d8f2d8f2d7f2d7f2d6f2d6f2d6f2d5f2d5f2d4f2d4f2d3f2d3f2d2f2d2f2d1f2d1f2d0f2d0f2cff2cff2cef2cef2cdf2cdf2ccf2ccf2cbf2cbf2caf2caf2c9f2c9f2c8f2c8f2c7f2c7f2c6f2c6f2c6f2c5f2c5f2c4f2c4f2c3f2c3f2c2f2c2f2c1f2c1f2c0f2c0f2bff2bff2bef2bef2bdf2bdf2bcf2bcf2bbf2bbf2baf2baf2b9f2b9f2b8f2b8f2b7f2b7f2b7f2b6f2b6f2b5f2b5f2b4f2b4f2b3f2b3f2b2f2b2f2b1f2b1f2b0f2b0f2aff2aff2aef2aef2adf2adf2acf2acf2abf2abf2aaf2aaf2a9f2a9f2a8f2a8f2a7f2a7f2a7f2a6f2a6f2a5f2a5f2a4f2a4f2a3f2a3f2a2f2a2f2a1f2a1f2a0f2a0f29ff29ff29ef29ef29df29df29cf29cf29bf29bf29af29af299f299f298f298f297f297f297f296f296f295f295f294f294f293f293f292f292f291f291f290f290f28ff28ff28ef28ef28df28df28cf28cf28bf28bf28af28af289f289f288f288f287f287f287f286f286f285f285f284f284f283f283f282f282f281f281f280f280f27ff27ff27ef27ef27df27df27cf27cf27bf27bf27af27af279f279f278f278f277f277f277f276f276f275f275f274f274f273f273f272f272f271f271f270f270f26ff26ff26ef26ef26df26df26cf26cf26bf26bf26af26af269f269f268f268f267f267f266f266f266f265f265f264f264f263f263f262,
  0xf35af359f359f358f358f357f357f356f356f355f355f354f354f353f353f352f352f351f351f350f350f34ff34ff34ef34ef34df34df34df34cf34cf34bf34bf34af34af349f349f348f348f347f347f346f346f345f345f344f344f343f343f342f342f341f341f340f340f33ff33ff33ef33ef33ef33df33df33cf33cf33bf33bf33af33af339f339f338f338f337f337f336f336f335f335f334f334f333f333f332f332f331f331f330f330f330f32ff32ff32ef32ef32df32df32cf32cf32bf32bf32af32af329f329f328f328f327f327f326f326f325f325f324f324f323f323f322f322f321f321f321f320f320f31ff31ff31ef31ef31df31df31cf31cf31bf31bf31af31af319f319f318f318f317f317f316f316f315f315f314f314f313f313f312f312f312f311f311f310f310f30ff30ff30ef30ef30df30df30cf30cf30bf30bf30af30af309f309f308f308f307f307f306f306f305f305f304f304f303f303f303f302f302f301f301f300f300f2fff2fff2fef2fef2fdf2fdf2fcf2fcf2fbf2fbf2faf2faf2f9f2f9f2f8f2f8f2f7f2f7f2f6f2f6f2f5f2f5f2f4f2f4f2f4f2f3f2f3f2f2f2f2f2f1f2f1f2f0f2f0f2eff2eff2eef2eef2edf2edf2ecf2ecf2ebf2ebf2eaf2eaf2e9f2e9f2e8f2e8f2e7f2e7f2e6f2e6f2e5f2e5f2e5f2e4f2e4f2e3f2e3f2e2f2e2f2e1f2e1f2e0f2e0f2dff2dff2de,
  0xf3d5f3d5f3d4f3d4f3d3f3d3f3d2f3d2f3d1f3d1f3d0f3d0f3cff3cff3cef3cef3cdf3cdf3ccf3ccf3cbf3cbf3caf3caf3c9f3c9f3c9f3c8f3c8f3c7f3c7f3c6f3c6f3c5f3c5f3c4f3c4f3c3f3c3f3c2f3c2f3c1f3c1f3c0f3c0f3bff3bff3bef3bef3bdf3bdf3bcf3bcf3bcf3bbf3bbf3baf3baf3b9f3b9f3b8f3b8f3b7f3b7f3b6f3b6f3b5f3b5f3b4f3b4f3b3f3b3f3b2f3b2f3b1f3b1f3b0f3b0f3aff3aff3aef3aef3aef3adf3adf3acf3acf3abf3abf3aaf3aaf3a9f3a9f3a8f3a8f3a7f3a7f3a6f3a6f3a5f3a5f3a4f3a4f3a3f3a3f3a2f3a2f3a1f3a1f3a1f3a0f3a0f39ff39ff39ef39ef39df39df39cf39cf39bf39bf39af39af399f399f398f398f397f397f396f396f395f395f394f394f393f393f393f392f392f391f391f390f390f38ff38ff38ef38ef38df38df38cf38cf38bf38bf38af38af389f389f388f388f387f387f386f386f385f385f385f384f384f383f383f382f382f381f381f380f380f37ff37ff37ef37ef37df37df37cf37cf37bf37bf37af37af379f379f378f378f377f377f377f376f376f375f375f374f374f373f373f372f372f371f371f370f370f36ff36ff36ef36ef36df36df36cf36cf36bf36bf36af36af369f369f369f368f368f367f367f366f366f365f365f364f364f363f363f362f362f361f361f360f360f35ff35ff35ef35ef35df35df35cf35cf35bf35bf35bf35a,
  0xf450f450f44ff44ff44ef44ef44df44df44cf44cf44bf44bf44bf44af44af449f449f448f448f447f447f446f446f445f445f444f444f443f443f442f442f441f441f440f440f43ff43ff43ef43ef43ef43df43df43cf43cf43bf43bf43af43af439f439f438f438f437f437f436f436f435f435f434f434f433f433f432f432f431f431f431f430f430f42ff42ff42ef42ef42df42df42cf42cf42bf42bf42af42af429f429f428f428f427f427f426f426f425f425f425f424f424f423f423f422f422f421f421f420f420f41ff41ff41ef41ef41df41df41cf41cf41bf41bf41af41af419f419f418f418f418f417f417f416f416f415f415f414f414f413f413f412f412f411f411f410f410f40ff40ff40ef40ef40df40df40cf40cf40bf40bf40bf40af40af409f409f408f408f407f407f406f406f405f405f404f404f403f403f402f402f401f401f400f400f3fff3fff3fef3fef3fef3fdf3fdf3fcf3fcf3fbf3fbf3faf3faf3f9f3f9f3f8f3f8f3f7f3f7f3f6f3f6f3f5f3f5f3f4f3f4f3f3f3f3f3f2f3f2f3f1f3f1f3f1f3f0f3f0f3eff3eff3eef3eef3edf3edf3ecf3ecf3ebf3ebf3eaf3eaf3e9f3e9f3e8f3e8f3e7f3e7f3e6f3e6f3e5f3e5f3e4f3e4f3e4f3e3f3e3f3e2f3e2f3e1f3e1f3e0f3e0f3dff3dff3def3def3ddf3ddf3dcf3dcf3dbf3dbf3daf3daf3d9f3d9f3d8f3d8f3d7f3d7f3d6f3d6f3d6,
  0xf4cbf4cbf4caf4caf4c9f4c9f4c8f4c8f4c7f4c7f4c6f4c6f4c5f4c5f4c4f4c4f4c4f4c3f4c3f4c2f4c2f4c1f4c1f4c0f4c0f4bff4bff4bef4bef4bdf4bdf4bcf4bcf4bbf4bbf4baf4baf4b9f4b9f4b8f4b8f4b8f4b7f4b7f4b6f4b6f4b5f4b5f4b4f4b4f4b3f4b3f4b2f4b2f4b1f4b1f4b0f4b0f4aff4aff4aef4aef4adf4adf4acf4acf4acf4abf4abf4aaf4aaf4a9f4a9f4a8f4a8f4a7f4a7f4a6f4a6f4a5f4a5f4a4f4a4f4a3f4a3f4a2f4a2f4a1f4a1f4a0f4a0f4a0f49ff49ff49ef49ef49df49df49cf49cf49bf49bf49af49af499f499f498f498f497f497f496f496f495f495f494f494f494f493f493f492f492f491f491f490f490f48ff48ff48ef48ef48df48df48cf48cf48bf48bf48af48af489f489f488f488f488f487f487f486f486f485f485f484f484f483f483f482f482f481f481f480f480f47ff47ff47ef47ef47df47df47cf47cf47cf47bf47bf47af47af479f479f478f478f477f477f476f476f475f475f474f474f473f473f472f472f471f471f470f470f470f46ff46ff46ef46ef46df46df46cf46cf46bf46bf46af46af469f469f468f468f467f467f466f466f465f465f464f464f464f463f463f462f462f461f461f460f460f45ff45ff45ef45ef45df45df45cf45cf45bf45bf45af45af459f459f458f458f457f457f457f456f456f455f455f454f454f453f453f452f452f451f451,
  0xf546f545f545f544f544f543f543f542f542f542f541f541f540f540f53ff53ff53ef53ef53df53df53cf53cf53bf53bf53af53af539f539f538f538f537f537f537f536f536f535f535f534f534f533f533f532f532f531f531f530f530f52ff52ff52ef52ef52df52df52cf52cf52cf52bf52bf52af52af529f529f528f528f527f527f526f526f525f525f524f524f523f523f522f522f521f521f521f520f520f51ff51ff51ef51ef51df51df51cf51cf51bf51bf51af51af519f519f518f518f517f517f516f516f515f515f515f514f514f513f513f512f512f511f511f510f510f50ff50ff50ef50ef50df50df50cf50cf50bf50bf50af50af50af509f509f508f508f507f507f506f506f505f505f504f504f503f503f502f502f501f501f500f500f4fff4fff4fef4fef4fef4fdf4fdf4fcf4fcf4fbf4fbf4faf4faf4f9f4f9f4f8f4f8f4f7f4f7f4f6f4f6f4f5f4f5f4f4f4f4f4f3f4f3f4f3f4f2f4f2f4f1f4f1f4f0f4f0f4eff4eff4eef4eef4edf4edf4ecf4ecf4ebf4ebf4eaf4eaf4e9f4e9f4e8f4e8f4e7f4e7f4e7f4e6f4e6f4e5f4e5f4e4f4e4f4e3f4e3f4e2f4e2f4e1f4e1f4e0f4e0f4dff4dff4def4def4ddf4ddf4dcf4dcf4dcf4dbf4dbf4daf4daf4d9f4d9f4d8f4d8f4d7f4d7f4d6f4d6f4d5f4d5f4d4f4d4f4d3f4d3f4d2f4d2f4d1f4d1f4d0f4d0f4d0f4cff4cff4cef4cef4cdf4cdf4ccf4cc,
  0xf5c0f5c0f5bff5bff5bef5bef5bdf5bdf5bcf5bcf5bbf5bbf5baf5baf5baf5b9f5b9f5b8f5b8f5b7f5b7f5b6f5b6f5b5f5b5f5b4f5b4f5b3f5b3f5b2f5b2f5b1f5b1f5b0f5b0f5aff5aff5aff5aef5aef5adf5adf5acf5acf5abf5abf5aaf5aaf5a9f5a9f5a8f5a8f5a7f5a7f5a6f5a6f5a5f5a5f5a4f5a4f5a4f5a3f5a3f5a2f5a2f5a1f5a1f5a0f5a0f59ff59ff59ef59ef59df59df59cf59cf59bf59bf59af59af59af599f599f598f598f597f597f596f596f595f595f594f594f593f593f592f592f591f591f590f590f58ff58ff58ff58ef58ef58df58df58cf58cf58bf58bf58af58af589f589f588f588f587f587f586f586f585f585f584f584f584f583f583f582f582f581f581f580f580f57ff57ff57ef57ef57df57df57cf57cf57bf57bf57af57af579f579f579f578f578f577f577f576f576f575f575f574f574f573f573f572f572f571f571f570f570f56ff56ff56ef56ef56ef56df56df56cf56cf56bf56bf56af56af569f569f568f568f567f567f566f566f565f565f564f564f563f563f563f562f562f561f561f560f560f55ff55ff55ef55ef55df55df55cf55cf55bf55bf55af55af559f559f558f558f558f557f557f556f556f555f555f554f554f553f553f552f552f551f551f550f550f54ff54ff54ef54ef54df54df54df54cf54cf54bf54bf54af54af549f549f548f548f547f547f546,
  0xf63af63af639f639f638f638f637f637f636f636f635f635f635f634f634f633f633f632f632f631f631f630f630f62ff62ff62ef62ef62df62df62cf62cf62bf62bf62bf62af62af629f629f628f628f627f627f626f626f625f625f624f624f623f623f622f622f621f621f621f620f620f61ff61ff61ef61ef61df61df61cf61cf61bf61bf61af61af619f619f618f618f617f617f617f616f616f615f615f614f614f613f613f612f612f611f611f610f610f60ff60ff60ef60ef60df60df60df60cf60cf60bf60bf60af60af609f609f608f608f607f607f606f606f605f605f604f604f603f603f603f602f602f601f601f600f600f5fff5fff5fef5fef5fdf5fdf5fcf5fcf5fbf5fbf5faf5faf5f9f5f9f5f8f5f8f5f8f5f7f5f7f5f6f5f6f5f5f5f5f5f4f5f4f5f3f5f3f5f2f5f2f5f1f5f1f5f0f5f0f5eff5eff5eef5eef5eef5edf5edf5ecf5ecf5ebf5ebf5eaf5eaf5e9f5e9f5e8f5e8f5e7f5e7f5e6f5e6f5e5f5e5f5e4f5e4f5e4f5e3f5e3f5e2f5e2f5e1f5e1f5e0f5e0f5dff5dff5def5def5ddf5ddf5dcf5dcf5dbf5dbf5daf5daf5d9f5d9f5d9f5d8f5d8f5d7f5d7f5d6f5d6f5d5f5d5f5d4f5d4f5d3f5d3f5d2f5d2f5d1f5d1f5d0f5d0f5cff5cff5cff5cef5cef5cdf5cdf5ccf5ccf5cbf5cbf5caf5caf5c9f5c9f5c8f5c8f5c7f5c7f5c6f5c6f5c5f5c5f5c4f5c4f5c4f5c3f5c3f5c2f5c2f5c1f5c1,
  0xf6b4f6b4f6b3f6b3f6b2f6b2f6b1f6b1f6b0f6b0f6aff6aff6aef6aef6adf6adf6acf6acf6abf6abf6abf6aaf6aaf6a9f6a9f6a8f6a8f6a7f6a7f6a6f6a6f6a5f6a5f6a4f6a4f6a3f6a3f6a2f6a2f6a2f6a1f6a1f6a0f6a0f69ff69ff69ef69ef69df69df69cf69cf69bf69bf69af69af699f699f698f698f698f697f697f696f696f695f695f694f694f693f693f692f692f691f691f690f690f68ff68ff68ef68ef68ef68df68df68cf68cf68bf68bf68af68af689f689f688f688f687f687f686f686f685f685f685f684f684f683f683f682f682f681f681f680f680f67ff67ff67ef67ef67df67df67cf67cf67bf67bf67bf67af67af679f679f678f678f677f677f676f676f675f675f674f674f673f673f672f672f671f671f671f670f670f66ff66ff66ef66ef66df66df66cf66cf66bf66bf66af66af669f669f668f668f667f667f667f666f666f665f665f664f664f663f663f662f662f661f661f660f660f65ff65ff65ef65ef65df65df65df65cf65cf65bf65bf65af65af659f659f658f658f657f657f656f656f655f655f654f654f653f653f653f652f652f651f651f650f650f64ff64ff64ef64ef64df64df64cf64cf64bf64bf64af64af649f649f649f648f648f647f647f646f646f645f645f644f644f643f643f642f642f641f641f640f640f63ff63ff63ff63ef63ef63df63df63cf63cf63bf63b,
  0xf72ef72df72df72cf72cf72bf72bf72af72af729f729f728f728f727f727f726f726f725f725f725f724f724f723f723f722f722f721f721f720f720f71ff71ff71ef71ef71df71df71cf71cf71cf71bf71bf71af71af719f719f718f718f717f717f716f716f715f715f714f714f713f713f713f712f712f711f711f710f710f70ff70ff70ef70ef70df70df70cf70cf70bf70bf70af70af70af709f709f708f708f707f707f706f706f705f705f704f704f703f703f702f702f701f701f700f700f700f6fff6fff6fef6fef6fdf6fdf6fcf6fcf6fbf6fbf6faf6faf6f9f6f9f6f8f6f8f6f7f6f7f6f7f6f6f6f6f6f5f6f5f6f4f6f4f6f3f6f3f6f2f6f2f6f1f6f1f6f0f6f0f6eff6eff6eef6eef6eef6edf6edf6ecf6ecf6ebf6ebf6eaf6eaf6e9f6e9f6e8f6e8f6e7f6e7f6e6f6e6f6e5f6e5f6e4f6e4f6e4f6e3f6e3f6e2f6e2f6e1f6e1f6e0f6e0f6dff6dff6def6def6ddf6ddf6dcf6dcf6dbf6dbf6dbf6daf6daf6d9f6d9f6d8f6d8f6d7f6d7f6d6f6d6f6d5f6d5f6d4f6d4f6d3f6d3f6d2f6d2f6d1f6d1f6d1f6d0f6d0f6cff6cff6cef6cef6cdf6cdf6ccf6ccf6cbf6cbf6caf6caf6c9f6c9f6c8f6c8f6c8f6c7f6c7f6c6f6c6f6c5f6c5f6c4f6c4f6c3f6c3f6c2f6c2f6c1f6c1f6c0f6c0f6bff6bff6bef6bef6bef6bdf6bdf6bcf6bcf6bbf6bbf6baf6baf6b9f6b9f6b8f6b8f6b7f6b7f6b6f6b6f6b5f6b5f6b5,
  0xf7a7f7a6f7a6f7a5f7a5f7a4f7a4f7a3f7a3f7a3f7a2f7a2f7a1f7a1f7a0f7a0f79ff79ff79ef79ef79df79df79cf79cf79bf79bf79af79af79af799f799f798f798f797f797f796f796f795f795f794f794f793f793f792f792f791f791f791f790f790f78ff78ff78ef78ef78df78df78cf78cf78bf78bf78af78af789f789f788f788f788f787f787f786f786f785f785f784f784f783f783f782f782f781f781f780f780f77ff77ff77ff77ef77ef77df77df77cf77cf77bf77bf77af77af779f779f778f778f777f777f777f776f776f775f775f774f774f773f773f772f772f771f771f770f770f76ff76ff76ef76ef76ef76df76df76cf76cf76bf76bf76af76af769f769f768f768f767f767f766f766f765f765f765f764f764f763f763f762f762f761f761f760f760f75ff75ff75ef75ef75df75df75cf75cf75cf75bf75bf75af75af759f759f758f758f757f757f756f756f755f755f754f754f753f753f753f752f752f751f751f750f750f74ff74ff74ef74ef74df74df74cf74cf74bf74bf74af74af74af749f749f748f748f747f747f746f746f745f745f744f744f743f743f742f742f741f741f741f740f740f73ff73ff73ef73ef73df73df73cf73cf73bf73bf73af73af739f739f738f738f737f737f737f736f736f735f735f734f734f733f733f732f732f731f731f730f730f72ff72ff72ef72e,
  0xf820f81ff81ff81ef81ef81df81df81cf81cf81bf81bf81bf81af81af819f819f818f818f817f817f816f816f815f815f814f814f813f813f812f812f812f811f811f810f810f80ff80ff80ef80ef80df80df80cf80cf80bf80bf80af80af80af809f809f808f808f807f807f806f806f805f805f804f804f803f803f802f802f802f801f801f800f800f7fff7fff7fef7fef7fdf7fdf7fcf7fcf7fbf7fbf7faf7faf7f9f7f9f7f9f7f8f7f8f7f7f7f7f7f6f7f6f7f5f7f5f7f4f7f4f7f3f7f3f7f2f7f2f7f1f7f1f7f1f7f0f7f0f7eff7eff7eef7eef7edf7edf7ecf7ecf7ebf7ebf7eaf7eaf7e9f7e9f7e8f7e8f7e8f7e7f7e7f7e6f7e6f7e5f7e5f7e4f7e4f7e3f7e3f7e2f7e2f7e1f7e1f7e0f7e0f7dff7dff7dff7def7def7ddf7ddf7dcf7dcf7dbf7dbf7daf7daf7d9f7d9f7d8f7d8f7d7f7d7f7d7f7d6f7d6f7d5f7d5f7d4f7d4f7d3f7d3f7d2f7d2f7d1f7d1f7d0f7d0f7cff7cff7cef7cef7cef7cdf7cdf7ccf7ccf7cbf7cbf7caf7caf7c9f7c9f7c8f7c8f7c7f7c7f7c6f7c6f7c6f7c5f7c5f7c4f7c4f7c3f7c3f7c2f7c2f7c1f7c1f7c0f7c0f7bff7bff7bef7bef7bdf7bdf7bdf7bcf7bcf7bbf7bbf7baf7baf7b9f7b9f7b8f7b8f7b7f7b7f7b6f7b6f7b5f7b5f7b4f7b4f7b4f7b3f7b3f7b2f7b2f7b1f7b1f7b0f7b0f7aff7aff7aef7aef7adf7adf7acf7acf7abf7abf7abf7aaf7aaf7a9f7a9f7a8f7a8f7a7,
  0xf898f898f897f897f896f896f896f895f895f894f894f893f893f892f892f891f891f890f890f88ff88ff88ef88ef88ef88df88df88cf88cf88bf88bf88af88af889f889f888f888f887f887f886f886f886f885f885f884f884f883f883f882f882f881f881f880f880f87ff87ff87ef87ef87ef87df87df87cf87cf87bf87bf87af87af879f879f878f878f877f877f876f876f876f875f875f874f874f873f873f872f872f871f871f870f870f86ff86ff86ef86ef86ef86df86df86cf86cf86bf86bf86af86af869f869f868f868f867f867f866f866f866f865f865f864f864f863f863f862f862f861f861f860f860f85ff85ff85ef85ef85df85df85df85cf85cf85bf85bf85af85af859f859f858f858f857f857f856f856f855f855f855f854f854f853f853f852f852f851f851f850f850f84ff84ff84ef84ef84df84df84df84cf84cf84bf84bf84af84af849f849f848f848f847f847f846f846f845f845f845f844f844f843f843f842f842f841f841f840f840f83ff83ff83ef83ef83df83df83cf83cf83cf83bf83bf83af83af839f839f838f838f837f837f836f836f835f835f834f834f834f833f833f832f832f831f831f830f830f82ff82ff82ef82ef82df82df82cf82cf82cf82bf82bf82af82af829f829f828f828f827f827f826f826f825f825f824f824f823f823f823f822f822f821f821f820,
  0xf911f910f910f90ff90ff90ef90ef90df90df90df90cf90cf90bf90bf90af90af909f909f908f908f907f907f906f906f906f905f905f904f904f903f903f902f902f901f901f900f900f8fff8fff8fef8fef8fef8fdf8fdf8fcf8fcf8fbf8fbf8faf8faf8f9f8f9f8f8f8f8f8f7f8f7f8f6f8f6f8f6f8f5f8f5f8f4f8f4f8f3f8f3f8f2f8f2f8f1f8f1f8f0f8f0f8eff8eff8eef8eef8eef8edf8edf8ecf8ecf8ebf8ebf8eaf8eaf8e9f8e9f8e8f8e8f8e7f8e7f8e6f8e6f8e6f8e5f8e5f8e4f8e4f8e3f8e3f8e2f8e2f8e1f8e1f8e0f8e0f8dff8dff8def8def8def8ddf8ddf8dcf8dcf8dbf8dbf8daf8daf8d9f8d9f8d8f8d8f8d7f8d7f8d6f8d6f8d6f8d5f8d5f8d4f8d4f8d3f8d3f8d2f8d2f8d1f8d1f8d0f8d0f8cff8cff8cef8cef8cef8cdf8cdf8ccf8ccf8cbf8cbf8caf8caf8c9f8c9f8c8f8c8f8c7f8c7f8c7f8c6f8c6f8c5f8c5f8c4f8c4f8c3f8c3f8c2f8c2f8c1f8c1f8c0f8c0f8bff8bff8bff8bef8bef8bdf8bdf8bcf8bcf8bbf8bbf8baf8baf8b9f8b9f8b8f8b8f8b7f8b7f8b7f8b6f8b6f8b5f8b5f8b4f8b4f8b3f8b3f8b2f8b2f8b1f8b1f8b0f8b0f8aff8aff8aff8aef8aef8adf8adf8acf8acf8abf8abf8aaf8aaf8a9f8a9f8a8f8a8f8a7f8a7f8a7f8a6f8a6f8a5f8a5f8a4f8a4f8a3f8a3f8a2f8a2f8a1f8a1f8a0f8a0f89ff89ff89ff89ef89ef89df89df89cf89cf89bf89bf89af89af899f899,
  0xf989f988f988f987f987f987f986f986f985f985f984f984f983f983f982f982f981f981f980f980f980f97ff97ff97ef97ef97df97df97cf97cf97bf97bf97af97af979f979f978f978f978f977f977f976f976f975f975f974f974f973f973f972f972f971f971f971f970f970f96ff96ff96ef96ef96df96df96cf96cf96bf96bf96af96af969f969f969f968f968f967f967f966f966f965f965f964f964f963f963f962f962f962f961f961f960f960f95ff95ff95ef95ef95df95df95cf95cf95bf95bf95af95af95af959f959f958f958f957f957f956f956f955f955f954f954f953f953f953f952f952f951f951f950f950f94ff94ff94ef94ef94df94df94cf94cf94bf94bf94bf94af94af949f949f948f948f947f947f946f946f945f945f944f944f943f943f943f942f942f941f941f940f940f93ff93ff93ef93ef93df93df93cf93cf93cf93bf93bf93af93af939f939f938f938f937f937f936f936f935f935f934f934f934f933f933f932f932f931f931f930f930f92ff92ff92ef92ef92df92df92cf92cf92cf92bf92bf92af92af929f929f928f928f927f927f926f926f925f925f925f924f924f923f923f922f922f921f921f920f920f91ff91ff91ef91ef91df91df91df91cf91cf91bf91bf91af91af919f919f918f918f917f917f916f916f915f915f915f914f914f913f913f912f912f911,
  0xfa01fa00fa00f9fff9fff9fef9fef9fdf9fdf9fdf9fcf9fcf9fbf9fbf9faf9faf9f9f9f9f9f8f9f8f9f7f9f7f9f6f9f6f9f6f9f5f9f5f9f4f9f4f9f3f9f3f9f2f9f2f9f1f9f1f9f0f9f0f9eff9eff9eff9eef9eef9edf9edf9ecf9ecf9ebf9ebf9eaf9eaf9e9f9e9f9e8f9e8f9e7f9e7f9e7f9e6f9e6f9e5f9e5f9e4f9e4f9e3f9e3f9e2f9e2f9e1f9e1f9e0f9e0f9e0f9dff9dff9def9def9ddf9ddf9dcf9dcf9dbf9dbf9daf9daf9d9f9d9f9d9f9d8f9d8f9d7f9d7f9d6f9d6f9d5f9d5f9d4f9d4f9d3f9d3f9d2f9d2f9d2f9d1f9d1f9d0f9d0f9cff9cff9cef9cef9cdf9cdf9ccf9ccf9cbf9cbf9caf9caf9caf9c9f9c9f9c8f9c8f9c7f9c7f9c6f9c6f9c5f9c5f9c4f9c4f9c3f9c3f9c3f9c2f9c2f9c1f9c1f9c0f9c0f9bff9bff9bef9bef9bdf9bdf9bcf9bcf9bbf9bbf9bbf9baf9baf9b9f9b9f9b8f9b8f9b7f9b7f9b6f9b6f9b5f9b5f9b4f9b4f9b4f9b3f9b3f9b2f9b2f9b1f9b1f9b0f9b0f9aff9aff9aef9aef9adf9adf9adf9acf9acf9abf9abf9aaf9aaf9a9f9a9f9a8f9a8f9a7f9a7f9a6f9a6f9a5f9a5f9a5f9a4f9a4f9a3f9a3f9a2f9a2f9a1f9a1f9a0f9a0f99ff99ff99ef99ef99ef99df99df99cf99cf99bf99bf99af99af999f999f998f998f997f997f996f996f996f995f995f994f994f993f993f992f992f991f991f990f990f98ff98ff98ff98ef98ef98df98df98cf98cf98bf98bf98af98af989,
  0xfa78fa78fa77fa77fa76fa76fa76fa75fa75fa74fa74fa73fa73fa72fa72fa71fa71fa70fa70fa6ffa6ffa6ffa6efa6efa6dfa6dfa6cfa6cfa6bfa6bfa6afa6afa69fa69fa68fa68fa68fa67fa67fa66fa66fa65fa65fa64fa64fa63fa63fa62fa62fa61fa61fa61fa60fa60fa5ffa5ffa5efa5efa5dfa5dfa5cfa5cfa5bfa5bfa5afa5afa5afa59fa59fa58fa58fa57fa57fa56fa56fa55fa55fa54fa54fa53fa53fa53fa52fa52fa51fa51fa50fa50fa4ffa4ffa4efa4efa4dfa4dfa4cfa4cfa4cfa4bfa4bfa4afa4afa49fa49fa48fa48fa47fa47fa46fa46fa45fa45fa45fa44fa44fa43fa43fa42fa42fa41fa41fa40fa40fa3ffa3ffa3efa3efa3efa3dfa3dfa3cfa3cfa3bfa3bfa3afa3afa39fa39fa38fa38fa37fa37fa37fa36fa36fa35fa35fa34fa34fa33fa33fa32fa32fa31fa31fa30fa30fa30fa2ffa2ffa2efa2efa2dfa2dfa2cfa2cfa2bfa2bfa2afa2afa29fa29fa28fa28fa28fa27fa27fa26fa26fa25fa25fa24fa24fa23fa23fa22fa22fa21fa21fa21fa20fa20fa1ffa1ffa1efa1efa1dfa1dfa1cfa1cfa1bfa1bfa1afa1afa1afa19fa19fa18fa18fa17fa17fa16fa16fa15fa15fa14fa14fa13fa13fa13fa12fa12fa11fa11fa10fa10fa0ffa0ffa0efa0efa0dfa0dfa0cfa0cfa0cfa0bfa0bfa0afa0afa09fa09fa08fa08fa07fa07fa06fa06fa05fa05fa04fa04fa04fa03fa03fa02fa02fa01,
  0xfaf0faeffaeffaeefaeefaedfaedfaecfaecfaebfaebfaebfaeafaeafae9fae9fae8fae8fae7fae7fae6fae6fae5fae5fae4fae4fae4fae3fae3fae2fae2fae1fae1fae0fae0fadffadffadefadefaddfaddfaddfadcfadcfadbfadbfadafadafad9fad9fad8fad8fad7fad7fad7fad6fad6fad5fad5fad4fad4fad3fad3fad2fad2fad1fad1fad0fad0fad0facffacffacefacefacdfacdfaccfaccfacbfacbfacafacafac9fac9fac9fac8fac8fac7fac7fac6fac6fac5fac5fac4fac4fac3fac3fac2fac2fac2fac1fac1fac0fac0fabffabffabefabefabdfabdfabcfabcfabbfabbfabbfabafabafab9fab9fab8fab8fab7fab7fab6fab6fab5fab5fab5fab4fab4fab3fab3fab2fab2fab1fab1fab0fab0faaffaaffaaefaaefaaefaadfaadfaacfaacfaabfaabfaaafaaafaa9faa9faa8faa8faa7faa7faa7faa6faa6faa5faa5faa4faa4faa3faa3faa2faa2faa1faa1faa0faa0faa0fa9ffa9ffa9efa9efa9dfa9dfa9cfa9cfa9bfa9bfa9afa9afa99fa99fa99fa98fa98fa97fa97fa96fa96fa95fa95fa94fa94fa93fa93fa92fa92fa92fa91fa91fa90fa90fa8ffa8ffa8efa8efa8dfa8dfa8cfa8cfa8bfa8bfa8bfa8afa8afa89fa89fa88fa88fa87fa87fa86fa86fa85fa85fa84fa84fa84fa83fa83fa82fa82fa81fa81fa80fa80fa7ffa7ffa7efa7efa7dfa7dfa7dfa7cfa7cfa7bfa7bfa7afa7afa79fa79,
  0xfb67fb66fb66fb65fb65fb64fb64fb63fb63fb63fb62fb62fb61fb61fb60fb60fb5ffb5ffb5efb5efb5dfb5dfb5cfb5cfb5cfb5bfb5bfb5afb5afb59fb59fb58fb58fb57fb57fb56fb56fb56fb55fb55fb54fb54fb53fb53fb52fb52fb51fb51fb50fb50fb4ffb4ffb4ffb4efb4efb4dfb4dfb4cfb4cfb4bfb4bfb4afb4afb49fb49fb49fb48fb48fb47fb47fb46fb46fb45fb45fb44fb44fb43fb43fb42fb42fb42fb41fb41fb40fb40fb3ffb3ffb3efb3efb3dfb3dfb3cfb3cfb3bfb3bfb3bfb3afb3afb39fb39fb38fb38fb37fb37fb36fb36fb35fb35fb35fb34fb34fb33fb33fb32fb32fb31fb31fb30fb30fb2ffb2ffb2efb2efb2efb2dfb2dfb2cfb2cfb2bfb2bfb2afb2afb29fb29fb28fb28fb27fb27fb27fb26fb26fb25fb25fb24fb24fb23fb23fb22fb22fb21fb21fb21fb20fb20fb1ffb1ffb1efb1efb1dfb1dfb1cfb1cfb1bfb1bfb1afb1afb1afb19fb19fb18fb18fb17fb17fb16fb16fb15fb15fb14fb14fb13fb13fb13fb12fb12fb11fb11fb10fb10fb0ffb0ffb0efb0efb0dfb0dfb0dfb0cfb0cfb0bfb0bfb0afb0afb09fb09fb08fb08fb07fb07fb06fb06fb06fb05fb05fb04fb04fb03fb03fb02fb02fb01fb01fb00fb00fafffafffafffafefafefafdfafdfafcfafcfafbfafbfafafafafaf9faf9faf9faf8faf8faf7faf7faf6faf6faf5faf5faf4faf4faf3faf3faf2faf2faf2faf1faf1faf0,
  0xfbdefbddfbddfbdcfbdcfbdbfbdbfbdafbdafbd9fbd9fbd8fbd8fbd7fbd7fbd7fbd6fbd6fbd5fbd5fbd4fbd4fbd3fbd3fbd2fbd2fbd1fbd1fbd1fbd0fbd0fbcffbcffbcefbcefbcdfbcdfbccfbccfbcbfbcbfbcafbcafbcafbc9fbc9fbc8fbc8fbc7fbc7fbc6fbc6fbc5fbc5fbc4fbc4fbc4fbc3fbc3fbc2fbc2fbc1fbc1fbc0fbc0fbbffbbffbbefbbefbbefbbdfbbdfbbcfbbcfbbbfbbbfbbafbbafbb9fbb9fbb8fbb8fbb7fbb7fbb7fbb6fbb6fbb5fbb5fbb4fbb4fbb3fbb3fbb2fbb2fbb1fbb1fbb1fbb0fbb0fbaffbaffbaefbaefbadfbadfbacfbacfbabfbabfbaafbaafbaafba9fba9fba8fba8fba7fba7fba6fba6fba5fba5fba4fba4fba4fba3fba3fba2fba2fba1fba1fba0fba0fb9ffb9ffb9efb9efb9dfb9dfb9dfb9cfb9cfb9bfb9bfb9afb9afb99fb99fb98fb98fb97fb97fb97fb96fb96fb95fb95fb94fb94fb93fb93fb92fb92fb91fb91fb91fb90fb90fb8ffb8ffb8efb8efb8dfb8dfb8cfb8cfb8bfb8bfb8afb8afb8afb89fb89fb88fb88fb87fb87fb86fb86fb85fb85fb84fb84fb84fb83fb83fb82fb82fb81fb81fb80fb80fb7ffb7ffb7efb7efb7dfb7dfb7dfb7cfb7cfb7bfb7bfb7afb7afb79fb79fb78fb78fb77fb77fb77fb76fb76fb75fb75fb74fb74fb73fb73fb72fb72fb71fb71fb70fb70fb70fb6ffb6ffb6efb6efb6dfb6dfb6cfb6cfb6bfb6bfb6afb6afb6afb69fb69fb68fb68fb67,
  0xfc54fc54fc53fc53fc52fc52fc51fc51fc50fc50fc4ffc4ffc4efc4efc4efc4dfc4dfc4cfc4cfc4bfc4bfc4afc4afc49fc49fc48fc48fc48fc47fc47fc46fc46fc45fc45fc44fc44fc43fc43fc42fc42fc42fc41fc41fc40fc40fc3ffc3ffc3efc3efc3dfc3dfc3cfc3cfc3cfc3bfc3bfc3afc3afc39fc39fc38fc38fc37fc37fc36fc36fc35fc35fc35fc34fc34fc33fc33fc32fc32fc31fc31fc30fc30fc2ffc2ffc2ffc2efc2efc2dfc2dfc2cfc2cfc2bfc2bfc2afc2afc29fc29fc29fc28fc28fc27fc27fc26fc26fc25fc25fc24fc24fc23fc23fc23fc22fc22fc21fc21fc20fc20fc1ffc1ffc1efc1efc1dfc1dfc1dfc1cfc1cfc1bfc1bfc1afc1afc19fc19fc18fc18fc17fc17fc16fc16fc16fc15fc15fc14fc14fc13fc13fc12fc12fc11fc11fc10fc10fc10fc0ffc0ffc0efc0efc0dfc0dfc0cfc0cfc0bfc0bfc0afc0afc0afc09fc09fc08fc08fc07fc07fc06fc06fc05fc05fc04fc04fc03fc03fc03fc02fc02fc01fc01fc00fc00fbfffbfffbfefbfefbfdfbfdfbfdfbfcfbfcfbfbfbfbfbfafbfafbf9fbf9fbf8fbf8fbf7fbf7fbf7fbf6fbf6fbf5fbf5fbf4fbf4fbf3fbf3fbf2fbf2fbf1fbf1fbf1fbf0fbf0fbeffbeffbeefbeefbedfbedfbecfbecfbebfbebfbeafbeafbeafbe9fbe9fbe8fbe8fbe7fbe7fbe6fbe6fbe5fbe5fbe4fbe4fbe4fbe3fbe3fbe2fbe2fbe1fbe1fbe0fbe0fbdffbdffbdefbde,
  0xfccafccafcc9fcc9fcc8fcc8fcc8fcc7fcc7fcc6fcc6fcc5fcc5fcc4fcc4fcc3fcc3fcc2fcc2fcc2fcc1fcc1fcc0fcc0fcbffcbffcbefcbefcbdfcbdfcbcfcbcfcbcfcbbfcbbfcbafcbafcb9fcb9fcb8fcb8fcb7fcb7fcb6fcb6fcb6fcb5fcb5fcb4fcb4fcb3fcb3fcb2fcb2fcb1fcb1fcb0fcb0fcb0fcaffcaffcaefcaefcadfcadfcacfcacfcabfcabfcaafcaafcaafca9fca9fca8fca8fca7fca7fca6fca6fca5fca5fca4fca4fca4fca3fca3fca2fca2fca1fca1fca0fca0fc9ffc9ffc9efc9efc9efc9dfc9dfc9cfc9cfc9bfc9bfc9afc9afc99fc99fc98fc98fc98fc97fc97fc96fc96fc95fc95fc94fc94fc93fc93fc92fc92fc92fc91fc91fc90fc90fc8ffc8ffc8efc8efc8dfc8dfc8cfc8cfc8bfc8bfc8bfc8afc8afc89fc89fc88fc88fc87fc87fc86fc86fc85fc85fc85fc84fc84fc83fc83fc82fc82fc81fc81fc80fc80fc7ffc7ffc7ffc7efc7efc7dfc7dfc7cfc7cfc7bfc7bfc7afc7afc79fc79fc79fc78fc78fc77fc77fc76fc76fc75fc75fc74fc74fc73fc73fc73fc72fc72fc71fc71fc70fc70fc6ffc6ffc6efc6efc6dfc6dfc6dfc6cfc6cfc6bfc6bfc6afc6afc69fc69fc68fc68fc67fc67fc67fc66fc66fc65fc65fc64fc64fc63fc63fc62fc62fc61fc61fc61fc60fc60fc5ffc5ffc5efc5efc5dfc5dfc5cfc5cfc5bfc5bfc5bfc5afc5afc59fc59fc58fc58fc57fc57fc56fc56fc55fc55fc54,
  0xfd40fd40fd3ffd3ffd3efd3efd3efd3dfd3dfd3cfd3cfd3bfd3bfd3afd3afd39fd39fd38fd38fd38fd37fd37fd36fd36fd35fd35fd34fd34fd33fd33fd32fd32fd32fd31fd31fd30fd30fd2ffd2ffd2efd2efd2dfd2dfd2cfd2cfd2cfd2bfd2bfd2afd2afd29fd29fd28fd28fd27fd27fd27fd26fd26fd25fd25fd24fd24fd23fd23fd22fd22fd21fd21fd21fd20fd20fd1ffd1ffd1efd1efd1dfd1dfd1cfd1cfd1bfd1bfd1bfd1afd1afd19fd19fd18fd18fd17fd17fd16fd16fd15fd15fd15fd14fd14fd13fd13fd12fd12fd11fd11fd10fd10fd0ffd0ffd0ffd0efd0efd0dfd0dfd0cfd0cfd0bfd0bfd0afd0afd09fd09fd09fd08fd08fd07fd07fd06fd06fd05fd05fd04fd04fd03fd03fd03fd02fd02fd01fd01fd00fd00fcfffcfffcfefcfefcfdfcfdfcfdfcfcfcfcfcfbfcfbfcfafcfafcf9fcf9fcf8fcf8fcf7fcf7fcf7fcf6fcf6fcf5fcf5fcf4fcf4fcf3fcf3fcf2fcf2fcf2fcf1fcf1fcf0fcf0fceffceffceefceefcedfcedfcecfcecfcecfcebfcebfceafceafce9fce9fce8fce8fce7fce7fce6fce6fce6fce5fce5fce4fce4fce3fce3fce2fce2fce1fce1fce0fce0fce0fcdffcdffcdefcdefcddfcddfcdcfcdcfcdbfcdbfcdafcdafcdafcd9fcd9fcd8fcd8fcd7fcd7fcd6fcd6fcd5fcd5fcd4fcd4fcd4fcd3fcd3fcd2fcd2fcd1fcd1fcd0fcd0fccffccffccefccefccefccdfccdfcccfcccfccbfccb,
  0xfdb6fdb6fdb5fdb5fdb4fdb4fdb3fdb3fdb2fdb2fdb1fdb1fdb1fdb0fdb0fdaffdaffdaefdaefdadfdadfdacfdacfdabfdabfdabfdaafdaafda9fda9fda8fda8fda7fda7fda6fda6fda6fda5fda5fda4fda4fda3fda3fda2fda2fda1fda1fda0fda0fda0fd9ffd9ffd9efd9efd9dfd9dfd9cfd9cfd9bfd9bfd9afd9afd9afd99fd99fd98fd98fd97fd97fd96fd96fd95fd95fd95fd94fd94fd93fd93fd92fd92fd91fd91fd90fd90fd8ffd8ffd8ffd8efd8efd8dfd8dfd8cfd8cfd8bfd8bfd8afd8afd89fd89fd89fd88fd88fd87fd87fd86fd86fd85fd85fd84fd84fd83fd83fd83fd82fd82fd81fd81fd80fd80fd7ffd7ffd7efd7efd7efd7dfd7dfd7cfd7cfd7bfd7bfd7afd7afd79fd79fd78fd78fd78fd77fd77fd76fd76fd75fd75fd74fd74fd73fd73fd72fd72fd72fd71fd71fd70fd70fd6ffd6ffd6efd6efd6dfd6dfd6cfd6cfd6cfd6bfd6bfd6afd6afd69fd69fd68fd68fd67fd67fd67fd66fd66fd65fd65fd64fd64fd63fd63fd62fd62fd61fd61fd61fd60fd60fd5ffd5ffd5efd5efd5dfd5dfd5cfd5cfd5bfd5bfd5bfd5afd5afd59fd59fd58fd58fd57fd57fd56fd56fd55fd55fd55fd54fd54fd53fd53fd52fd52fd51fd51fd50fd50fd4ffd4ffd4ffd4efd4efd4dfd4dfd4cfd4cfd4bfd4bfd4afd4afd4afd49fd49fd48fd48fd47fd47fd46fd46fd45fd45fd44fd44fd44fd43fd43fd42fd42fd41fd41,
  0xfe2cfe2bfe2bfe2afe2afe29fe29fe28fe28fe27fe27fe27fe26fe26fe25fe25fe24fe24fe23fe23fe22fe22fe21fe21fe21fe20fe20fe1ffe1ffe1efe1efe1dfe1dfe1cfe1cfe1bfe1bfe1bfe1afe1afe19fe19fe18fe18fe17fe17fe16fe16fe16fe15fe15fe14fe14fe13fe13fe12fe12fe11fe11fe10fe10fe10fe0ffe0ffe0efe0efe0dfe0dfe0cfe0cfe0bfe0bfe0bfe0afe0afe09fe09fe08fe08fe07fe07fe06fe06fe05fe05fe05fe04fe04fe03fe03fe02fe02fe01fe01fe00fe00fe00fdfffdfffdfefdfefdfdfdfdfdfcfdfcfdfbfdfbfdfafdfafdfafdf9fdf9fdf8fdf8fdf7fdf7fdf6fdf6fdf5fdf5fdf5fdf4fdf4fdf3fdf3fdf2fdf2fdf1fdf1fdf0fdf0fdeffdeffdeffdeefdeefdedfdedfdecfdecfdebfdebfdeafdeafde9fde9fde9fde8fde8fde7fde7fde6fde6fde5fde5fde4fde4fde4fde3fde3fde2fde2fde1fde1fde0fde0fddffddffddefddefddefdddfdddfddcfddcfddbfddbfddafddafdd9fdd9fdd9fdd8fdd8fdd7fdd7fdd6fdd6fdd5fdd5fdd4fdd4fdd3fdd3fdd3fdd2fdd2fdd1fdd1fdd0fdd0fdcffdcffdcefdcefdcdfdcdfdcdfdccfdccfdcbfdcbfdcafdcafdc9fdc9fdc8fdc8fdc8fdc7fdc7fdc6fdc6fdc5fdc5fdc4fdc4fdc3fdc3fdc2fdc2fdc2fdc1fdc1fdc0fdc0fdbffdbffdbefdbefdbdfdbdfdbcfdbcfdbcfdbbfdbbfdbafdbafdb9fdb9fdb8fdb8fdb7fdb7fdb7,
  0xfea1fea0fea0fe9ffe9ffe9efe9efe9efe9dfe9dfe9cfe9cfe9bfe9bfe9afe9afe99fe99fe99fe98fe98fe97fe97fe96fe96fe95fe95fe94fe94fe94fe93fe93fe92fe92fe91fe91fe90fe90fe8ffe8ffe8efe8efe8efe8dfe8dfe8cfe8cfe8bfe8bfe8afe8afe89fe89fe89fe88fe88fe87fe87fe86fe86fe85fe85fe84fe84fe84fe83fe83fe82fe82fe81fe81fe80fe80fe7ffe7ffe7efe7efe7efe7dfe7dfe7cfe7cfe7bfe7bfe7afe7afe79fe79fe79fe78fe78fe77fe77fe76fe76fe75fe75fe74fe74fe73fe73fe73fe72fe72fe71fe71fe70fe70fe6ffe6ffe6efe6efe6efe6dfe6dfe6cfe6cfe6bfe6bfe6afe6afe69fe69fe68fe68fe68fe67fe67fe66fe66fe65fe65fe64fe64fe63fe63fe63fe62fe62fe61fe61fe60fe60fe5ffe5ffe5efe5efe5dfe5dfe5dfe5cfe5cfe5bfe5bfe5afe5afe59fe59fe58fe58fe58fe57fe57fe56fe56fe55fe55fe54fe54fe53fe53fe53fe52fe52fe51fe51fe50fe50fe4ffe4ffe4efe4efe4dfe4dfe4dfe4cfe4cfe4bfe4bfe4afe4afe49fe49fe48fe48fe48fe47fe47fe46fe46fe45fe45fe44fe44fe43fe43fe42fe42fe42fe41fe41fe40fe40fe3ffe3ffe3efe3efe3dfe3dfe3dfe3cfe3cfe3bfe3bfe3afe3afe39fe39fe38fe38fe37fe37fe37fe36fe36fe35fe35fe34fe34fe33fe33fe32fe32fe32fe31fe31fe30fe30fe2ffe2ffe2efe2efe2dfe2dfe2cfe2c,
  0xff16ff15ff15ff14ff14ff13ff13ff13ff12ff12ff11ff11ff10ff10ff0fff0fff0eff0eff0eff0dff0dff0cff0cff0bff0bff0aff0aff09ff09ff09ff08ff08ff07ff07ff06ff06ff05ff05ff04ff04ff04ff03ff03ff02ff02ff01ff01ff00ff00fefffefffefefefefefefefdfefdfefcfefcfefbfefbfefafefafef9fef9fef9fef8fef8fef7fef7fef6fef6fef5fef5fef4fef4fef4fef3fef3fef2fef2fef1fef1fef0fef0feeffeeffeeffeeefeeefeedfeedfeecfeecfeebfeebfeeafeeafee9fee9fee9fee8fee8fee7fee7fee6fee6fee5fee5fee4fee4fee4fee3fee3fee2fee2fee1fee1fee0fee0fedffedffedffedefedefeddfeddfedcfedcfedbfedbfedafedafed9fed9fed9fed8fed8fed7fed7fed6fed6fed5fed5fed4fed4fed4fed3fed3fed2fed2fed1fed1fed0fed0fecffecffecffecefecefecdfecdfeccfeccfecbfecbfecafecafec9fec9fec9fec8fec8fec7fec7fec6fec6fec5fec5fec4fec4fec4fec3fec3fec2fec2fec1fec1fec0fec0febffebffebffebefebefebdfebdfebcfebcfebbfebbfebafebafeb9feb9feb9feb8feb8feb7feb7feb6feb6feb5feb5feb4feb4feb4feb3feb3feb2feb2feb1feb1feb0feb0feaffeaffeaffeaefeaefeadfeadfeacfeacfeabfeabfeaafeaafea9fea9fea9fea8fea8fea7fea7fea6fea6fea5fea5fea4fea4fea4fea3fea3fea2fea2fea1,
  0xff8bff8aff8aff89ff89ff88ff88ff87ff87ff86ff86ff86ff85ff85ff84ff84ff83ff83ff82ff82ff81ff81ff80ff80ff80ff7fff7fff7eff7eff7dff7dff7cff7cff7bff7bff7bff7aff7aff79ff79ff78ff78ff77ff77ff76ff76ff76ff75ff75ff74ff74ff73ff73ff72ff72ff71ff71ff71ff70ff70ff6fff6fff6eff6eff6dff6dff6cff6cff6cff6bff6bff6aff6aff69ff69ff68ff68ff67ff67ff67ff66ff66ff65ff65ff64ff64ff63ff63ff62ff62ff62ff61ff61ff60ff60ff5fff5fff5eff5eff5dff5dff5cff5cff5cff5bff5bff5aff5aff59ff59ff58ff58ff57ff57ff57ff56ff56ff55ff55ff54ff54ff53ff53ff52ff52ff52ff51ff51ff50ff50ff4fff4fff4eff4eff4dff4dff4dff4cff4cff4bff4bff4aff4aff49ff49ff48ff48ff48ff47ff47ff46ff46ff45ff45ff44ff44ff43ff43ff42ff42ff42ff41ff41ff40ff40ff3fff3fff3eff3eff3dff3dff3dff3cff3cff3bff3bff3aff3aff39ff39ff38ff38ff38ff37ff37ff36ff36ff35ff35ff34ff34ff33ff33ff33ff32ff32ff31ff31ff30ff30ff2fff2fff2eff2eff2eff2dff2dff2cff2cff2bff2bff2aff2aff29ff29ff28ff28ff28ff27ff27ff26ff26ff25ff25ff24ff24ff23ff23ff23ff22ff22ff21ff21ff20ff20ff1fff1fff1eff1eff1eff1dff1dff1cff1cff1bff1bff1aff1aff19ff19ff19ff18ff18ff17ff17ff16,
  0xfffffffffffefffefffdfffdfffcfffcfffbfffbfffafffafffafff9fff9fff8fff8fff7fff7fff6fff6fff5fff5fff5fff4fff4fff3fff3fff2fff2fff1fff1fff0fff0fff0ffefffefffeeffeeffedffedffecffecffebffebffebffeaffeaffe9ffe9ffe8ffe8ffe7ffe7ffe6ffe6ffe6ffe5ffe5ffe4ffe4ffe3ffe3ffe2ffe2ffe1ffe1ffe1ffe0ffe0ffdfffdfffdeffdeffddffddffdcffdcffdcffdbffdbffdaffdaffd9ffd9ffd8ffd8ffd7ffd7ffd7ffd6ffd6ffd5ffd5ffd4ffd4ffd3ffd3ffd2ffd2ffd2ffd1ffd1ffd0ffd0ffcfffcfffceffceffcdffcdffcdffccffccffcbffcbffcaffcaffc9ffc9ffc8ffc8ffc8ffc7ffc7ffc6ffc6ffc5ffc5ffc4ffc4ffc3ffc3ffc3ffc2ffc2ffc1ffc1ffc0ffc0ffbfffbfffbeffbeffbeffbdffbdffbcffbcffbbffbbffbaffbaffb9ffb9ffb9ffb8ffb8ffb7ffb7ffb6ffb6ffb5ffb5ffb4ffb4ffb3ffb3ffb3ffb2ffb2ffb1ffb1ffb0ffb0ffafffafffaeffaeffaeffadffadffacffacffabffabffaaffaaffa9ffa9ffa9ffa8ffa8ffa7ffa7ffa6ffa6ffa5ffa5ffa4ffa4ffa4ffa3ffa3ffa2ffa2ffa1ffa1ffa0ffa0ff9fff9fff9fff9eff9eff9dff9dff9cff9cff9bff9bff9aff9aff9aff99ff99ff98ff98ff97ff97ff96ff96ff95ff95ff95ff94ff94ff93ff93ff92ff92ff91ff91ff90ff90ff90ff8fff8fff8eff8eff8dff8dff8cff8cff8bff8b]

/-- complete-domain check: end points fixed, every consecutive pair ordered -/
theorem gamma22_bwd_u16_u16_ok : Fir.tableOk 65536 16 gamma22_bwd_u16_u16 = true :=
  Fir.Proofs.tableOk_of_tableAsc (by decide +kernel)

end Fir.Gen.Color
