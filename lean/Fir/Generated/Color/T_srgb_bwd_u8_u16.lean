/-
  GENERATED by /verif/tools/extract_tables.py from the tables of the running implementation - do not edit.
-/
import Fir.Proofs.ColorLemmas
namespace Fir.Gen.Color

/-- table `srgb_bwd_u8_u16` (256 entries of 16 bits), packed 256 entries per numeral -/
def srgb_bwd_u8_u16 : List Nat := [
  0xffffff8eff1dfeabfe39fdc7fd54fce2fc6ffbfcfb88fb14faa0fa2cf9b7f942f8cdf858f7e2f76cf6f6f67ff608f591f519f4a1f429f3b1f338f2bff246f1ccf152f0d8f05defe2ef67eeebee6fedf3ed76ecf9ec7cebfeeb80eb02ea83ea04e985e905e885e804e784e702e681e5ffe57ce4fae477e3f3e36fe2ebe266e1e1e15be0d6e04fdfc8df41debade32dda9dd20dc97dc0ddb83daf8da6dd9e2d956d8c9d83cd7afd721d693d604d574d4e4d454d3c3d332d2a0d20ed17bd0e7d053cfbfcf2ace94cdfecd67ccd0cc38cb9fcb06ca6dc9d2c937c89cc800c763c6c6c628c589c4eac44ac3a9c308c266c1c3c120c07cbfd7bf32be8bbde4bd3dbc94bbebbb41ba96b9eab93eb891b7e3b734b684b5d3b522b46fb3bcb308b253b19cb0e5b02daf74aebaadffad43ac86abc8ab09aa49a988a8c5a801a73da677a5b0a4e7a41ea353a287a1b9a0eba01b9f499e769da29ccc9bf59b1c9a429966988997aa96ca95e79503941d9336924c916190748f858e948da08cab8bb48aba89be88c087bf86bc85b784af83a48297818780747f5e7e457d297c0a7ae779c17898776b763a750573cc728f714e70086ebe6d6e6c1a6ac0696167fc6691652063a9622a60a45f165d815be35a3b588b56cf55095338515a4f6e4d744b6a494f472144de428440113d813ad037f934f731c12e4d2a8b266721be1c5715bf0cc20000]

/-- complete-domain check: end points fixed, every consecutive pair ordered -/
theorem srgb_bwd_u8_u16_ok : Fir.tableOk 256 16 srgb_bwd_u8_u16 = true :=
  Fir.Proofs.tableOk_of_tableAsc (by decide +kernel)

end Fir.Gen.Color
