/-
  GENERATED by /verif/tools/extract_tables.py from the tables of the running implementation - do not edit.
-/
import Fir.Proofs.ColorLemmas
namespace Fir.Gen.Color

/-- table `gamma22_fwd_u8_u8` (256 entries of 8 bits), packed 256 entries per numeral -/
def gamma22_fwd_u8_u8 : List Nat := [
  0xfffdfbf8f6f4f2f0eeeceae7e5e3e1dfdddbd9d7d5d3d1cfcdcbc9c7c5c4c2c0bebcbab8b6b5b3b1afadacaaa8a6a5a3a19f9e9c9a9997959492918f8d8c8a8987858482817f7e7c7b797877757472716f6e6d6b6a696766646362615f5e5d5b5a59585755545352514f4e4d4c4b4a4947464544434241403f3e3d3c3b3a39383736353433323131302f2e2d2c2b2b2a292827272625242323222121201f1e1e1d1c1c1b1a1a1919181717161615141413131212111110100f0f0e0e0d0d0d0c0c0b0b0b0a0a09090908080807070706060606050505050404040403030303030202020202020201010101010101010101000000000000000000000000000000]

/-- complete-domain check: end points fixed, every consecutive pair ordered -/
theorem gamma22_fwd_u8_u8_ok : Fir.tableOk 256 8 gamma22_fwd_u8_u8 = true :=
  Fir.Proofs.tableOk_of_tableAsc (by decide +kernel)

end Fir.Gen.Color
