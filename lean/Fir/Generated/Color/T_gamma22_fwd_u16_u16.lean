/-
  GENERATED by /verif/tools/extract_tables.py from the tables of the running implementation - do not edit.
-/
import Fir.Proofs.ColorLemmas
namespace Fir.Gen.Color

/-- table `gamma22_fwd_u16_u16` (65536 entries of 16 bits), packed 256 entries per numeral -/
def gamma22_fwd_u16_u16 : List Nat := [
  0x0,
  0x2000200010001000100010001000100010001000100010001000100010001000100010001000100010001000100010001000100010001000100010001000100010001000100010001000100010001000100010001000100010001000100010001000100010001000100010001000100010001000100010001000100010001000100010001000100010001000100010001000100010001000100010001000100010001000100010001000100010001000100010001000100010001000100010001000100010001000100010001000100010001000100010001000100010001000100010001000100010001000100010001000100010001000100010001000100010001000100010001000100010001000100010001000100010001000100010001000100010001000100010001000100010001000100010001000100010001000100010001000100010001000100010001000100010001000100010001000100010001000100010001000100010001000100010001000100010001000100010001000100010001000100010001000100010001000000000000000000000000000000000000000000000000000000000000000000000000000000000000000000000000000000000000000000000000000000000000000000000000000000000000000000000000000000000000000000000000000000000000000000000000,
  0x4000400040004000400040004000400040004000400040004000400040004000400040004000300030003000300030003000300030003000300030003000300030003000300030003000300030003000300030003000300030003000300030003000300030003000300030003000300030003000300030003000300030003000300030003000300030003000300030003000300030003000300030003000300030003000300030003000300030003000300030003000300030003000300030003000300030003000300030003000300030003000300030003000300030003000300030003000300030003000300030003000300030003000300020002000200020002000200020002000200020002000200020002000200020002000200020002000200020002000200020002000200020002000200020002000200020002000200020002000200020002000200020002000200020002000200020002000200020002000200020002000200020002000200020002000200020002000200020002000200020002000200020002000200020002000200020002000200020002000200020002000200020002000200020002000200020002000200020002000200020002000200020002000200020002000200020002000200020002000200020002000200020002000200020002000200020002000200020002000200020002,
  0x7000700070007000700070007000700070007000700070007000700070007000700070007000700070007000700070007000700070007000700070007000600060006000600060006000600060006000600060006000600060006000600060006000600060006000600060006000600060006000600060006000600060006000600060006000600060006000600060006000600060006000600060006000600060006000600060006000600060006000600060006000600060006000600060006000600060006000600060006000600050005000500050005000500050005000500050005000500050005000500050005000500050005000500050005000500050005000500050005000500050005000500050005000500050005000500050005000500050005000500050005000500050005000500050005000500050005000500050005000500050005000500050005000500050005000500050005000500050005000500050005000500050005000400040004000400040004000400040004000400040004000400040004000400040004000400040004000400040004000400040004000400040004000400040004000400040004000400040004000400040004000400040004000400040004000400040004000400040004000400040004000400040004000400040004000400040004000400040004000400040004,
  0xb000b000b000b000b000b000b000b000b000b000b000b000b000b000b000b000b000b000b000b000b000b000b000b000b000b000b000b000b000b000b000b000b000b000b000b000b000b000b000b000b000b000b000b000b000a000a000a000a000a000a000a000a000a000a000a000a000a000a000a000a000a000a000a000a000a000a000a000a000a000a000a000a000a000a000a000a000a000a000a000a000a000a000a000a000a000a000a000a000a000a000a000a000a000a000a000a000a000a000a000900090009000900090009000900090009000900090009000900090009000900090009000900090009000900090009000900090009000900090009000900090009000900090009000900090009000900090009000900090009000900090009000900090009000900090009000900090009000900080008000800080008000800080008000800080008000800080008000800080008000800080008000800080008000800080008000800080008000800080008000800080008000800080008000800080008000800080008000800080008000800080008000800080008000800080008000800080008000800080008000700070007000700070007000700070007000700070007000700070007000700070007000700070007000700070007000700070007000700070007000700070007000700070007,
  0x110011001100110011001100110011001100110011001100110011001100110011001100110011001000100010001000100010001000100010001000100010001000100010001000100010001000100010001000100010001000100010001000100010001000100010001000100010001000100010001000100010000f000f000f000f000f000f000f000f000f000f000f000f000f000f000f000f000f000f000f000f000f000f000f000f000f000f000f000f000f000f000f000f000f000f000f000f000f000f000f000f000f000f000f000f000e000e000e000e000e000e000e000e000e000e000e000e000e000e000e000e000e000e000e000e000e000e000e000e000e000e000e000e000e000e000e000e000e000e000e000e000e000e000e000e000e000e000e000e000e000e000d000d000d000d000d000d000d000d000d000d000d000d000d000d000d000d000d000d000d000d000d000d000d000d000d000d000d000d000d000d000d000d000d000d000d000d000d000d000d000d000d000d000d000d000d000d000d000d000c000c000c000c000c000c000c000c000c000c000c000c000c000c000c000c000c000c000c000c000c000c000c000c000c000c000c000c000c000c000c000c000c000c000c000c000c000c000c000c000c000c000c000c000c000c000c000c000c000b000b000b000b000b000b000b,
  0x18001800180018001800180018001800180018001800180017001700170017001700170017001700170017001700170017001700170017001700170017001700170017001700170017001700170017001700170017001700170017001600160016001600160016001600160016001600160016001600160016001600160016001600160016001600160016001600160016001600160016001600160016001600160016001500150015001500150015001500150015001500150015001500150015001500150015001500150015001500150015001500150015001500150015001500150015001500150015001500140014001400140014001400140014001400140014001400140014001400140014001400140014001400140014001400140014001400140014001400140014001400140014001400140013001300130013001300130013001300130013001300130013001300130013001300130013001300130013001300130013001300130013001300130013001300130013001300130013001300130012001200120012001200120012001200120012001200120012001200120012001200120012001200120012001200120012001200120012001200120012001200120012001200120012001200120012001100110011001100110011001100110011001100110011001100110011001100110011001100110011,
  0x200020002000200020002000200020002000200020002000200020001f001f001f001f001f001f001f001f001f001f001f001f001f001f001f001f001f001f001f001f001f001f001f001f001f001f001f001f001f001f001e001e001e001e001e001e001e001e001e001e001e001e001e001e001e001e001e001e001e001e001e001e001e001e001e001e001e001e001e001e001d001d001d001d001d001d001d001d001d001d001d001d001d001d001d001d001d001d001d001d001d001d001d001d001d001d001d001d001d001d001d001c001c001c001c001c001c001c001c001c001c001c001c001c001c001c001c001c001c001c001c001c001c001c001c001c001c001c001c001c001c001c001b001b001b001b001b001b001b001b001b001b001b001b001b001b001b001b001b001b001b001b001b001b001b001b001b001b001b001b001b001b001b001b001a001a001a001a001a001a001a001a001a001a001a001a001a001a001a001a001a001a001a001a001a001a001a001a001a001a001a001a001a001a001a001a00190019001900190019001900190019001900190019001900190019001900190019001900190019001900190019001900190019001900190019001900190019001900190018001800180018001800180018001800180018001800180018001800180018001800180018001800180018,
  0x29002900290029002900290029002900290029002900290029002900290029002900290029002900290029002900290028002800280028002800280028002800280028002800280028002800280028002800280028002800280028002800280028002800270027002700270027002700270027002700270027002700270027002700270027002700270027002700270027002700270027002600260026002600260026002600260026002600260026002600260026002600260026002600260026002600260026002600260025002500250025002500250025002500250025002500250025002500250025002500250025002500250025002500250025002500250024002400240024002400240024002400240024002400240024002400240024002400240024002400240024002400240024002400240024002300230023002300230023002300230023002300230023002300230023002300230023002300230023002300230023002300230023002200220022002200220022002200220022002200220022002200220022002200220022002200220022002200220022002200220022002200210021002100210021002100210021002100210021002100210021002100210021002100210021002100210021002100210021002100210021002000200020002000200020002000200020002000200020002000200020,
  0x34003400340034003400340034003400340034003400340034003400340034003400330033003300330033003300330033003300330033003300330033003300330033003300330033003300330033003200320032003200320032003200320032003200320032003200320032003200320032003200320032003200310031003100310031003100310031003100310031003100310031003100310031003100310031003100310031003000300030003000300030003000300030003000300030003000300030003000300030003000300030003000300030002f002f002f002f002f002f002f002f002f002f002f002f002f002f002f002f002f002f002f002f002f002f002f002e002e002e002e002e002e002e002e002e002e002e002e002e002e002e002e002e002e002e002e002e002e002e002e002d002d002d002d002d002d002d002d002d002d002d002d002d002d002d002d002d002d002d002d002d002d002d002d002c002c002c002c002c002c002c002c002c002c002c002c002c002c002c002c002c002c002c002c002c002c002c002c002c002b002b002b002b002b002b002b002b002b002b002b002b002b002b002b002b002b002b002b002b002b002b002b002b002b002a002a002a002a002a002a002a002a002a002a002a002a002a002a002a002a002a002a002a002a002a002a002a002a002a0029,
  0x40004000400040004000400040004000400040004000400040004000400040004000400040003f003f003f003f003f003f003f003f003f003f003f003f003f003f003f003f003f003f003f003f003e003e003e003e003e003e003e003e003e003e003e003e003e003e003e003e003e003e003e003e003d003d003d003d003d003d003d003d003d003d003d003d003d003d003d003d003d003d003d003d003d003c003c003c003c003c003c003c003c003c003c003c003c003c003c003c003c003c003c003c003c003c003b003b003b003b003b003b003b003b003b003b003b003b003b003b003b003b003b003b003b003b003a003a003a003a003a003a003a003a003a003a003a003a003a003a003a003a003a003a003a003a003a003900390039003900390039003900390039003900390039003900390039003900390039003900390039003900380038003800380038003800380038003800380038003800380038003800380038003800380038003800370037003700370037003700370037003700370037003700370037003700370037003700370037003700370036003600360036003600360036003600360036003600360036003600360036003600360036003600360036003500350035003500350035003500350035003500350035003500350035003500350035003500350035003500340034003400340034,
  0x4e004e004e004e004e004e004e004e004e004e004d004d004d004d004d004d004d004d004d004d004d004d004d004d004d004d004d004d004c004c004c004c004c004c004c004c004c004c004c004c004c004c004c004c004c004c004b004b004b004b004b004b004b004b004b004b004b004b004b004b004b004b004b004b004a004a004a004a004a004a004a004a004a004a004a004a004a004a004a004a004a004a004a00490049004900490049004900490049004900490049004900490049004900490049004900480048004800480048004800480048004800480048004800480048004800480048004800480047004700470047004700470047004700470047004700470047004700470047004700470047004600460046004600460046004600460046004600460046004600460046004600460046004600450045004500450045004500450045004500450045004500450045004500450045004500450044004400440044004400440044004400440044004400440044004400440044004400440044004300430043004300430043004300430043004300430043004300430043004300430043004300430042004200420042004200420042004200420042004200420042004200420042004200420042004100410041004100410041004100410041004100410041004100410041004100410041004100410040,
  0x5d005d005d005d005d005d005d005d005d005d005c005c005c005c005c005c005c005c005c005c005c005c005c005c005c005c005b005b005b005b005b005b005b005b005b005b005b005b005b005b005b005b005a005a005a005a005a005a005a005a005a005a005a005a005a005a005a005a005a005900590059005900590059005900590059005900590059005900590059005900590058005800580058005800580058005800580058005800580058005800580058005700570057005700570057005700570057005700570057005700570057005700570056005600560056005600560056005600560056005600560056005600560056005600550055005500550055005500550055005500550055005500550055005500550055005400540054005400540054005400540054005400540054005400540054005400540053005300530053005300530053005300530053005300530053005300530053005300530052005200520052005200520052005200520052005200520052005200520052005200510051005100510051005100510051005100510051005100510051005100510051005100500050005000500050005000500050005000500050005000500050005000500050004f004f004f004f004f004f004f004f004f004f004f004f004f004f004f004f004f004f004e004e004e004e004e004e004e004e,
  0x6e006d006d006d006d006d006d006d006d006d006d006d006d006d006d006d006c006c006c006c006c006c006c006c006c006c006c006c006c006c006c006b006b006b006b006b006b006b006b006b006b006b006b006b006b006b006a006a006a006a006a006a006a006a006a006a006a006a006a006a006a006900690069006900690069006900690069006900690069006900690069006800680068006800680068006800680068006800680068006800680068006800670067006700670067006700670067006700670067006700670067006700660066006600660066006600660066006600660066006600660066006600660065006500650065006500650065006500650065006500650065006500650064006400640064006400640064006400640064006400640064006400640064006300630063006300630063006300630063006300630063006300630063006200620062006200620062006200620062006200620062006200620062006200610061006100610061006100610061006100610061006100610061006100610060006000600060006000600060006000600060006000600060006000600060005f005f005f005f005f005f005f005f005f005f005f005f005f005f005f005f005e005e005e005e005e005e005e005e005e005e005e005e005e005e005e005e005d005d005d005d005d005d005d,
  0x80007f007f007f007f007f007f007f007f007f007f007f007f007f007e007e007e007e007e007e007e007e007e007e007e007e007e007e007d007d007d007d007d007d007d007d007d007d007d007d007d007d007c007c007c007c007c007c007c007c007c007c007c007c007c007c007b007b007b007b007b007b007b007b007b007b007b007b007b007b007a007a007a007a007a007a007a007a007a007a007a007a007a007a007900790079007900790079007900790079007900790079007900790078007800780078007800780078007800780078007800780078007800770077007700770077007700770077007700770077007700770077007600760076007600760076007600760076007600760076007600760075007500750075007500750075007500750075007500750075007500750074007400740074007400740074007400740074007400740074007400730073007300730073007300730073007300730073007300730073007300720072007200720072007200720072007200720072007200720072007100710071007100710071007100710071007100710071007100710071007000700070007000700070007000700070007000700070007000700070006f006f006f006f006f006f006f006f006f006f006f006f006f006f006e006e006e006e006e006e006e006e006e006e006e006e006e006e,
  0x9300930093009300930093009200920092009200920092009200920092009200920092009200910091009100910091009100910091009100910091009100910090009000900090009000900090009000900090009000900090008f008f008f008f008f008f008f008f008f008f008f008f008e008e008e008e008e008e008e008e008e008e008e008e008e008d008d008d008d008d008d008d008d008d008d008d008d008d008c008c008c008c008c008c008c008c008c008c008c008c008c008b008b008b008b008b008b008b008b008b008b008b008b008b008a008a008a008a008a008a008a008a008a008a008a008a008a00890089008900890089008900890089008900890089008900890089008800880088008800880088008800880088008800880088008800870087008700870087008700870087008700870087008700870086008600860086008600860086008600860086008600860086008500850085008500850085008500850085008500850085008500850084008400840084008400840084008400840084008400840084008300830083008300830083008300830083008300830083008300830082008200820082008200820082008200820082008200820082008100810081008100810081008100810081008100810081008100810080008000800080008000800080008000800080008000800080,
  0xa800a800a800a800a800a800a700a700a700a700a700a700a700a700a700a700a700a600a600a600a600a600a600a600a600a600a600a600a600a500a500a500a500a500a500a500a500a500a500a500a500a400a400a400a400a400a400a400a400a400a400a400a400a300a300a300a300a300a300a300a300a300a300a300a300a200a200a200a200a200a200a200a200a200a200a200a200a100a100a100a100a100a100a100a100a100a100a100a100a000a000a000a000a000a000a000a000a000a000a000a0009f009f009f009f009f009f009f009f009f009f009f009f009e009e009e009e009e009e009e009e009e009e009e009e009d009d009d009d009d009d009d009d009d009d009d009d009d009c009c009c009c009c009c009c009c009c009c009c009c009b009b009b009b009b009b009b009b009b009b009b009b009a009a009a009a009a009a009a009a009a009a009a009a009a009900990099009900990099009900990099009900990099009800980098009800980098009800980098009800980098009700970097009700970097009700970097009700970097009700960096009600960096009600960096009600960096009600950095009500950095009500950095009500950095009500950094009400940094009400940094009400940094009400940094009300930093009300930093,
  0xbe00be00be00be00be00be00be00be00be00be00be00bd00bd00bd00bd00bd00bd00bd00bd00bd00bd00bd00bc00bc00bc00bc00bc00bc00bc00bc00bc00bc00bc00bb00bb00bb00bb00bb00bb00bb00bb00bb00bb00bb00ba00ba00ba00ba00ba00ba00ba00ba00ba00ba00ba00b900b900b900b900b900b900b900b900b900b900b900b800b800b800b800b800b800b800b800b800b800b800b800b700b700b700b700b700b700b700b700b700b700b700b600b600b600b600b600b600b600b600b600b600b600b500b500b500b500b500b500b500b500b500b500b500b400b400b400b400b400b400b400b400b400b400b400b400b300b300b300b300b300b300b300b300b300b300b300b200b200b200b200b200b200b200b200b200b200b200b100b100b100b100b100b100b100b100b100b100b100b100b000b000b000b000b000b000b000b000b000b000b000af00af00af00af00af00af00af00af00af00af00af00af00ae00ae00ae00ae00ae00ae00ae00ae00ae00ae00ae00ad00ad00ad00ad00ad00ad00ad00ad00ad00ad00ad00ad00ac00ac00ac00ac00ac00ac00ac00ac00ac00ac00ac00ac00ab00ab00ab00ab00ab00ab00ab00ab00ab00ab00ab00aa00aa00aa00aa00aa00aa00aa00aa00aa00aa00aa00aa00a900a900a900a900a900a900a900a900a900a900a900a900a800a800a800a800a800a8,
  0xd600d600d600d600d600d600d600d600d600d600d600d500d500d500d500d500d500d500d500d500d500d400d400d400d400d400d400d400d400d400d400d400d300d300d300d300d300d300d300d300d300d300d200d200d200d200d200d200d200d200d200d200d100d100d100d100d100d100d100d100d100d100d100d000d000d000d000d000d000d000d000d000d000cf00cf00cf00cf00cf00cf00cf00cf00cf00cf00cf00ce00ce00ce00ce00ce00ce00ce00ce00ce00ce00cd00cd00cd00cd00cd00cd00cd00cd00cd00cd00cd00cc00cc00cc00cc00cc00cc00cc00cc00cc00cc00cb00cb00cb00cb00cb00cb00cb00cb00cb00cb00cb00ca00ca00ca00ca00ca00ca00ca00ca00ca00ca00ca00c900c900c900c900c900c900c900c900c900c900c800c800c800c800c800c800c800c800c800c800c800c700c700c700c700c700c700c700c700c700c700c700c600c600c600c600c600c600c600c600c600c600c600c500c500c500c500c500c500c500c500c500c500c400c400c400c400c400c400c400c400c400c400c400c300c300c300c300c300c300c300c300c300c300c300c200c200c200c200c200c200c200c200c200c200c200c100c100c100c100c100c100c100c100c100c100c100c000c000c000c000c000c000c000c000c000c000c000bf00bf00bf00bf00bf00bf00bf00bf00bf00bf00bf,
  0xf000f000f000f000f000f000f000ef00ef00ef00ef00ef00ef00ef00ef00ef00ee00ee00ee00ee00ee00ee00ee00ee00ee00ee00ed00ed00ed00ed00ed00ed00ed00ed00ed00ed00ec00ec00ec00ec00ec00ec00ec00ec00ec00ec00eb00eb00eb00eb00eb00eb00eb00eb00eb00ea00ea00ea00ea00ea00ea00ea00ea00ea00ea00e900e900e900e900e900e900e900e900e900e900e800e800e800e800e800e800e800e800e800e800e700e700e700e700e700e700e700e700e700e700e600e600e600e600e600e600e600e600e600e600e500e500e500e500e500e500e500e500e500e500e400e400e400e400e400e400e400e400e400e400e300e300e300e300e300e300e300e300e300e300e200e200e200e200e200e200e200e200e200e200e100e100e100e100e100e100e100e100e100e100e000e000e000e000e000e000e000e000e000e000df00df00df00df00df00df00df00df00df00df00de00de00de00de00de00de00de00de00de00de00dd00dd00dd00dd00dd00dd00dd00dd00dd00dd00dc00dc00dc00dc00dc00dc00dc00dc00dc00dc00db00db00db00db00db00db00db00db00db00db00da00da00da00da00da00da00da00da00da00da00da00d900d900d900d900d900d900d900d900d900d900d800d800d800d800d800d800d800d800d800d800d700d700d700d700d700d700d700d700d700d7,
  0x10b010b010b010b010b010b010b010b010a010a010a010a010a010a010a010a010a01090109010901090109010901090109010901090108010801080108010801080108010801080107010701070107010701070107010701070106010601060106010601060106010601060105010501050105010501050105010501050104010401040104010401040104010401040104010301030103010301030103010301030103010201020102010201020102010201020102010101010101010101010101010101010101010101000100010001000100010001000100010000ff00ff00ff00ff00ff00ff00ff00ff00ff00fe00fe00fe00fe00fe00fe00fe00fe00fe00fe00fd00fd00fd00fd00fd00fd00fd00fd00fd00fc00fc00fc00fc00fc00fc00fc00fc00fc00fc00fb00fb00fb00fb00fb00fb00fb00fb00fb00fa00fa00fa00fa00fa00fa00fa00fa00fa00fa00f900f900f900f900f900f900f900f900f900f800f800f800f800f800f800f800f800f800f800f700f700f700f700f700f700f700f700f700f600f600f600f600f600f600f600f600f600f600f500f500f500f500f500f500f500f500f500f400f400f400f400f400f400f400f400f400f400f300f300f300f300f300f300f300f300f300f300f200f200f200f200f200f200f200f200f200f100f100f100f100f100f100f100f100f100f100f000f000f0,
  0x128012801280128012801280127012701270127012701270127012701270126012601260126012601260126012601260125012501250125012501250125012501240124012401240124012401240124012401230123012301230123012301230123012301220122012201220122012201220122012101210121012101210121012101210121012001200120012001200120012001200120011f011f011f011f011f011f011f011f011f011e011e011e011e011e011e011e011e011e011d011d011d011d011d011d011d011d011c011c011c011c011c011c011c011c011c011b011b011b011b011b011b011b011b011b011a011a011a011a011a011a011a011a011a011901190119011901190119011901190119011801180118011801180118011801180118011701170117011701170117011701170117011601160116011601160116011601160116011501150115011501150115011501150115011401140114011401140114011401140114011301130113011301130113011301130113011201120112011201120112011201120112011101110111011101110111011101110111011001100110011001100110011001100110010f010f010f010f010f010f010f010f010f010e010e010e010e010e010e010e010e010e010d010d010d010d010d010d010d010d010d010c010c010c010c010c010c010c010c010c010b,
  0x1470146014601460146014601460146014601450145014501450145014501450145014501440144014401440144014401440144014301430143014301430143014301430142014201420142014201420142014201410141014101410141014101410141014101400140014001400140014001400140013f013f013f013f013f013f013f013f013e013e013e013e013e013e013e013e013e013d013d013d013d013d013d013d013d013c013c013c013c013c013c013c013c013b013b013b013b013b013b013b013b013b013a013a013a013a013a013a013a013a013901390139013901390139013901390138013801380138013801380138013801380137013701370137013701370137013701360136013601360136013601360136013601350135013501350135013501350135013401340134013401340134013401340133013301330133013301330133013301330132013201320132013201320132013201310131013101310131013101310131013101300130013001300130013001300130012f012f012f012f012f012f012f012f012f012e012e012e012e012e012e012e012e012e012d012d012d012d012d012d012d012d012c012c012c012c012c012c012c012c012c012b012b012b012b012b012b012b012b012a012a012a012a012a012a012a012a012a01290129012901290129012901290129012901280128,
  0x1670167016601660166016601660166016601650165016501650165016501650165016401640164016401640164016401640163016301630163016301630163016301620162016201620162016201620162016101610161016101610161016101610160016001600160016001600160015f015f015f015f015f015f015f015f015e015e015e015e015e015e015e015e015d015d015d015d015d015d015d015d015c015c015c015c015c015c015c015c015b015b015b015b015b015b015b015b015a015a015a015a015a015a015a015a01590159015901590159015901590159015801580158015801580158015801580157015701570157015701570157015701560156015601560156015601560156015501550155015501550155015501550154015401540154015401540154015401530153015301530153015301530153015201520152015201520152015201520151015101510151015101510151015101500150015001500150015001500150014f014f014f014f014f014f014f014f014e014e014e014e014e014e014e014e014d014d014d014d014d014d014d014d014c014c014c014c014c014c014c014c014b014b014b014b014b014b014b014b014b014a014a014a014a014a014a014a014a01490149014901490149014901490149014801480148014801480148014801480147014701470147014701470147,
  0x188018801880188018801880188018701870187018701870187018701860186018601860186018601860186018501850185018501850185018501840184018401840184018401840184018301830183018301830183018301820182018201820182018201820182018101810181018101810181018101800180018001800180018001800180017f017f017f017f017f017f017f017e017e017e017e017e017e017e017e017d017d017d017d017d017d017d017c017c017c017c017c017c017c017c017b017b017b017b017b017b017b017a017a017a017a017a017a017a017a0179017901790179017901790179017801780178017801780178017801780177017701770177017701770177017701760176017601760176017601760175017501750175017501750175017501740174017401740174017401740173017301730173017301730173017301720172017201720172017201720172017101710171017101710171017101700170017001700170017001700170016f016f016f016f016f016f016f016f016e016e016e016e016e016e016e016d016d016d016d016d016d016d016d016c016c016c016c016c016c016c016c016b016b016b016b016b016b016b016b016a016a016a016a016a016a016a0169016901690169016901690169016901680168016801680168016801680168016701670167016701670167,
  0x1ac01ac01ab01ab01ab01ab01ab01ab01ab01aa01aa01aa01aa01aa01aa01aa01a901a901a901a901a901a901a901a801a801a801a801a801a801a801a701a701a701a701a701a701a701a701a601a601a601a601a601a601a601a501a501a501a501a501a501a501a401a401a401a401a401a401a401a301a301a301a301a301a301a301a201a201a201a201a201a201a201a101a101a101a101a101a101a101a001a001a001a001a001a001a001a0019f019f019f019f019f019f019f019e019e019e019e019e019e019e019d019d019d019d019d019d019d019c019c019c019c019c019c019c019b019b019b019b019b019b019b019b019a019a019a019a019a019a019a0199019901990199019901990199019801980198019801980198019801970197019701970197019701970197019601960196019601960196019601950195019501950195019501950194019401940194019401940194019401930193019301930193019301930192019201920192019201920192019101910191019101910191019101900190019001900190019001900190018f018f018f018f018f018f018f018e018e018e018e018e018e018e018d018d018d018d018d018d018d018d018c018c018c018c018c018c018c018b018b018b018b018b018b018b018b018a018a018a018a018a018a018a01890189018901890189018901890188,
  0x1d101d101d001d001d001d001d001d001d001cf01cf01cf01cf01cf01cf01cf01ce01ce01ce01ce01ce01ce01ce01cd01cd01cd01cd01cd01cd01cc01cc01cc01cc01cc01cc01cc01cb01cb01cb01cb01cb01cb01cb01ca01ca01ca01ca01ca01ca01ca01c901c901c901c901c901c901c901c801c801c801c801c801c801c701c701c701c701c701c701c701c601c601c601c601c601c601c601c501c501c501c501c501c501c501c401c401c401c401c401c401c401c301c301c301c301c301c301c301c201c201c201c201c201c201c201c101c101c101c101c101c101c001c001c001c001c001c001c001bf01bf01bf01bf01bf01bf01bf01be01be01be01be01be01be01be01bd01bd01bd01bd01bd01bd01bd01bc01bc01bc01bc01bc01bc01bc01bb01bb01bb01bb01bb01bb01bb01ba01ba01ba01ba01ba01ba01ba01b901b901b901b901b901b901b901b801b801b801b801b801b801b801b701b701b701b701b701b701b701b601b601b601b601b601b601b601b501b501b501b501b501b501b501b401b401b401b401b401b401b401b301b301b301b301b301b301b301b201b201b201b201b201b201b201b101b101b101b101b101b101b101b001b001b001b001b001b001b001af01af01af01af01af01af01af01ae01ae01ae01ae01ae01ae01ae01ad01ad01ad01ad01ad01ad01ad01ac01ac01ac01ac01ac,
  0x1f701f701f701f701f701f701f701f601f601f601f601f601f601f501f501f501f501f501f501f501f401f401f401f401f401f401f301f301f301f301f301f301f301f201f201f201f201f201f201f101f101f101f101f101f101f101f001f001f001f001f001f001ef01ef01ef01ef01ef01ef01ef01ee01ee01ee01ee01ee01ee01ed01ed01ed01ed01ed01ed01ed01ec01ec01ec01ec01ec01ec01eb01eb01eb01eb01eb01eb01eb01ea01ea01ea01ea01ea01ea01ea01e901e901e901e901e901e901e801e801e801e801e801e801e801e701e701e701e701e701e701e601e601e601e601e601e601e601e501e501e501e501e501e501e501e401e401e401e401e401e401e301e301e301e301e301e301e301e201e201e201e201e201e201e101e101e101e101e101e101e101e001e001e001e001e001e001e001df01df01df01df01df01df01de01de01de01de01de01de01de01dd01dd01dd01dd01dd01dd01dd01dc01dc01dc01dc01dc01dc01db01db01db01db01db01db01db01da01da01da01da01da01da01da01d901d901d901d901d901d901d801d801d801d801d801d801d801d701d701d701d701d701d701d701d601d601d601d601d601d601d601d501d501d501d501d501d501d401d401d401d401d401d401d401d301d301d301d301d301d301d301d201d201d201d201d201d201d101d101d101d101d1,
  0x22002200220021f021f021f021f021f021f021e021e021e021e021e021e021d021d021d021d021d021d021d021c021c021c021c021c021c021b021b021b021b021b021b021a021a021a021a021a021a021902190219021902190219021802180218021802180218021802170217021702170217021702160216021602160216021602150215021502150215021502150214021402140214021402140213021302130213021302130212021202120212021202120211021102110211021102110211021002100210021002100210020f020f020f020f020f020f020e020e020e020e020e020e020e020d020d020d020d020d020d020c020c020c020c020c020c020b020b020b020b020b020b020b020a020a020a020a020a020a020902090209020902090209020802080208020802080208020802070207020702070207020702060206020602060206020602050205020502050205020502050204020402040204020402040203020302030203020302030203020202020202020202020202020102010201020102010201020002000200020002000200020001ff01ff01ff01ff01ff01ff01fe01fe01fe01fe01fe01fe01fe01fd01fd01fd01fd01fd01fd01fc01fc01fc01fc01fc01fc01fb01fb01fb01fb01fb01fb01fb01fa01fa01fa01fa01fa01fa01f901f901f901f901f901f901f901f801f801f801f801f801f8,
  0x24a024a024a024a02490249024902490249024802480248024802480248024702470247024702470247024602460246024602460246024502450245024502450245024402440244024402440244024302430243024302430243024202420242024202420242024102410241024102410241024002400240024002400240023f023f023f023f023f023f023e023e023e023e023e023e023d023d023d023d023d023d023c023c023c023c023c023c023b023b023b023b023b023b023b023a023a023a023a023a023a023902390239023902390239023802380238023802380238023702370237023702370237023602360236023602360236023502350235023502350235023402340234023402340234023302330233023302330233023202320232023202320232023102310231023102310231023002300230023002300230022f022f022f022f022f022f022e022e022e022e022e022e022e022d022d022d022d022d022d022c022c022c022c022c022c022b022b022b022b022b022b022a022a022a022a022a022a02290229022902290229022902280228022802280228022802270227022702270227022702270226022602260226022602260225022502250225022502250224022402240224022402240223022302230223022302230222022202220222022202220221022102210221022102210221022002200220,
  0x276027602750275027502750275027502740274027402740274027402730273027302730273027302720272027202720272027102710271027102710271027002700270027002700270026f026f026f026f026f026f026e026e026e026e026e026d026d026d026d026d026d026c026c026c026c026c026c026b026b026b026b026b026b026a026a026a026a026a026a0269026902690269026902680268026802680268026802670267026702670267026702660266026602660266026602650265026502650265026502640264026402640264026302630263026302630263026202620262026202620262026102610261026102610261026002600260026002600260025f025f025f025f025f025f025e025e025e025e025e025d025d025d025d025d025d025c025c025c025c025c025c025b025b025b025b025b025b025a025a025a025a025a025a02590259025902590259025902580258025802580258025802570257025702570257025702560256025602560256025502550255025502550255025402540254025402540254025302530253025302530253025202520252025202520252025102510251025102510251025002500250025002500250024f024f024f024f024f024f024e024e024e024e024e024e024d024d024d024d024d024d024c024c024c024c024c024c024b024b024b024b024b024b024a024a,
  0x2a302a302a302a302a302a302a202a202a202a202a202a102a102a102a102a102a102a002a002a002a002a0029f029f029f029f029f029f029e029e029e029e029e029d029d029d029d029d029d029c029c029c029c029c029b029b029b029b029b029b029a029a029a029a029a02990299029902990299029902980298029802980298029802970297029702970297029602960296029602960296029502950295029502950294029402940294029402940293029302930293029302920292029202920292029202910291029102910291029102900290029002900290028f028f028f028f028f028f028e028e028e028e028e028d028d028d028d028d028d028c028c028c028c028c028c028b028b028b028b028b028a028a028a028a028a028a02890289028902890289028902880288028802880288028702870287028702870287028602860286028602860285028502850285028502850284028402840284028402840283028302830283028302820282028202820282028202810281028102810281028102800280028002800280027f027f027f027f027f027f027e027e027e027e027e027e027d027d027d027d027d027d027c027c027c027c027c027b027b027b027b027b027b027a027a027a027a027a027a02790279027902790279027802780278027802780278027702770277027702770277027602760276,
  0x2d302d302d202d202d202d202d202d102d102d102d102d102d002d002d002d002d002d002cf02cf02cf02cf02cf02ce02ce02ce02ce02ce02cd02cd02cd02cd02cd02cd02cc02cc02cc02cc02cc02cb02cb02cb02cb02cb02ca02ca02ca02ca02ca02ca02c902c902c902c902c902c802c802c802c802c802c702c702c702c702c702c702c602c602c602c602c602c502c502c502c502c502c502c402c402c402c402c402c302c302c302c302c302c202c202c202c202c202c202c102c102c102c102c102c002c002c002c002c002bf02bf02bf02bf02bf02bf02be02be02be02be02be02bd02bd02bd02bd02bd02bd02bc02bc02bc02bc02bc02bb02bb02bb02bb02bb02ba02ba02ba02ba02ba02ba02b902b902b902b902b902b802b802b802b802b802b802b702b702b702b702b702b602b602b602b602b602b602b502b502b502b502b502b402b402b402b402b402b302b302b302b302b302b302b202b202b202b202b202b102b102b102b102b102b102b002b002b002b002b002af02af02af02af02af02af02ae02ae02ae02ae02ae02ad02ad02ad02ad02ad02ad02ac02ac02ac02ac02ac02ab02ab02ab02ab02ab02ab02aa02aa02aa02aa02aa02a902a902a902a902a902a902a802a802a802a802a802a702a702a702a702a702a702a602a602a602a602a602a502a502a502a502a502a502a402a402a402a402a4,
  0x304030403030303030303030303030203020302030203020301030103010301030103000300030003000300030002ff02ff02ff02ff02ff02fe02fe02fe02fe02fe02fd02fd02fd02fd02fd02fc02fc02fc02fc02fc02fb02fb02fb02fb02fb02fa02fa02fa02fa02fa02f902f902f902f902f902f902f802f802f802f802f802f702f702f702f702f702f602f602f602f602f602f502f502f502f502f502f402f402f402f402f402f402f302f302f302f302f302f202f202f202f202f202f102f102f102f102f102f002f002f002f002f002ef02ef02ef02ef02ef02ee02ee02ee02ee02ee02ee02ed02ed02ed02ed02ed02ec02ec02ec02ec02ec02eb02eb02eb02eb02eb02ea02ea02ea02ea02ea02ea02e902e902e902e902e902e802e802e802e802e802e702e702e702e702e702e602e602e602e602e602e502e502e502e502e502e502e402e402e402e402e402e302e302e302e302e302e202e202e202e202e202e102e102e102e102e102e102e002e002e002e002e002df02df02df02df02df02de02de02de02de02de02de02dd02dd02dd02dd02dd02dc02dc02dc02dc02dc02db02db02db02db02db02da02da02da02da02da02da02d902d902d902d902d902d802d802d802d802d802d702d702d702d702d702d702d602d602d602d602d602d502d502d502d502d502d402d402d402d402d402d302d302d302d3,
  0x33703360336033603360336033503350335033503350334033403340334033403330333033303330333033203320332033203320331033103310331033103300330033003300330032f032f032f032f032f032e032e032e032e032e032d032d032d032d032d032c032c032c032c032c032b032b032b032b032b032a032a032a032a032a03290329032903290329032803280328032803280327032703270327032703260326032603260326032503250325032503250324032403240324032403230323032303230323032203220322032203220321032103210321032103200320032003200320031f031f031f031f031f031e031e031e031e031e031d031d031d031d031d031c031c031c031c031c031b031b031b031b031b031a031a031a031a031a031903190319031903190318031803180318031803170317031703170317031603160316031603160315031503150315031503140314031403140314031303130313031303130313031203120312031203120311031103110311031103100310031003100310030f030f030f030f030f030e030e030e030e030e030d030d030d030d030d030c030c030c030c030c030b030b030b030b030b030a030a030a030a030a03090309030903090309030803080308030803080308030703070307030703070306030603060306030603050305030503050305030403040304,
  0x36b036b036b036b036a036a036a036a036a036903690369036903690368036803680368036703670367036703670366036603660366036603650365036503650365036403640364036403640363036303630363036203620362036203620361036103610361036103600360036003600360035f035f035f035f035f035e035e035e035e035d035d035d035d035d035c035c035c035c035c035b035b035b035b035b035a035a035a035a035a035903590359035903590358035803580358035803570357035703570356035603560356035603550355035503550355035403540354035403540353035303530353035303520352035203520352035103510351035103510350035003500350034f034f034f034f034f034e034e034e034e034e034d034d034d034d034d034c034c034c034c034c034b034b034b034b034b034a034a034a034a034a0349034903490349034903480348034803480347034703470347034703460346034603460346034503450345034503450344034403440344034403430343034303430343034203420342034203420341034103410341034103400340034003400340033f033f033f033f033f033e033e033e033e033e033d033d033d033d033c033c033c033c033c033b033b033b033b033b033a033a033a033a033a03390339033903390339033803380338033803380337033703370337,
  0x3a203a103a103a103a103a103a003a003a003a0039f039f039f039f039f039e039e039e039e039e039d039d039d039d039c039c039c039c039c039b039b039b039b039b039a039a039a039a03990399039903990399039803980398039803970397039703970397039603960396039603960395039503950395039403940394039403940393039303930393039303920392039203920391039103910391039103900390039003900390038f038f038f038f038f038e038e038e038e038d038d038d038d038d038c038c038c038c038c038b038b038b038b038a038a038a038a038a03890389038903890389038803880388038803870387038703870387038603860386038603860385038503850385038403840384038403840383038303830383038303820382038203820382038103810381038103800380038003800380037f037f037f037f037f037e037e037e037e037e037d037d037d037d037c037c037c037c037c037b037b037b037b037b037a037a037a037a037a03790379037903790378037803780378037803770377037703770377037603760376037603760375037503750375037403740374037403740373037303730373037303720372037203720372037103710371037103700370037003700370036f036f036f036f036f036e036e036e036e036e036d036d036d036d036c036c036c036c036c036b,
  0x3da03da03d903d903d903d903d803d803d803d803d803d703d703d703d703d603d603d603d603d603d503d503d503d503d403d403d403d403d403d303d303d303d303d203d203d203d203d203d103d103d103d103d003d003d003d003d003cf03cf03cf03cf03ce03ce03ce03ce03ce03cd03cd03cd03cd03cc03cc03cc03cc03cc03cb03cb03cb03cb03ca03ca03ca03ca03ca03c903c903c903c903c803c803c803c803c803c703c703c703c703c603c603c603c603c603c503c503c503c503c503c403c403c403c403c303c303c303c303c303c203c203c203c203c103c103c103c103c103c003c003c003c003bf03bf03bf03bf03bf03be03be03be03be03bd03bd03bd03bd03bd03bc03bc03bc03bc03bc03bb03bb03bb03bb03ba03ba03ba03ba03ba03b903b903b903b903b803b803b803b803b803b703b703b703b703b603b603b603b603b603b503b503b503b503b503b403b403b403b403b303b303b303b303b303b203b203b203b203b103b103b103b103b103b003b003b003b003af03af03af03af03af03ae03ae03ae03ae03ae03ad03ad03ad03ad03ac03ac03ac03ac03ac03ab03ab03ab03ab03aa03aa03aa03aa03aa03a903a903a903a903a903a803a803a803a803a703a703a703a703a703a603a603a603a603a603a503a503a503a503a403a403a403a403a403a303a303a303a303a203a203a203a2,
  0x414041404130413041304130412041204120412041104110411041104110410041004100410040f040f040f040f040e040e040e040e040e040d040d040d040d040c040c040c040c040c040b040b040b040b040a040a040a040a0409040904090409040904080408040804080407040704070407040604060406040604060405040504050405040404040404040404040403040304030403040204020402040204010401040104010401040004000400040003ff03ff03ff03ff03ff03fe03fe03fe03fe03fd03fd03fd03fd03fc03fc03fc03fc03fc03fb03fb03fb03fb03fa03fa03fa03fa03fa03f903f903f903f903f803f803f803f803f703f703f703f703f703f603f603f603f603f503f503f503f503f503f403f403f403f403f303f303f303f303f203f203f203f203f203f103f103f103f103f003f003f003f003f003ef03ef03ef03ef03ee03ee03ee03ee03ee03ed03ed03ed03ed03ec03ec03ec03ec03eb03eb03eb03eb03eb03ea03ea03ea03ea03e903e903e903e903e903e803e803e803e803e703e703e703e703e703e603e603e603e603e503e503e503e503e503e403e403e403e403e303e303e303e303e303e203e203e203e203e103e103e103e103e003e003e003e003e003df03df03df03df03de03de03de03de03de03dd03dd03dd03dd03dc03dc03dc03dc03dc03db03db03db03db03da03da03da,
  0x450044f044f044f044f044e044e044e044e044d044d044d044d044c044c044c044c044c044b044b044b044b044a044a044a044a0449044904490449044804480448044804480447044704470447044604460446044604450445044504450444044404440444044404430443044304430442044204420442044104410441044104400440044004400440043f043f043f043f043e043e043e043e043d043d043d043d043c043c043c043c043c043b043b043b043b043a043a043a043a0439043904390439043804380438043804380437043704370437043604360436043604350435043504350434043404340434043404330433043304330432043204320432043104310431043104310430043004300430042f042f042f042f042e042e042e042e042d042d042d042d042d042c042c042c042c042b042b042b042b042a042a042a042a042a0429042904290429042804280428042804270427042704270426042604260426042604250425042504250424042404240424042304230423042304230422042204220422042104210421042104200420042004200420041f041f041f041f041e041e041e041e041d041d041d041d041d041c041c041c041c041b041b041b041b041a041a041a041a041a041904190419041904180418041804180417041704170417041704160416041604160415041504150415041404140414,
  0x48d048d048d048c048c048c048c048b048b048b048b048a048a048a048a048a04890489048904890488048804880488048704870487048704860486048604860485048504850485048404840484048404830483048304830482048204820482048104810481048104810480048004800480047f047f047f047f047e047e047e047e047d047d047d047d047c047c047c047c047b047b047b047b047a047a047a047a047904790479047904790478047804780478047704770477047704760476047604760475047504750475047404740474047404730473047304730472047204720472047204710471047104710470047004700470046f046f046f046f046e046e046e046e046d046d046d046d046c046c046c046c046b046b046b046b046b046a046a046a046a046904690469046904680468046804680467046704670467046604660466046604650465046504650465046404640464046404630463046304630462046204620462046104610461046104600460046004600460045f045f045f045f045e045e045e045e045d045d045d045d045c045c045c045c045b045b045b045b045b045a045a045a045a04590459045904590458045804580458045704570457045704560456045604560456045504550455045504540454045404540453045304530453045204520452045204510451045104510451045004500450,
  0x4cd04cc04cc04cc04cc04cb04cb04cb04cb04ca04ca04ca04ca04c904c904c904c904c804c804c804c804c704c704c704c704c604c604c604c604c504c504c504c504c404c404c404c404c304c304c304c304c204c204c204c204c104c104c104c104c004c004c004c004bf04bf04bf04bf04be04be04be04be04bd04bd04bd04bd04bc04bc04bc04bc04bb04bb04bb04bb04ba04ba04ba04ba04b904b904b904b904b804b804b804b804b704b704b704b704b604b604b604b604b504b504b504b504b404b404b404b404b304b304b304b304b204b204b204b204b104b104b104b104b004b004b004b004af04af04af04af04ae04ae04ae04ae04ad04ad04ad04ad04ac04ac04ac04ac04ab04ab04ab04ab04aa04aa04aa04aa04a904a904a904a904a804a804a804a804a704a704a704a704a604a604a604a604a504a504a504a504a504a404a404a404a404a304a304a304a304a204a204a204a204a104a104a104a104a004a004a004a0049f049f049f049f049e049e049e049e049d049d049d049d049c049c049c049c049b049b049b049b049a049a049a049a04990499049904990498049804980498049704970497049704960496049604960496049504950495049504940494049404940493049304930493049204920492049204910491049104910490049004900490048f048f048f048f048e048e048e048e048d,
  0x50e050e050d050d050d050d050c050c050c050c050b050b050b050b050a050a050a050a0509050905090508050805080508050705070507050705060506050605060505050505050505050405040504050405030503050305030502050205020502050105010501050005000500050004ff04ff04ff04ff04fe04fe04fe04fe04fd04fd04fd04fd04fc04fc04fc04fc04fb04fb04fb04fb04fa04fa04fa04fa04f904f904f904f904f804f804f804f804f704f704f704f604f604f604f604f504f504f504f504f404f404f404f404f304f304f304f304f204f204f204f204f104f104f104f104f004f004f004f004ef04ef04ef04ef04ee04ee04ee04ee04ed04ed04ed04ed04ec04ec04ec04ec04eb04eb04eb04ea04ea04ea04ea04e904e904e904e904e804e804e804e804e704e704e704e704e604e604e604e604e504e504e504e504e404e404e404e404e304e304e304e304e204e204e204e204e104e104e104e104e004e004e004e004df04df04df04df04de04de04de04de04dd04dd04dd04dd04dc04dc04dc04dc04db04db04db04da04da04da04da04d904d904d904d904d804d804d804d804d704d704d704d704d604d604d604d604d504d504d504d504d404d404d404d404d304d304d304d304d204d204d204d204d104d104d104d104d004d004d004d004cf04cf04cf04cf04ce04ce04ce04ce04cd04cd04cd,
  0x55105510551055005500550054f054f054f054f054e054e054e054e054d054d054d054d054c054c054c054b054b054b054b054a054a054a054a05490549054905490548054805480547054705470547054605460546054605450545054505450544054405440544054305430543054205420542054205410541054105410540054005400540053f053f053f053f053e053e053e053d053d053d053d053c053c053c053c053b053b053b053b053a053a053a053905390539053905380538053805380537053705370537053605360536053605350535053505340534053405340533053305330533053205320532053205310531053105310530053005300530052f052f052f052e052e052e052e052d052d052d052d052c052c052c052c052b052b052b052b052a052a052a052905290529052905280528052805280527052705270527052605260526052605250525052505250524052405240523052305230523052205220522052205210521052105210520052005200520051f051f051f051f051e051e051e051d051d051d051d051c051c051c051c051b051b051b051b051a051a051a051a05190519051905190518051805180517051705170517051605160516051605150515051505150514051405140514051305130513051305120512051205120511051105110510051005100510050f050f050f050f050e050e,
  0x59605960595059505950595059405940594059405930593059305920592059205920591059105910591059005900590058f058f058f058f058e058e058e058e058d058d058d058c058c058c058c058b058b058b058b058a058a058a0589058905890589058805880588058805870587058705870586058605860585058505850585058405840584058405830583058305820582058205820581058105810581058005800580057f057f057f057f057e057e057e057e057d057d057d057c057c057c057c057b057b057b057b057a057a057a057a0579057905790578057805780578057705770577057705760576057605750575057505750574057405740574057305730573057205720572057205710571057105710570057005700570056f056f056f056e056e056e056e056d056d056d056d056c056c056c056b056b056b056b056a056a056a056a0569056905690569056805680568056705670567056705660566056605660565056505650565056405640564056305630563056305620562056205620561056105610561056005600560055f055f055f055f055e055e055e055e055d055d055d055c055c055c055c055b055b055b055b055a055a055a055a0559055905590558055805580558055705570557055705560556055605560555055505550554055405540554055305530553055305520552055205520551,
  0x5dd05dd05dc05dc05dc05db05db05db05db05da05da05da05da05d905d905d905d805d805d805d805d705d705d705d605d605d605d605d505d505d505d405d405d405d405d305d305d305d305d205d205d205d105d105d105d105d005d005d005cf05cf05cf05cf05ce05ce05ce05ce05cd05cd05cd05cc05cc05cc05cc05cb05cb05cb05ca05ca05ca05ca05c905c905c905c805c805c805c805c705c705c705c705c605c605c605c505c505c505c505c405c405c405c305c305c305c305c205c205c205c205c105c105c105c005c005c005c005bf05bf05bf05be05be05be05be05bd05bd05bd05bd05bc05bc05bc05bb05bb05bb05bb05ba05ba05ba05b905b905b905b905b805b805b805b805b705b705b705b605b605b605b605b505b505b505b505b405b405b405b305b305b305b305b205b205b205b105b105b105b105b005b005b005b005af05af05af05ae05ae05ae05ae05ad05ad05ad05ad05ac05ac05ac05ab05ab05ab05ab05aa05aa05aa05a905a905a905a905a805a805a805a805a705a705a705a605a605a605a605a505a505a505a505a405a405a405a305a305a305a305a205a205a205a205a105a105a105a005a005a005a0059f059f059f059f059e059e059e059d059d059d059d059c059c059c059b059b059b059b059a059a059a059a059905990599059805980598059805970597059705970596,
  0x626062506250625062406240624062406230623062306220622062206220621062106210620062006200620061f061f061f061e061e061e061e061d061d061d061c061c061c061c061b061b061b061a061a061a061a06190619061906180618061806180617061706170616061606160616061506150615061406140614061406130613061306120612061206120611061106110610061006100610060f060f060f060e060e060e060e060d060d060d060c060c060c060c060b060b060b060a060a060a060a0609060906090608060806080608060706070607060606060606060606050605060506040604060406040603060306030602060206020602060106010601060006000600060005ff05ff05ff05fe05fe05fe05fe05fd05fd05fd05fc05fc05fc05fc05fb05fb05fb05fa05fa05fa05fa05f905f905f905f805f805f805f805f705f705f705f705f605f605f605f505f505f505f505f405f405f405f305f305f305f305f205f205f205f105f105f105f105f005f005f005ef05ef05ef05ef05ee05ee05ee05ed05ed05ed05ed05ec05ec05ec05ec05eb05eb05eb05ea05ea05ea05ea05e905e905e905e805e805e805e805e705e705e705e605e605e605e605e505e505e505e405e405e405e405e305e305e305e205e205e205e205e105e105e105e105e005e005e005df05df05df05df05de05de05de05dd05dd,
  0x67006700670066f066f066f066e066e066e066e066d066d066d066c066c066c066b066b066b066b066a066a066a0669066906690669066806680668066706670667066606660666066606650665066506640664066406640663066306630662066206620661066106610661066006600660065f065f065f065f065e065e065e065d065d065d065d065c065c065c065b065b065b065a065a065a065a0659065906590658065806580658065706570657065606560656065506550655065506540654065406530653065306530652065206520651065106510651065006500650064f064f064f064e064e064e064e064d064d064d064c064c064c064c064b064b064b064a064a064a064a0649064906490648064806480647064706470647064606460646064506450645064506440644064406430643064306430642064206420641064106410640064006400640063f063f063f063e063e063e063e063d063d063d063c063c063c063c063b063b063b063a063a063a063a0639063906390638063806380638063706370637063606360636063506350635063506340634063406330633063306330632063206320631063106310631063006300630062f062f062f062f062e062e062e062d062d062d062d062c062c062c062b062b062b062b062a062a062a0629062906290628062806280628062706270627062606260626,
  0x6bd06bc06bc06bc06bb06bb06bb06bb06ba06ba06ba06b906b906b906b806b806b806b806b706b706b706b606b606b606b506b506b506b506b406b406b406b306b306b306b206b206b206b206b106b106b106b006b006b006af06af06af06af06ae06ae06ae06ad06ad06ad06ac06ac06ac06ac06ab06ab06ab06aa06aa06aa06a906a906a906a906a806a806a806a706a706a706a606a606a606a506a506a506a506a406a406a406a306a306a306a206a206a206a206a106a106a106a006a006a0069f069f069f069f069e069e069e069d069d069d069d069c069c069c069b069b069b069a069a069a069a069906990699069806980698069706970697069706960696069606950695069506940694069406940693069306930692069206920691069106910691069006900690068f068f068f068e068e068e068e068d068d068d068c068c068c068b068b068b068b068a068a068a0689068906890689068806880688068706870687068606860686068606850685068506840684068406830683068306830682068206820681068106810680068006800680067f067f067f067e067e067e067e067d067d067d067c067c067c067b067b067b067b067a067a067a0679067906790678067806780678067706770677067606760676067606750675067506740674067406730673067306730672067206720671067106710671,
  0x70b070b070a070a070a070a0709070907090708070807080707070707070706070607060706070507050705070407040704070307030703070207020702070207010701070107000700070006ff06ff06ff06fe06fe06fe06fd06fd06fd06fd06fc06fc06fc06fb06fb06fb06fa06fa06fa06f906f906f906f906f806f806f806f706f706f706f606f606f606f506f506f506f506f406f406f406f306f306f306f206f206f206f106f106f106f106f006f006f006ef06ef06ef06ee06ee06ee06ed06ed06ed06ed06ec06ec06ec06eb06eb06eb06ea06ea06ea06e906e906e906e906e806e806e806e706e706e706e606e606e606e606e506e506e506e406e406e406e306e306e306e206e206e206e206e106e106e106e006e006e006df06df06df06de06de06de06de06dd06dd06dd06dc06dc06dc06db06db06db06da06da06da06da06d906d906d906d806d806d806d706d706d706d706d606d606d606d506d506d506d406d406d406d306d306d306d306d206d206d206d106d106d106d006d006d006d006cf06cf06cf06ce06ce06ce06cd06cd06cd06cc06cc06cc06cc06cb06cb06cb06ca06ca06ca06c906c906c906c906c806c806c806c706c706c706c606c606c606c506c506c506c506c406c406c406c306c306c306c206c206c206c206c106c106c106c006c006c006bf06bf06bf06bf06be06be06be06bd06bd,
  0x75b075b075b075a075a075a07590759075907590758075807580757075707570756075607560755075507550754075407540753075307530753075207520752075107510751075007500750074f074f074f074e074e074e074d074d074d074d074c074c074c074b074b074b074a074a074a07490749074907480748074807470747074707470746074607460745074507450744074407440743074307430742074207420741074107410741074007400740073f073f073f073e073e073e073d073d073d073c073c073c073b073b073b073b073a073a073a07390739073907380738073807370737073707360736073607360735073507350734073407340733073307330732073207320731073107310730073007300730072f072f072f072e072e072e072d072d072d072c072c072c072b072b072b072b072a072a072a07290729072907280728072807270727072707260726072607260725072507250724072407240723072307230722072207220721072107210721072007200720071f071f071f071e071e071e071d071d071d071c071c071c071c071b071b071b071a071a071a07190719071907180718071807180717071707170716071607160715071507150714071407140713071307130713071207120712071107110711071007100710070f070f070f070f070e070e070e070d070d070d070c070c070c070b,
  0x7ae07ad07ad07ad07ac07ac07ac07ab07ab07ab07aa07aa07aa07a907a907a907a807a807a807a707a707a707a607a607a607a507a507a507a507a407a407a407a307a307a307a207a207a207a107a107a107a007a007a0079f079f079f079e079e079e079d079d079d079c079c079c079b079b079b079a079a079a079a0799079907990798079807980797079707970796079607960795079507950794079407940793079307930792079207920791079107910790079007900790078f078f078f078e078e078e078d078d078d078c078c078c078b078b078b078a078a078a0789078907890788078807880787078707870787078607860786078507850785078407840784078307830783078207820782078107810781078007800780077f077f077f077e077e077e077e077d077d077d077c077c077c077b077b077b077a077a077a0779077907790778077807780777077707770776077607760776077507750775077407740774077307730773077207720772077107710771077007700770076f076f076f076e076e076e076e076d076d076d076c076c076c076b076b076b076a076a076a07690769076907680768076807670767076707670766076607660765076507650764076407640763076307630762076207620761076107610760076007600760075f075f075f075e075e075e075d075d075d075c075c075c,
  0x80208010801080108000800080007ff07ff07ff07fe07fe07fe07fd07fd07fd07fc07fc07fc07fb07fb07fb07fa07fa07fa07f907f907f907f807f807f807f707f707f707f607f607f607f507f507f507f407f407f407f307f307f307f207f207f207f107f107f107f007f007f007ef07ef07ef07ef07ee07ee07ee07ed07ed07ed07ec07ec07ec07eb07eb07eb07ea07ea07ea07e907e907e907e807e807e807e707e707e707e607e607e607e507e507e507e407e407e407e307e307e307e207e207e207e107e107e107e007e007e007df07df07df07de07de07de07dd07dd07dd07dc07dc07dc07db07db07db07da07da07da07d907d907d907d807d807d807d707d707d707d607d607d607d507d507d507d407d407d407d307d307d307d207d207d207d207d107d107d107d007d007d007cf07cf07cf07ce07ce07ce07cd07cd07cd07cc07cc07cc07cb07cb07cb07ca07ca07ca07c907c907c907c807c807c807c707c707c707c607c607c607c507c507c507c407c407c407c307c307c307c207c207c207c107c107c107c007c007c007c007bf07bf07bf07be07be07be07bd07bd07bd07bc07bc07bc07bb07bb07bb07ba07ba07ba07b907b907b907b807b807b807b707b707b707b607b607b607b507b507b507b407b407b407b307b307b307b207b207b207b207b107b107b107b007b007b007af07af07af07ae07ae,
  0x858085708570857085608560856085508550855085408540854085308530853085208520852085108510851085008500850084f084f084f084e084e084e084d084d084d084c084c084c084b084b084b084a084a084a08490849084908480848084808470847084608460846084508450845084408440844084308430843084208420842084108410841084008400840083f083f083f083e083e083e083d083d083d083c083c083c083b083b083b083a083a083a083908390839083808380838083708370837083608360836083508350835083408340834083308330833083208320832083108310831083008300830082f082f082f082e082e082e082d082d082d082c082c082c082b082b082a082a082a082908290829082808280828082708270827082608260826082508250825082408240824082308230823082208220822082108210821082008200820081f081f081f081e081e081e081d081d081d081c081c081c081b081b081b081a081a081a081908190819081808180818081708170817081608160816081508150815081408140814081308130813081208120812081108110811081008100810080f080f080f080e080e080e080d080d080d080c080c080c080b080b080b080a080a080a08090809080908080808080808070807080708060806080608050805080508040804080408030803080308020802,
  0x8b008af08af08af08ae08ae08ae08ad08ad08ad08ac08ac08ac08ab08ab08ab08aa08aa08aa08a908a908a808a808a808a708a708a708a608a608a608a508a508a508a408a408a408a308a308a308a208a208a208a108a108a108a008a0089f089f089f089e089e089e089d089d089d089c089c089c089b089b089b089a089a089a08990899089908980898089808970897089608960896089508950895089408940894089308930893089208920892089108910891089008900890088f088f088f088e088e088e088d088d088c088c088c088b088b088b088a088a088a08890889088908880888088808870887088708860886088608850885088508840884088408830883088308820882088108810881088008800880087f087f087f087e087e087e087d087d087d087c087c087c087b087b087b087a087a087a08790879087908780878087808770877087608760876087508750875087408740874087308730873087208720872087108710871087008700870086f086f086f086e086e086e086d086d086d086c086c086c086b086b086b086a086a086908690869086808680868086708670867086608660866086508650865086408640864086308630863086208620862086108610861086008600860085f085f085f085e085e085e085d085d085d085c085c085c085b085b085b085a085a08590859085908580858,
  0x90a090909090909090809080908090709070907090609060905090509050904090409040903090309030902090209020901090109000900090008ff08ff08ff08fe08fe08fe08fd08fd08fd08fc08fc08fc08fb08fb08fa08fa08fa08f908f908f908f808f808f808f708f708f708f608f608f608f508f508f408f408f408f308f308f308f208f208f208f108f108f108f008f008f008ef08ef08ee08ee08ee08ed08ed08ed08ec08ec08ec08eb08eb08eb08ea08ea08ea08e908e908e808e808e808e708e708e708e608e608e608e508e508e508e408e408e408e308e308e208e208e208e108e108e108e008e008e008df08df08df08de08de08de08dd08dd08dc08dc08dc08db08db08db08da08da08da08d908d908d908d808d808d808d708d708d708d608d608d508d508d508d408d408d408d308d308d308d208d208d208d108d108d108d008d008d008cf08cf08ce08ce08ce08cd08cd08cd08cc08cc08cc08cb08cb08cb08ca08ca08ca08c908c908c908c808c808c708c708c708c608c608c608c508c508c508c408c408c408c308c308c308c208c208c208c108c108c008c008c008bf08bf08bf08be08be08be08bd08bd08bd08bc08bc08bc08bb08bb08bb08ba08ba08ba08b908b908b808b808b808b708b708b708b608b608b608b508b508b508b408b408b408b308b308b308b208b208b208b108b108b008b0,
  0x9660965096509640964096409630963096309620962096209610961096109600960095f095f095f095e095e095e095d095d095d095c095c095b095b095b095a095a095a0959095909590958095809570957095709560956095609550955095509540954095309530953095209520952095109510951095009500950094f094f094e094e094e094d094d094d094c094c094c094b094b094a094a094a0949094909490948094809480947094709460946094609450945094509440944094409430943094309420942094109410941094009400940093f093f093f093e093e093d093d093d093c093c093c093b093b093b093a093a093a0939093909380938093809370937093709360936093609350935093509340934093309330933093209320932093109310931093009300930092f092f092e092e092e092d092d092d092c092c092c092b092b092a092a092a0929092909290928092809280927092709270926092609250925092509240924092409230923092309220922092209210921092009200920091f091f091f091e091e091e091d091d091d091c091c091b091b091b091a091a091a0919091909190918091809180917091709170916091609150915091509140914091409130913091309120912091209110911091009100910090f090f090f090e090e090e090d090d090d090c090c090b090b090b090a090a,
  0x9c309c309c309c209c209c209c109c109c009c009c009bf09bf09bf09be09be09bd09bd09bd09bc09bc09bc09bb09bb09bb09ba09ba09b909b909b909b809b809b809b709b709b609b609b609b509b509b509b409b409b409b309b309b209b209b209b109b109b109b009b009af09af09af09ae09ae09ae09ad09ad09ad09ac09ac09ab09ab09ab09aa09aa09aa09a909a909a809a809a809a709a709a709a609a609a609a509a509a409a409a409a309a309a309a209a209a109a109a109a009a009a0099f099f099f099e099e099d099d099d099c099c099c099b099b099a099a099a099909990999099809980998099709970996099609960995099509950994099409940993099309920992099209910991099109900990098f098f098f098e098e098e098d098d098d098c098c098b098b098b098a098a098a098909890989098809880987098709870986098609860985098509850984098409830983098309820982098209810981098009800980097f097f097f097e097e097e097d097d097c097c097c097b097b097b097a097a097a097909790978097809780977097709770976097609760975097509740974097409730973097309720972097209710971097009700970096f096f096f096e096e096e096d096d096c096c096c096b096b096b096a096a096a0969096909680968096809670967096709660966,
  0xa230a230a220a220a220a210a210a210a200a200a1f0a1f0a1f0a1e0a1e0a1e0a1d0a1d0a1c0a1c0a1c0a1b0a1b0a1b0a1a0a1a0a190a190a190a180a180a170a170a170a160a160a160a150a150a140a140a140a130a130a130a120a120a110a110a110a100a100a100a0f0a0f0a0e0a0e0a0e0a0d0a0d0a0d0a0c0a0c0a0b0a0b0a0b0a0a0a0a0a0a0a090a090a080a080a080a070a070a070a060a060a050a050a050a040a040a040a030a030a020a020a020a010a010a010a000a0009ff09ff09ff09fe09fe09fe09fd09fd09fc09fc09fc09fb09fb09fb09fa09fa09f909f909f909f809f809f809f709f709f609f609f609f509f509f509f409f409f309f309f309f209f209f209f109f109f009f009f009ef09ef09ef09ee09ee09ed09ed09ed09ec09ec09ec09eb09eb09ea09ea09ea09e909e909e909e809e809e709e709e709e609e609e609e509e509e409e409e409e309e309e309e209e209e209e109e109e009e009e009df09df09df09de09de09dd09dd09dd09dc09dc09dc09db09db09da09da09da09d909d909d909d809d809d709d709d709d609d609d609d509d509d409d409d409d309d309d309d209d209d209d109d109d009d009d009cf09cf09cf09ce09ce09cd09cd09cd09cc09cc09cc09cb09cb09ca09ca09ca09c909c909c909c809c809c709c709c709c609c609c609c509c509c509c409c4,
  0xa850a850a840a840a830a830a830a820a820a810a810a810a800a800a800a7f0a7f0a7e0a7e0a7e0a7d0a7d0a7c0a7c0a7c0a7b0a7b0a7b0a7a0a7a0a790a790a790a780a780a770a770a770a760a760a760a750a750a740a740a740a730a730a720a720a720a710a710a710a700a700a6f0a6f0a6f0a6e0a6e0a6d0a6d0a6d0a6c0a6c0a6c0a6b0a6b0a6a0a6a0a6a0a690a690a690a680a680a670a670a670a660a660a650a650a650a640a640a640a630a630a620a620a620a610a610a600a600a600a5f0a5f0a5f0a5e0a5e0a5d0a5d0a5d0a5c0a5c0a5b0a5b0a5b0a5a0a5a0a5a0a590a590a580a580a580a570a570a570a560a560a550a550a550a540a540a530a530a530a520a520a520a510a510a500a500a500a4f0a4f0a4e0a4e0a4e0a4d0a4d0a4d0a4c0a4c0a4b0a4b0a4b0a4a0a4a0a4a0a490a490a480a480a480a470a470a460a460a460a450a450a450a440a440a430a430a430a420a420a420a410a410a400a400a400a3f0a3f0a3e0a3e0a3e0a3d0a3d0a3d0a3c0a3c0a3b0a3b0a3b0a3a0a3a0a3a0a390a390a380a380a380a370a370a370a360a360a350a350a350a340a340a330a330a330a320a320a320a310a310a300a300a300a2f0a2f0a2f0a2e0a2e0a2d0a2d0a2d0a2c0a2c0a2c0a2b0a2b0a2a0a2a0a2a0a290a290a280a280a280a270a270a270a260a260a250a250a250a240a240a24,
  0xae90ae80ae80ae80ae70ae70ae60ae60ae60ae50ae50ae40ae40ae40ae30ae30ae20ae20ae20ae10ae10ae00ae00ae00adf0adf0ade0ade0ade0add0add0add0adc0adc0adb0adb0adb0ada0ada0ad90ad90ad90ad80ad80ad70ad70ad70ad60ad60ad50ad50ad50ad40ad40ad30ad30ad30ad20ad20ad20ad10ad10ad00ad00ad00acf0acf0ace0ace0ace0acd0acd0acc0acc0acc0acb0acb0aca0aca0aca0ac90ac90ac90ac80ac80ac70ac70ac70ac60ac60ac50ac50ac50ac40ac40ac30ac30ac30ac20ac20ac20ac10ac10ac00ac00ac00abf0abf0abe0abe0abe0abd0abd0abc0abc0abc0abb0abb0aba0aba0aba0ab90ab90ab90ab80ab80ab70ab70ab70ab60ab60ab50ab50ab50ab40ab40ab30ab30ab30ab20ab20ab20ab10ab10ab00ab00ab00aaf0aaf0aae0aae0aae0aad0aad0aac0aac0aac0aab0aab0aab0aaa0aaa0aa90aa90aa90aa80aa80aa70aa70aa70aa60aa60aa50aa50aa50aa40aa40aa40aa30aa30aa20aa20aa20aa10aa10aa00aa00aa00a9f0a9f0a9e0a9e0a9e0a9d0a9d0a9d0a9c0a9c0a9b0a9b0a9b0a9a0a9a0a990a990a990a980a980a980a970a970a960a960a960a950a950a940a940a940a930a930a920a920a920a910a910a910a900a900a8f0a8f0a8f0a8e0a8e0a8d0a8d0a8d0a8c0a8c0a8c0a8b0a8b0a8a0a8a0a8a0a890a890a880a880a880a870a870a870a860a860a85,
  0xb4e0b4e0b4e0b4d0b4d0b4c0b4c0b4c0b4b0b4b0b4a0b4a0b4a0b490b490b480b480b480b470b470b460b460b460b450b450b440b440b440b430b430b420b420b420b410b410b400b400b400b3f0b3f0b3e0b3e0b3e0b3d0b3d0b3c0b3c0b3c0b3b0b3b0b3a0b3a0b3a0b390b390b380b380b380b370b370b360b360b360b350b350b340b340b340b330b330b320b320b320b310b310b300b300b300b2f0b2f0b2e0b2e0b2e0b2d0b2d0b2c0b2c0b2c0b2b0b2b0b2a0b2a0b2a0b290b290b280b280b280b270b270b260b260b260b250b250b240b240b240b230b230b220b220b220b210b210b200b200b200b1f0b1f0b1e0b1e0b1e0b1d0b1d0b1d0b1c0b1c0b1b0b1b0b1b0b1a0b1a0b190b190b190b180b180b170b170b170b160b160b150b150b150b140b140b130b130b130b120b120b110b110b110b100b100b0f0b0f0b0f0b0e0b0e0b0d0b0d0b0d0b0c0b0c0b0b0b0b0b0b0b0a0b0a0b090b090b090b080b080b070b070b070b060b060b060b050b050b040b040b040b030b030b020b020b020b010b010b000b000b000aff0aff0afe0afe0afe0afd0afd0afc0afc0afc0afb0afb0afa0afa0afa0af90af90af80af80af80af70af70af60af60af60af50af50af50af40af40af30af30af30af20af20af10af10af10af00af00aef0aef0aef0aee0aee0aed0aed0aed0aec0aec0aeb0aeb0aeb0aea0aea0ae90ae9,
  0xbb60bb60bb50bb50bb40bb40bb40bb30bb30bb20bb20bb20bb10bb10bb00bb00bb00baf0baf0bae0bae0bae0bad0bad0bac0bac0bac0bab0bab0baa0baa0ba90ba90ba90ba80ba80ba70ba70ba70ba60ba60ba50ba50ba50ba40ba40ba30ba30ba30ba20ba20ba10ba10ba00ba00ba00b9f0b9f0b9e0b9e0b9e0b9d0b9d0b9c0b9c0b9c0b9b0b9b0b9a0b9a0b9a0b990b990b980b980b980b970b970b960b960b960b950b950b940b940b930b930b930b920b920b910b910b910b900b900b8f0b8f0b8f0b8e0b8e0b8d0b8d0b8d0b8c0b8c0b8b0b8b0b8b0b8a0b8a0b890b890b890b880b880b870b870b860b860b860b850b850b840b840b840b830b830b820b820b820b810b810b800b800b800b7f0b7f0b7e0b7e0b7e0b7d0b7d0b7c0b7c0b7c0b7b0b7b0b7a0b7a0b7a0b790b790b780b780b780b770b770b760b760b750b750b750b740b740b730b730b730b720b720b710b710b710b700b700b6f0b6f0b6f0b6e0b6e0b6d0b6d0b6d0b6c0b6c0b6b0b6b0b6b0b6a0b6a0b690b690b690b680b680b670b670b670b660b660b650b650b650b640b640b630b630b630b620b620b610b610b610b600b600b5f0b5f0b5e0b5e0b5e0b5d0b5d0b5c0b5c0b5c0b5b0b5b0b5a0b5a0b5a0b590b590b580b580b580b570b570b560b560b560b550b550b540b540b540b530b530b520b520b520b510b510b500b500b500b4f0b4f,
  0xc200c1f0c1f0c1f0c1e0c1e0c1d0c1d0c1c0c1c0c1c0c1b0c1b0c1a0c1a0c1a0c190c190c180c180c170c170c170c160c160c150c150c150c140c140c130c130c130c120c120c110c110c100c100c100c0f0c0f0c0e0c0e0c0e0c0d0c0d0c0c0c0c0c0b0c0b0c0b0c0a0c0a0c090c090c090c080c080c070c070c060c060c060c050c050c040c040c040c030c030c020c020c010c010c010c000c000bff0bff0bff0bfe0bfe0bfd0bfd0bfd0bfc0bfc0bfb0bfb0bfa0bfa0bfa0bf90bf90bf80bf80bf80bf70bf70bf60bf60bf50bf50bf50bf40bf40bf30bf30bf30bf20bf20bf10bf10bf10bf00bf00bef0bef0bee0bee0bee0bed0bed0bec0bec0bec0beb0beb0bea0bea0be90be90be90be80be80be70be70be70be60be60be50be50be50be40be40be30be30be20be20be20be10be10be00be00be00bdf0bdf0bde0bde0bde0bdd0bdd0bdc0bdc0bdb0bdb0bdb0bda0bda0bd90bd90bd90bd80bd80bd70bd70bd70bd60bd60bd50bd50bd40bd40bd40bd30bd30bd20bd20bd20bd10bd10bd00bd00bd00bcf0bcf0bce0bce0bcd0bcd0bcd0bcc0bcc0bcb0bcb0bcb0bca0bca0bc90bc90bc90bc80bc80bc70bc70bc70bc60bc60bc50bc50bc40bc40bc40bc30bc30bc20bc20bc20bc10bc10bc00bc00bc00bbf0bbf0bbe0bbe0bbd0bbd0bbd0bbc0bbc0bbb0bbb0bbb0bba0bba0bb90bb90bb90bb80bb80bb70bb70bb7,
  0xc8c0c8b0c8b0c8a0c8a0c890c890c890c880c880c870c870c860c860c860c850c850c840c840c830c830c830c820c820c810c810c800c800c800c7f0c7f0c7e0c7e0c7e0c7d0c7d0c7c0c7c0c7b0c7b0c7b0c7a0c7a0c790c790c780c780c780c770c770c760c760c750c750c750c740c740c730c730c730c720c720c710c710c700c700c700c6f0c6f0c6e0c6e0c6d0c6d0c6d0c6c0c6c0c6b0c6b0c6b0c6a0c6a0c690c690c680c680c680c670c670c660c660c650c650c650c640c640c630c630c620c620c620c610c610c600c600c600c5f0c5f0c5e0c5e0c5d0c5d0c5d0c5c0c5c0c5b0c5b0c5a0c5a0c5a0c590c590c580c580c580c570c570c560c560c550c550c550c540c540c530c530c520c520c520c510c510c500c500c500c4f0c4f0c4e0c4e0c4d0c4d0c4d0c4c0c4c0c4b0c4b0c4a0c4a0c4a0c490c490c480c480c480c470c470c460c460c450c450c450c440c440c430c430c430c420c420c410c410c400c400c400c3f0c3f0c3e0c3e0c3d0c3d0c3d0c3c0c3c0c3b0c3b0c3b0c3a0c3a0c390c390c380c380c380c370c370c360c360c360c350c350c340c340c330c330c330c320c320c310c310c310c300c300c2f0c2f0c2e0c2e0c2e0c2d0c2d0c2c0c2c0c2c0c2b0c2b0c2a0c2a0c290c290c290c280c280c270c270c270c260c260c250c250c240c240c240c230c230c220c220c210c210c210c20,
  0xcf90cf90cf80cf80cf80cf70cf70cf60cf60cf50cf50cf40cf40cf40cf30cf30cf20cf20cf10cf10cf10cf00cf00cef0cef0cee0cee0cee0ced0ced0cec0cec0ceb0ceb0ceb0cea0cea0ce90ce90ce80ce80ce80ce70ce70ce60ce60ce50ce50ce50ce40ce40ce30ce30ce20ce20ce10ce10ce10ce00ce00cdf0cdf0cde0cde0cde0cdd0cdd0cdc0cdc0cdb0cdb0cdb0cda0cda0cd90cd90cd80cd80cd80cd70cd70cd60cd60cd50cd50cd50cd40cd40cd30cd30cd20cd20cd20cd10cd10cd00cd00ccf0ccf0ccf0cce0cce0ccd0ccd0ccc0ccc0ccc0ccb0ccb0cca0cca0cc90cc90cc90cc80cc80cc70cc70cc60cc60cc60cc50cc50cc40cc40cc30cc30cc30cc20cc20cc10cc10cc00cc00cc00cbf0cbf0cbe0cbe0cbd0cbd0cbd0cbc0cbc0cbb0cbb0cba0cba0cba0cb90cb90cb80cb80cb70cb70cb70cb60cb60cb50cb50cb40cb40cb40cb30cb30cb20cb20cb10cb10cb10cb00cb00caf0caf0cae0cae0cae0cad0cad0cac0cac0cab0cab0cab0caa0caa0ca90ca90ca80ca80ca80ca70ca70ca60ca60ca50ca50ca50ca40ca40ca30ca30ca30ca20ca20ca10ca10ca00ca00ca00c9f0c9f0c9e0c9e0c9d0c9d0c9d0c9c0c9c0c9b0c9b0c9a0c9a0c9a0c990c990c980c980c970c970c970c960c960c950c950c940c940c940c930c930c920c920c910c910c910c900c900c8f0c8f0c8f0c8e0c8e0c8d0c8d0c8c0c8c,
  0xd690d690d680d680d670d670d660d660d650d650d650d640d640d630d630d620d620d610d610d610d600d600d5f0d5f0d5e0d5e0d5e0d5d0d5d0d5c0d5c0d5b0d5b0d5a0d5a0d5a0d590d590d580d580d570d570d560d560d560d550d550d540d540d530d530d530d520d520d510d510d500d500d4f0d4f0d4f0d4e0d4e0d4d0d4d0d4c0d4c0d4c0d4b0d4b0d4a0d4a0d490d490d480d480d480d470d470d460d460d450d450d450d440d440d430d430d420d420d410d410d410d400d400d3f0d3f0d3e0d3e0d3e0d3d0d3d0d3c0d3c0d3b0d3b0d3a0d3a0d3a0d390d390d380d380d370d370d370d360d360d350d350d340d340d330d330d330d320d320d310d310d300d300d300d2f0d2f0d2e0d2e0d2d0d2d0d2c0d2c0d2c0d2b0d2b0d2a0d2a0d290d290d290d280d280d270d270d260d260d260d250d250d240d240d230d230d220d220d220d210d210d200d200d1f0d1f0d1f0d1e0d1e0d1d0d1d0d1c0d1c0d1c0d1b0d1b0d1a0d1a0d190d190d180d180d180d170d170d160d160d150d150d150d140d140d130d130d120d120d120d110d110d100d100d0f0d0f0d0e0d0e0d0e0d0d0d0d0d0c0d0c0d0b0d0b0d0b0d0a0d0a0d090d090d080d080d080d070d070d060d060d050d050d040d040d040d030d030d020d020d010d010d010d000d000cff0cff0cfe0cfe0cfe0cfd0cfd0cfc0cfc0cfb0cfb0cfb0cfa0cfa,
  0xddb0dda0dda0dd90dd90dd80dd80dd80dd70dd70dd60dd60dd50dd50dd40dd40dd40dd30dd30dd20dd20dd10dd10dd00dd00dd00dcf0dcf0dce0dce0dcd0dcd0dcc0dcc0dcb0dcb0dcb0dca0dca0dc90dc90dc80dc80dc70dc70dc70dc60dc60dc50dc50dc40dc40dc30dc30dc30dc20dc20dc10dc10dc00dc00dbf0dbf0dbf0dbe0dbe0dbd0dbd0dbc0dbc0dbb0dbb0dbb0dba0dba0db90db90db80db80db70db70db60db60db60db50db50db40db40db30db30db20db20db20db10db10db00db00daf0daf0dae0dae0dae0dad0dad0dac0dac0dab0dab0daa0daa0daa0da90da90da80da80da70da70da60da60da60da50da50da40da40da30da30da20da20da20da10da10da00da00d9f0d9f0d9e0d9e0d9e0d9d0d9d0d9c0d9c0d9b0d9b0d9a0d9a0d9a0d990d990d980d980d970d970d960d960d960d950d950d940d940d930d930d920d920d920d910d910d900d900d8f0d8f0d8f0d8e0d8e0d8d0d8d0d8c0d8c0d8b0d8b0d8b0d8a0d8a0d890d890d880d880d870d870d870d860d860d850d850d840d840d830d830d830d820d820d810d810d800d800d7f0d7f0d7f0d7e0d7e0d7d0d7d0d7c0d7c0d7b0d7b0d7b0d7a0d7a0d790d790d780d780d780d770d770d760d760d750d750d740d740d740d730d730d720d720d710d710d700d700d700d6f0d6f0d6e0d6e0d6d0d6d0d6c0d6c0d6c0d6b0d6b0d6a0d6a0d69,
  0xe4e0e4e0e4e0e4d0e4d0e4c0e4c0e4b0e4b0e4a0e4a0e490e490e490e480e480e470e470e460e460e450e450e440e440e440e430e430e420e420e410e410e400e400e3f0e3f0e3f0e3e0e3e0e3d0e3d0e3c0e3c0e3b0e3b0e3a0e3a0e3a0e390e390e380e380e370e370e360e360e350e350e350e340e340e330e330e320e320e310e310e300e300e300e2f0e2f0e2e0e2e0e2d0e2d0e2c0e2c0e2b0e2b0e2b0e2a0e2a0e290e290e280e280e270e270e260e260e260e250e250e240e240e230e230e220e220e210e210e210e200e200e1f0e1f0e1e0e1e0e1d0e1d0e1c0e1c0e1c0e1b0e1b0e1a0e1a0e190e190e180e180e170e170e170e160e160e150e150e140e140e130e130e130e120e120e110e110e100e100e0f0e0f0e0e0e0e0e0e0e0d0e0d0e0c0e0c0e0b0e0b0e0a0e0a0e090e090e090e080e080e070e070e060e060e050e050e050e040e040e030e030e020e020e010e010e000e000e000dff0dff0dfe0dfe0dfd0dfd0dfc0dfc0dfc0dfb0dfb0dfa0dfa0df90df90df80df80df70df70df70df60df60df50df50df40df40df30df30df30df20df20df10df10df00df00def0def0dee0dee0dee0ded0ded0dec0dec0deb0deb0dea0dea0dea0de90de90de80de80de70de70de60de60de50de50de50de40de40de30de30de20de20de10de10de10de00de00ddf0ddf0dde0dde0ddd0ddd0ddc0ddc0ddc0ddb,
  0xec40ec40ec30ec30ec20ec20ec10ec10ec10ec00ec00ebf0ebf0ebe0ebe0ebd0ebd0ebc0ebc0ebb0ebb0ebb0eba0eba0eb90eb90eb80eb80eb70eb70eb60eb60eb50eb50eb50eb40eb40eb30eb30eb20eb20eb10eb10eb00eb00eaf0eaf0eae0eae0eae0ead0ead0eac0eac0eab0eab0eaa0eaa0ea90ea90ea80ea80ea80ea70ea70ea60ea60ea50ea50ea40ea40ea30ea30ea20ea20ea20ea10ea10ea00ea00e9f0e9f0e9e0e9e0e9d0e9d0e9c0e9c0e9c0e9b0e9b0e9a0e9a0e990e990e980e980e970e970e960e960e960e950e950e940e940e930e930e920e920e910e910e900e900e900e8f0e8f0e8e0e8e0e8d0e8d0e8c0e8c0e8b0e8b0e8a0e8a0e8a0e890e890e880e880e870e870e860e860e850e850e850e840e840e830e830e820e820e810e810e800e800e7f0e7f0e7f0e7e0e7e0e7d0e7d0e7c0e7c0e7b0e7b0e7a0e7a0e790e790e790e780e780e770e770e760e760e750e750e740e740e740e730e730e720e720e710e710e700e700e6f0e6f0e6e0e6e0e6e0e6d0e6d0e6c0e6c0e6b0e6b0e6a0e6a0e690e690e690e680e680e670e670e660e660e650e650e640e640e630e630e630e620e620e610e610e600e600e5f0e5f0e5e0e5e0e5e0e5d0e5d0e5c0e5c0e5b0e5b0e5a0e5a0e590e590e590e580e580e570e570e560e560e550e550e540e540e530e530e530e520e520e510e510e500e500e4f0e4f,
  0xf3c0f3c0f3b0f3b0f3a0f3a0f390f390f380f380f370f370f360f360f350f350f350f340f340f330f330f320f320f310f310f300f300f2f0f2f0f2e0f2e0f2d0f2d0f2d0f2c0f2c0f2b0f2b0f2a0f2a0f290f290f280f280f270f270f260f260f250f250f250f240f240f230f230f220f220f210f210f200f200f1f0f1f0f1e0f1e0f1d0f1d0f1d0f1c0f1c0f1b0f1b0f1a0f1a0f190f190f180f180f170f170f160f160f150f150f150f140f140f130f130f120f120f110f110f100f100f0f0f0f0f0e0f0e0f0e0f0d0f0d0f0c0f0c0f0b0f0b0f0a0f0a0f090f090f080f080f070f070f060f060f060f050f050f040f040f030f030f020f020f010f010f000f000eff0eff0eff0efe0efe0efd0efd0efc0efc0efb0efb0efa0efa0ef90ef90ef80ef80ef80ef70ef70ef60ef60ef50ef50ef40ef40ef30ef30ef20ef20ef10ef10ef00ef00ef00eef0eef0eee0eee0eed0eed0eec0eec0eeb0eeb0eea0eea0ee90ee90ee90ee80ee80ee70ee70ee60ee60ee50ee50ee40ee40ee30ee30ee20ee20ee20ee10ee10ee00ee00edf0edf0ede0ede0edd0edd0edc0edc0edc0edb0edb0eda0eda0ed90ed90ed80ed80ed70ed70ed60ed60ed50ed50ed50ed40ed40ed30ed30ed20ed20ed10ed10ed00ed00ecf0ecf0ece0ece0ece0ecd0ecd0ecc0ecc0ecb0ecb0eca0eca0ec90ec90ec80ec80ec80ec70ec70ec60ec60ec50ec5,
  0xfb60fb50fb50fb50fb40fb40fb30fb30fb20fb20fb10fb10fb00fb00faf0faf0fae0fae0fad0fad0fac0fac0fab0fab0faa0faa0faa0fa90fa90fa80fa80fa70fa70fa60fa60fa50fa50fa40fa40fa30fa30fa20fa20fa10fa10fa00fa00f9f0f9f0f9e0f9e0f9e0f9d0f9d0f9c0f9c0f9b0f9b0f9a0f9a0f990f990f980f980f970f970f960f960f950f950f940f940f930f930f930f920f920f910f910f900f900f8f0f8f0f8e0f8e0f8d0f8d0f8c0f8c0f8b0f8b0f8a0f8a0f890f890f890f880f880f870f870f860f860f850f850f840f840f830f830f820f820f810f810f800f800f7f0f7f0f7e0f7e0f7e0f7d0f7d0f7c0f7c0f7b0f7b0f7a0f7a0f790f790f780f780f770f770f760f760f750f750f740f740f740f730f730f720f720f710f710f700f700f6f0f6f0f6e0f6e0f6d0f6d0f6c0f6c0f6b0f6b0f6b0f6a0f6a0f690f690f680f680f670f670f660f660f650f650f640f640f630f630f620f620f610f610f610f600f600f5f0f5f0f5e0f5e0f5d0f5d0f5c0f5c0f5b0f5b0f5a0f5a0f590f590f580f580f580f570f570f560f560f550f550f540f540f530f530f520f520f510f510f500f500f4f0f4f0f4f0f4e0f4e0f4d0f4d0f4c0f4c0f4b0f4b0f4a0f4a0f490f490f480f480f470f470f460f460f460f450f450f440f440f430f430f420f420f410f410f400f400f3f0f3f0f3e0f3e0f3e0f3d0f3d,
  0x10321031103110301030102f102f102e102e102e102d102d102c102c102b102b102a102a10291029102810281027102710261026102510251024102410231023102210221021102110201020101f101f101e101e101d101d101c101c101b101b101b101a101a10191019101810181017101710161016101510151014101410131013101210121011101110101010100f100f100e100e100d100d100c100c100b100b100a100a1009100910091008100810071007100610061005100510041004100310031002100210011001100010000fff0fff0ffe0ffe0ffd0ffd0ffc0ffc0ffb0ffb0ffa0ffa0ff90ff90ff90ff80ff80ff70ff70ff60ff60ff50ff50ff40ff40ff30ff30ff20ff20ff10ff10ff00ff00fef0fef0fee0fee0fed0fed0fec0fec0feb0feb0fea0fea0fea0fe90fe90fe80fe80fe70fe70fe60fe60fe50fe50fe40fe40fe30fe30fe20fe20fe10fe10fe00fe00fdf0fdf0fde0fde0fdd0fdd0fdc0fdc0fdc0fdb0fdb0fda0fda0fd90fd90fd80fd80fd70fd70fd60fd60fd50fd50fd40fd40fd30fd30fd20fd20fd10fd10fd00fd00fcf0fcf0fcf0fce0fce0fcd0fcd0fcc0fcc0fcb0fcb0fca0fca0fc90fc90fc80fc80fc70fc70fc60fc60fc50fc50fc40fc40fc30fc30fc20fc20fc20fc10fc10fc00fc00fbf0fbf0fbe0fbe0fbd0fbd0fbc0fbc0fbb0fbb0fba0fba0fb90fb90fb80fb80fb70fb70fb6,
  0x10b010af10af10ae10ae10ad10ad10ac10ac10ab10ab10aa10aa10a910a910a810a810a710a710a610a610a510a510a410a410a310a310a210a210a210a110a110a010a0109f109f109e109e109d109d109c109c109b109b109a109a10991099109810981097109710961096109510951094109410931093109210921091109110901090108f108f108e108e108d108d108c108c108b108b108a108a10891089108810881087108710861086108510851084108410831083108210821081108110801080107f107f107e107e107d107d107c107c107b107b107a107a107910791079107810781077107710761076107510751074107410731073107210721071107110701070106f106f106e106e106d106d106c106c106b106b106a106a10691069106810681067106710661066106510651064106410631063106210621061106110601060105f105f105e105e105d105d105c105c105c105b105b105a105a10591059105810581057105710561056105510551054105410531053105210521051105110501050104f104f104e104e104d104d104c104c104b104b104a104a104910491048104810471047104610461045104510441044104310431043104210421041104110401040103f103f103e103e103d103d103c103c103b103b103a103a103910391038103810371037103610361035103510341034103310331032,
  0x1130112f112f112e112e112d112d112c112c112b112b112a112a11291129112811281127112711261126112511251124112411231123112211221121112111201120111f111f111e111e111d111d111c111c111b111b111a111a11191119111811181117111711161116111511151114111411131113111211121111111111101110110f110f110e110e110d110d110c110c110b110b110a110a1109110911081108110711071106110611051105110411041103110311021102110111011100110010ff10ff10fe10fe10fd10fd10fc10fc10fb10fb10fa10fa10f910f910f810f810f710f710f610f610f510f510f410f410f310f310f210f210f110f110f010f010ef10ef10ee10ee10ed10ed10ec10ec10eb10eb10ea10ea10e910e910e810e810e710e710e610e610e510e510e410e410e310e310e210e210e110e110e010e010df10df10de10de10dd10dd10dc10dc10db10db10da10da10d910d910d810d810d710d710d610d610d510d510d410d410d310d310d210d210d110d110d010d010cf10cf10ce10ce10cd10cd10cc10cc10cb10cb10ca10ca10c910c910c810c810c710c710c610c610c510c510c410c410c310c310c210c210c110c110c010c010bf10bf10be10be10bd10bd10bc10bc10bb10bb10ba10ba10b910b910b810b810b710b710b610b610b510b510b410b410b310b310b210b210b110b110b0,
  0x11b211b211b111b011b011af11af11ae11ae11ad11ad11ac11ac11ab11ab11aa11aa11a911a911a811a811a711a711a611a611a511a511a411a411a311a311a211a211a111a111a011a0119f119f119e119e119d119d119c119c119b119a119a11991199119811981197119711961196119511951194119411931193119211921191119111901190118f118f118e118e118d118d118c118c118b118b118a118a1189118911881188118711871186118611851185118411841183118311821182118111801180117f117f117e117e117d117d117c117c117b117b117a117a11791179117811781177117711761176117511751174117411731173117211721171117111701170116f116f116e116e116d116d116c116c116b116b116a116a1169116911681168116711671166116611651165116411641163116211621161116111601160115f115f115e115e115d115d115c115c115b115b115a115a11591159115811581157115711561156115511551154115411531153115211521151115111501150114f114f114e114e114d114d114c114c114b114b114a114a11491149114811481147114711461146114511451144114411431143114211421141114111401140113f113f113e113e113d113d113c113c113b113b113a113a113911381138113711371136113611351135113411341133113311321132113111311130,
  0x1236123612351235123412341233123312321232123112301230122f122f122e122e122d122d122c122c122b122b122a122a1229122912281228122712271226122612251225122412231223122212221221122112201220121f121f121e121e121d121d121c121c121b121b121a121a1219121912181218121712171216121512151214121412131213121212121211121112101210120f120f120e120e120d120d120c120c120b120b120a120a120912091208120712071206120612051205120412041203120312021202120112011200120011ff11ff11fe11fe11fd11fd11fc11fc11fb11fb11fa11fa11f911f911f811f711f711f611f611f511f511f411f411f311f311f211f211f111f111f011f011ef11ef11ee11ee11ed11ed11ec11ec11eb11eb11ea11ea11e911e911e811e711e711e611e611e511e511e411e411e311e311e211e211e111e111e011e011df11df11de11de11dd11dd11dc11dc11db11db11da11da11d911d911d811d811d711d611d611d511d511d411d411d311d311d211d211d111d111d011d011cf11cf11ce11ce11cd11cd11cc11cc11cb11cb11ca11ca11c911c911c811c811c711c711c611c611c511c411c411c311c311c211c211c111c111c011c011bf11bf11be11be11bd11bd11bc11bc11bb11bb11ba11ba11b911b911b811b811b711b711b611b611b511b511b411b411b311b3,
  0x12bc12bc12bb12bb12ba12ba12b912b912b812b812b712b712b612b612b512b512b412b312b312b212b212b112b112b012b012af12af12ae12ae12ad12ad12ac12ac12ab12ab12aa12a912a912a812a812a712a712a612a612a512a512a412a412a312a312a212a212a112a012a0129f129f129e129e129d129d129c129c129b129b129a129a1299129912981298129712961296129512951294129412931293129212921291129112901290128f128f128e128e128d128c128c128b128b128a128a1289128912881288128712871286128612851285128412841283128312821281128112801280127f127f127e127e127d127d127c127c127b127b127a127a1279127912781277127712761276127512751274127412731273127212721271127112701270126f126f126e126e126d126c126c126b126b126a126a1269126912681268126712671266126612651265126412641263126312621262126112601260125f125f125e125e125d125d125c125c125b125b125a125a1259125912581258125712571256125512551254125412531253125212521251125112501250124f124f124e124e124d124d124c124c124b124b124a12491249124812481247124712461246124512451244124412431243124212421241124112401240123f123f123e123d123d123c123c123b123b123a123a123912391238123812371237,
  0x1345134413441343134313421342134113401340133f133f133e133e133d133d133c133c133b133b133a133a133913381338133713371336133613351335133413341333133313321331133113301330132f132f132e132e132d132d132c132c132b132b132a1329132913281328132713271326132613251325132413241323132313221321132113201320131f131f131e131e131d131d131c131c131b131a131a1319131913181318131713171316131613151315131413141313131213121311131113101310130f130f130e130e130d130d130c130c130b130a130a130913091308130813071307130613061305130513041304130313021302130113011300130012ff12ff12fe12fe12fd12fd12fc12fc12fb12fb12fa12f912f912f812f812f712f712f612f612f512f512f412f412f312f312f212f112f112f012f012ef12ef12ee12ee12ed12ed12ec12ec12eb12eb12ea12e912e912e812e812e712e712e612e612e512e512e412e412e312e312e212e212e112e012e012df12df12de12de12dd12dd12dc12dc12db12db12da12da12d912d912d812d712d712d612d612d512d512d412d412d312d312d212d212d112d112d012cf12cf12ce12ce12cd12cd12cc12cc12cb12cb12ca12ca12c912c912c812c812c712c712c612c512c512c412c412c312c312c212c212c112c112c012c012bf12bf12be12be12bd,
  0x13cf13cf13ce13ce13cd13cc13cc13cb13cb13ca13ca13c913c913c813c813c713c613c613c513c513c413c413c313c313c213c213c113c113c013bf13bf13be13be13bd13bd13bc13bc13bb13bb13ba13b913b913b813b813b713b713b613b613b513b513b413b313b313b213b213b113b113b013b013af13af13ae13ad13ad13ac13ac13ab13ab13aa13aa13a913a913a813a813a713a613a613a513a513a413a413a313a313a213a213a113a013a0139f139f139e139e139d139d139c139c139b139b139a1399139913981398139713971396139613951395139413931393139213921391139113901390138f138f138e138e138d138c138c138b138b138a138a138913891388138813871386138613851385138413841383138313821382138113811380137f137f137e137e137d137d137c137c137b137b137a137a137913781378137713771376137613751375137413741373137313721371137113701370136f136f136e136e136d136d136c136c136b136a136a1369136913681368136713671366136613651365136413631363136213621361136113601360135f135f135e135e135d135c135c135b135b135a135a1359135913581358135713571356135513551354135413531353135213521351135113501350134f134e134e134d134d134c134c134b134b134a134a13491349134813471347134613461345,
  0x145c145b145b145a145a145914581458145714571456145614551455145414531453145214521451145114501450144f144e144e144d144d144c144c144b144b144a1449144914481448144714471446144614451445144414431443144214421441144114401440143f143e143e143d143d143c143c143b143b143a1439143914381438143714371436143614351435143414331433143214321431143114301430142f142e142e142d142d142c142c142b142b142a142a142914281428142714271426142614251425142414231423142214221421142114201420141f141f141e141d141d141c141c141b141b141a141a141914181418141714171416141614151415141414141413141214121411141114101410140f140f140e140e140d140c140c140b140b140a140a14091409140814071407140614061405140514041404140314031402140114011400140013ff13ff13fe13fe13fd13fd13fc13fb13fb13fa13fa13f913f913f813f813f713f713f613f513f513f413f413f313f313f213f213f113f013f013ef13ef13ee13ee13ed13ed13ec13ec13eb13ea13ea13e913e913e813e813e713e713e613e613e513e413e413e313e313e213e213e113e113e013e013df13de13de13dd13dd13dc13dc13db13db13da13da13d913d813d813d713d713d613d613d513d513d413d413d313d213d213d113d113d013d0,
  0x14ea14ea14e914e914e814e814e714e614e614e514e514e414e414e314e214e214e114e114e014e014df14df14de14dd14dd14dc14dc14db14db14da14da14d914d814d814d714d714d614d614d514d414d414d314d314d214d214d114d114d014cf14cf14ce14ce14cd14cd14cc14cc14cb14ca14ca14c914c914c814c814c714c614c614c514c514c414c414c314c314c214c114c114c014c014bf14bf14be14be14bd14bc14bc14bb14bb14ba14ba14b914b914b814b714b714b614b614b514b514b414b314b314b214b214b114b114b014b014af14ae14ae14ad14ad14ac14ac14ab14ab14aa14a914a914a814a814a714a714a614a614a514a414a414a314a314a214a214a114a114a0149f149f149e149e149d149d149c149c149b149a149a149914991498149814971497149614951495149414941493149314921492149114901490148f148f148e148e148d148d148c148b148b148a148a148914891488148814871486148614851485148414841483148314821481148114801480147f147f147e147e147d147c147c147b147b147a147a147914791478147714771476147614751475147414741473147214721471147114701470146f146f146e146d146d146c146c146b146b146a146a146914681468146714671466146614651465146414631463146214621461146114601460145f145e145e145d145d145c,
  0x157b157a157a157915791578157815771576157615751575157415741573157315721571157115701570156f156f156e156d156d156c156c156b156b156a156915691568156815671567156615651565156415641563156315621561156115601560155f155f155e155d155d155c155c155b155b155a155a15591558155815571557155615561555155415541553155315521552155115501550154f154f154e154e154d154c154c154b154b154a154a15491548154815471547154615461545154515441543154315421542154115411540153f153f153e153e153d153d153c153b153b153a153a153915391538153815371536153615351535153415341533153215321531153115301530152f152e152e152d152d152c152c152b152b152a152915291528152815271527152615251525152415241523152315221521152115201520151f151f151e151e151d151c151c151b151b151a151a15191518151815171517151615161515151515141513151315121512151115111510150f150f150e150e150d150d150c150b150b150a150a15091509150815081507150615061505150515041504150315021502150115011500150014ff14ff14fe14fd14fd14fc14fc14fb14fb14fa14f914f914f814f814f714f714f614f614f514f414f414f314f314f214f214f114f114f014ef14ef14ee14ee14ed14ed14ec14eb14eb,
  0x160e160d160d160c160c160b160a160a1609160916081608160716061606160516051604160316031602160216011601160015ff15ff15fe15fe15fd15fd15fc15fb15fb15fa15fa15f915f915f815f715f715f615f615f515f415f415f315f315f215f215f115f015f015ef15ef15ee15ee15ed15ec15ec15eb15eb15ea15ea15e915e815e815e715e715e615e615e515e415e415e315e315e215e115e115e015e015df15df15de15dd15dd15dc15dc15db15db15da15d915d915d815d815d715d715d615d515d515d415d415d315d315d215d115d115d015d015cf15cf15ce15cd15cd15cc15cc15cb15ca15ca15c915c915c815c815c715c615c615c515c515c415c415c315c215c215c115c115c015c015bf15be15be15bd15bd15bc15bc15bb15ba15ba15b915b915b815b815b715b615b615b515b515b415b415b315b215b215b115b115b015b015af15ae15ae15ad15ad15ac15ac15ab15aa15aa15a915a915a815a815a715a615a615a515a515a415a415a315a215a215a115a115a015a0159f159e159e159d159d159c159c159b159a159a159915991598159815971596159615951595159415941593159215921591159115901590158f158e158e158d158d158c158c158b158a158a158915891588158815871586158615851585158415841583158215821581158115801580157f157e157e157d157d157c157c,
  0x16a316a216a216a116a016a0169f169f169e169e169d169c169c169b169b169a16991699169816981697169616961695169516941694169316921692169116911690168f168f168e168e168d168d168c168b168b168a168a16891688168816871687168616861685168416841683168316821681168116801680167f167f167e167d167d167c167c167b167a167a16791679167816781677167616761675167516741673167316721672167116711670166f166f166e166e166d166c166c166b166b166a166a16691668166816671667166616651665166416641663166316621661166116601660165f165e165e165d165d165c165c165b165a165a16591659165816571657165616561655165516541653165316521652165116501650164f164f164e164e164d164c164c164b164b164a164a16491648164816471647164616451645164416441643164316421641164116401640163f163e163e163d163d163c163c163b163a163a16391639163816381637163616361635163516341633163316321632163116311630162f162f162e162e162d162d162c162b162b162a162a16291628162816271627162616261625162416241623162316221622162116201620161f161f161e161d161d161c161c161b161b161a161916191618161816171617161616151615161416141613161216121611161116101610160f160e,
  0x173a17391739173817371737173617361735173417341733173317321732173117301730172f172f172e172d172d172c172c172b172a172a17291729172817271727172617261725172417241723172317221722172117201720171f171f171e171d171d171c171c171b171a171a17191719171817171717171617161715171417141713171317121712171117101710170f170f170e170d170d170c170c170b170a170a1709170917081707170717061706170517041704170317031702170217011700170016ff16ff16fe16fd16fd16fc16fc16fb16fa16fa16f916f916f816f716f716f616f616f516f516f416f316f316f216f216f116f016f016ef16ef16ee16ed16ed16ec16ec16eb16eb16ea16e916e916e816e816e716e616e616e516e516e416e316e316e216e216e116e016e016df16df16de16de16dd16dc16dc16db16db16da16d916d916d816d816d716d616d616d516d516d416d416d316d216d216d116d116d016cf16cf16ce16ce16cd16cc16cc16cb16cb16ca16ca16c916c816c816c716c716c616c516c516c416c416c316c216c216c116c116c016c016bf16be16be16bd16bd16bc16bb16bb16ba16ba16b916b816b816b716b716b616b616b516b416b416b316b316b216b116b116b016b016af16af16ae16ad16ad16ac16ac16ab16aa16aa16a916a916a816a716a716a616a616a516a516a416a3,
  0x17d317d217d217d117d117d017cf17cf17ce17ce17cd17cc17cc17cb17cb17ca17c917c917c817c817c717c617c617c517c517c417c317c317c217c217c117c017c017bf17bf17be17bd17bd17bc17bc17bb17ba17ba17b917b917b817b717b717b617b617b517b417b417b317b317b217b117b117b017b017af17ae17ae17ad17ad17ac17ab17ab17aa17aa17a917a817a817a717a717a617a517a517a417a417a317a217a217a117a117a0179f179f179e179e179d179c179c179b179b179a17991799179817981797179617961795179517941793179317921792179117901790178f178f178e178d178d178c178c178b178a178a17891789178817871787178617861785178417841783178317821781178117801780177f177e177e177d177d177c177b177b177a177a1779177817781777177717761775177517741774177317721772177117711770176f176f176e176e176d176c176c176b176b176a17691769176817681767176617661765176517641764176317621762176117611760175f175f175e175e175d175c175c175b175b175a17591759175817581757175617561755175517541753175317521752175117501750174f174f174e174d174d174c174c174b174a174a17491749174817481747174617461745174517441743174317421742174117401740173f173f173e173d173d173c173c173b173a,
  0x186e186e186d186c186c186b186b186a18691869186818681867186618661865186518641863186318621861186118601860185f185e185e185d185d185c185b185b185a185a1859185818581857185718561855185518541853185318521852185118501850184f184f184e184d184d184c184c184b184a184a1849184918481847184718461845184518441844184318421842184118411840183f183f183e183e183d183c183c183b183b183a18391839183818371837183618361835183418341833183318321831183118301830182f182e182e182d182d182c182b182b182a18291829182818281827182618261825182518241823182318221822182118201820181f181f181e181d181d181c181c181b181a181a1819181918181817181718161815181518141814181318121812181118111810180f180f180e180e180d180c180c180b180b180a1809180918081808180718061806180518051804180318031802180118011800180017ff17fe17fe17fd17fd17fc17fb17fb17fa17fa17f917f817f817f717f717f617f517f517f417f417f317f217f217f117f117f017ef17ef17ee17ee17ed17ec17ec17eb17eb17ea17e917e917e817e817e717e617e617e517e417e417e317e317e217e117e117e017e017df17de17de17dd17dd17dc17db17db17da17da17d917d817d817d717d717d617d517d517d417d4,
  0x190c190b190b190a190919091908190719071906190619051904190419031902190219011901190018ff18ff18fe18fe18fd18fc18fc18fb18fa18fa18f918f918f818f718f718f618f518f518f418f418f318f218f218f118f118f018ef18ef18ee18ed18ed18ec18ec18eb18ea18ea18e918e918e818e718e718e618e518e518e418e418e318e218e218e118e018e018df18df18de18dd18dd18dc18dc18db18da18da18d918d818d818d718d718d618d518d518d418d418d318d218d218d118d018d018cf18cf18ce18cd18cd18cc18cc18cb18ca18ca18c918c818c818c718c718c618c518c518c418c418c318c218c218c118c018c018bf18bf18be18bd18bd18bc18bc18bb18ba18ba18b918b818b818b718b718b618b518b518b418b418b318b218b218b118b018b018af18af18ae18ad18ad18ac18ac18ab18aa18aa18a918a818a818a718a718a618a518a518a418a418a318a218a218a118a118a0189f189f189e189d189d189c189c189b189a189a1899189918981897189718961895189518941894189318921892189118911890188f188f188e188e188d188c188c188b188a188a1889188918881887188718861886188518841884188318821882188118811880187f187f187e187e187d187c187c187b187b187a18791879187818771877187618761875187418741873187318721871187118701870186f,
  0x19ab19ab19aa19a919a919a819a819a719a619a619a519a419a419a319a319a219a119a119a0199f199f199e199e199d199c199c199b199a199a1999199919981997199719961995199519941993199319921992199119901990198f198e198e198d198d198c198b198b198a1989198919881988198719861986198519841984198319831982198119811980197f197f197e197e197d197c197c197b197a197a1979197919781977197719761975197519741974197319721972197119701970196f196f196e196d196d196c196b196b196a196a1969196819681967196619661965196519641963196319621961196119601960195f195e195e195d195d195c195b195b195a1959195919581958195719561956195519541954195319531952195119511950194f194f194e194e194d194c194c194b194a194a1949194919481947194719461945194519441944194319421942194119401940193f193f193e193d193d193c193c193b193a193a1939193819381937193719361935193519341933193319321932193119301930192f192e192e192d192d192c192b192b192a19291929192819281927192619261925192519241923192319221921192119201920191f191e191e191d191c191c191b191b191a1919191919181918191719161916191519141914191319131912191119111910190f190f190e190e190d190c,
  0x1a4d1a4c1a4c1a4b1a4a1a4a1a491a491a481a471a471a461a451a451a441a431a431a421a421a411a401a401a3f1a3e1a3e1a3d1a3d1a3c1a3b1a3b1a3a1a391a391a381a371a371a361a361a351a341a341a331a321a321a311a301a301a2f1a2f1a2e1a2d1a2d1a2c1a2b1a2b1a2a1a291a291a281a281a271a261a261a251a241a241a231a221a221a211a211a201a1f1a1f1a1e1a1d1a1d1a1c1a1c1a1b1a1a1a1a1a191a181a181a171a161a161a151a151a141a131a131a121a111a111a101a0f1a0f1a0e1a0e1a0d1a0c1a0c1a0b1a0a1a0a1a091a091a081a071a071a061a051a051a041a031a031a021a021a011a001a0019ff19fe19fe19fd19fd19fc19fb19fb19fa19f919f919f819f719f719f619f619f519f419f419f319f219f219f119f119f019ef19ef19ee19ed19ed19ec19eb19eb19ea19ea19e919e819e819e719e619e619e519e519e419e319e319e219e119e119e019e019df19de19de19dd19dc19dc19db19da19da19d919d919d819d719d719d619d519d519d419d419d319d219d219d119d019d019cf19cf19ce19cd19cd19cc19cb19cb19ca19c919c919c819c819c719c619c619c519c419c419c319c319c219c119c119c019bf19bf19be19be19bd19bc19bc19bb19ba19ba19b919b819b819b719b719b619b519b519b419b319b319b219b219b119b019b019af19ae19ae19ad19ad19ac,
  0x1af11af01af01aef1aee1aee1aed1aec1aec1aeb1aea1aea1ae91ae91ae81ae71ae71ae61ae51ae51ae41ae31ae31ae21ae11ae11ae01adf1adf1ade1ade1add1adc1adc1adb1ada1ada1ad91ad81ad81ad71ad61ad61ad51ad51ad41ad31ad31ad21ad11ad11ad01acf1acf1ace1acd1acd1acc1acc1acb1aca1aca1ac91ac81ac81ac71ac61ac61ac51ac51ac41ac31ac31ac21ac11ac11ac01abf1abf1abe1abd1abd1abc1abc1abb1aba1aba1ab91ab81ab81ab71ab61ab61ab51ab41ab41ab31ab31ab21ab11ab11ab01aaf1aaf1aae1aad1aad1aac1aab1aab1aaa1aaa1aa91aa81aa81aa71aa61aa61aa51aa41aa41aa31aa31aa21aa11aa11aa01a9f1a9f1a9e1a9d1a9d1a9c1a9b1a9b1a9a1a9a1a991a981a981a971a961a961a951a941a941a931a931a921a911a911a901a8f1a8f1a8e1a8d1a8d1a8c1a8b1a8b1a8a1a8a1a891a881a881a871a861a861a851a841a841a831a831a821a811a811a801a7f1a7f1a7e1a7d1a7d1a7c1a7c1a7b1a7a1a7a1a791a781a781a771a761a761a751a751a741a731a731a721a711a711a701a6f1a6f1a6e1a6d1a6d1a6c1a6c1a6b1a6a1a6a1a691a681a681a671a661a661a651a651a641a631a631a621a611a611a601a5f1a5f1a5e1a5e1a5d1a5c1a5c1a5b1a5a1a5a1a591a581a581a571a571a561a551a551a541a531a531a521a511a511a501a501a4f1a4e1a4e,
  0x1b971b961b961b951b941b941b931b921b921b911b901b901b8f1b8e1b8e1b8d1b8c1b8c1b8b1b8a1b8a1b891b891b881b871b871b861b851b851b841b831b831b821b811b811b801b7f1b7f1b7e1b7d1b7d1b7c1b7c1b7b1b7a1b7a1b791b781b781b771b761b761b751b741b741b731b721b721b711b701b701b6f1b6e1b6e1b6d1b6d1b6c1b6b1b6b1b6a1b691b691b681b671b671b661b651b651b641b631b631b621b611b611b601b601b5f1b5e1b5e1b5d1b5c1b5c1b5b1b5a1b5a1b591b581b581b571b561b561b551b541b541b531b531b521b511b511b501b4f1b4f1b4e1b4d1b4d1b4c1b4b1b4b1b4a1b491b491b481b481b471b461b461b451b441b441b431b421b421b411b401b401b3f1b3e1b3e1b3d1b3c1b3c1b3b1b3b1b3a1b391b391b381b371b371b361b351b351b341b331b331b321b311b311b301b301b2f1b2e1b2e1b2d1b2c1b2c1b2b1b2a1b2a1b291b281b281b271b261b261b251b251b241b231b231b221b211b211b201b1f1b1f1b1e1b1d1b1d1b1c1b1b1b1b1b1a1b1a1b191b181b181b171b161b161b151b141b141b131b121b121b111b101b101b0f1b0f1b0e1b0d1b0d1b0c1b0b1b0b1b0a1b091b091b081b071b071b061b061b051b041b041b031b021b021b011b001b001aff1afe1afe1afd1afc1afc1afb1afb1afa1af91af91af81af71af71af61af51af51af41af31af31af21af2,
  0x1c3f1c3e1c3e1c3d1c3c1c3c1c3b1c3a1c3a1c391c381c381c371c361c361c351c341c341c331c321c321c311c311c301c2f1c2f1c2e1c2d1c2d1c2c1c2b1c2b1c2a1c291c291c281c271c271c261c251c251c241c231c231c221c211c211c201c1f1c1f1c1e1c1d1c1d1c1c1c1b1c1b1c1a1c191c191c181c171c171c161c151c151c141c131c131c121c121c111c101c101c0f1c0e1c0e1c0d1c0c1c0c1c0b1c0a1c0a1c091c081c081c071c061c061c051c041c041c031c021c021c011c001c001bff1bfe1bfe1bfd1bfc1bfc1bfb1bfa1bfa1bf91bf91bf81bf71bf71bf61bf51bf51bf41bf31bf31bf21bf11bf11bf01bef1bef1bee1bed1bed1bec1beb1beb1bea1be91be91be81be71be71be61be51be51be41be31be31be21be21be11be01be01bdf1bde1bde1bdd1bdc1bdc1bdb1bda1bda1bd91bd81bd81bd71bd61bd61bd51bd41bd41bd31bd21bd21bd11bd01bd01bcf1bce1bce1bcd1bcd1bcc1bcb1bcb1bca1bc91bc91bc81bc71bc71bc61bc51bc51bc41bc31bc31bc21bc11bc11bc01bbf1bbf1bbe1bbd1bbd1bbc1bbb1bbb1bba1bba1bb91bb81bb81bb71bb61bb61bb51bb41bb41bb31bb21bb21bb11bb01bb01baf1bae1bae1bad1bac1bac1bab1baa1baa1ba91ba91ba81ba71ba71ba61ba51ba51ba41ba31ba31ba21ba11ba11ba01b9f1b9f1b9e1b9d1b9d1b9c1b9b1b9b1b9a1b991b991b981b98,
  0x1ce91ce91ce81ce71ce71ce61ce51ce51ce41ce31ce31ce21ce11ce11ce01cdf1cdf1cde1cdd1cdd1cdc1cdb1cdb1cda1cd91cd91cd81cd71cd71cd61cd51cd51cd41cd31cd31cd21cd11cd11cd01ccf1ccf1cce1ccd1ccd1ccc1ccb1ccb1cca1cc91cc91cc81cc71cc71cc61cc51cc51cc41cc31cc31cc21cc11cc11cc01cbf1cbf1cbe1cbd1cbd1cbc1cbb1cbb1cba1cb91cb91cb81cb71cb71cb61cb51cb51cb41cb31cb31cb21cb11cb11cb01caf1caf1cae1cad1cad1cac1cab1cab1caa1ca91ca91ca81ca71ca71ca61ca51ca51ca41ca31ca31ca21ca11ca11ca01c9f1c9f1c9e1c9d1c9d1c9c1c9b1c9b1c9a1c991c991c981c971c971c961c951c951c941c931c931c921c911c911c901c8f1c8f1c8e1c8d1c8d1c8c1c8b1c8b1c8a1c891c891c881c871c871c861c851c851c841c831c831c821c811c811c801c7f1c7f1c7e1c7d1c7d1c7c1c7b1c7b1c7a1c791c791c781c771c771c761c751c751c741c731c731c721c711c711c701c6f1c6f1c6e1c6d1c6d1c6c1c6b1c6b1c6a1c691c691c681c671c671c661c651c651c641c631c631c621c611c611c601c5f1c5f1c5e1c5d1c5d1c5c1c5c1c5b1c5a1c5a1c591c581c581c571c561c561c551c541c541c531c521c521c511c501c501c4f1c4e1c4e1c4d1c4c1c4c1c4b1c4a1c4a1c491c481c481c471c461c461c451c441c441c431c421c421c411c401c40,
  0x1d961d951d951d941d931d921d921d911d901d901d8f1d8e1d8e1d8d1d8c1d8c1d8b1d8a1d8a1d891d881d881d871d861d861d851d841d841d831d821d821d811d801d801d7f1d7e1d7d1d7d1d7c1d7b1d7b1d7a1d791d791d781d771d771d761d751d751d741d731d731d721d711d711d701d6f1d6f1d6e1d6d1d6d1d6c1d6b1d6b1d6a1d691d691d681d671d661d661d651d641d641d631d621d621d611d601d601d5f1d5e1d5e1d5d1d5c1d5c1d5b1d5a1d5a1d591d581d581d571d561d561d551d541d541d531d521d521d511d501d501d4f1d4e1d4e1d4d1d4c1d4b1d4b1d4a1d491d491d481d471d471d461d451d451d441d431d431d421d411d411d401d3f1d3f1d3e1d3d1d3d1d3c1d3b1d3b1d3a1d391d391d381d371d371d361d351d351d341d331d331d321d311d311d301d2f1d2f1d2e1d2d1d2c1d2c1d2b1d2a1d2a1d291d281d281d271d261d261d251d241d241d231d221d221d211d201d201d1f1d1e1d1e1d1d1d1c1d1c1d1b1d1a1d1a1d191d181d181d171d161d161d151d141d141d131d121d121d111d101d101d0f1d0e1d0e1d0d1d0c1d0c1d0b1d0a1d0a1d091d081d081d071d061d061d051d041d041d031d021d021d011d001cff1cff1cfe1cfd1cfd1cfc1cfb1cfb1cfa1cf91cf91cf81cf71cf71cf61cf51cf51cf41cf31cf31cf21cf11cf11cf01cef1cef1cee1ced1ced1cec1ceb1ceb1cea,
  0x1e451e441e431e421e421e411e401e401e3f1e3e1e3e1e3d1e3c1e3c1e3b1e3a1e3a1e391e381e371e371e361e351e351e341e331e331e321e311e311e301e2f1e2f1e2e1e2d1e2d1e2c1e2b1e2a1e2a1e291e281e281e271e261e261e251e241e241e231e221e221e211e201e201e1f1e1e1e1d1e1d1e1c1e1b1e1b1e1a1e191e191e181e171e171e161e151e151e141e131e131e121e111e101e101e0f1e0e1e0e1e0d1e0c1e0c1e0b1e0a1e0a1e091e081e081e071e061e061e051e041e031e031e021e011e011e001dff1dff1dfe1dfd1dfd1dfc1dfb1dfb1dfa1df91df91df81df71df61df61df51df41df41df31df21df21df11df01df01def1dee1dee1ded1dec1dec1deb1dea1dea1de91de81de71de71de61de51de51de41de31de31de21de11de11de01ddf1ddf1dde1ddd1ddd1ddc1ddb1ddb1dda1dd91dd81dd81dd71dd61dd61dd51dd41dd41dd31dd21dd21dd11dd01dd01dcf1dce1dce1dcd1dcc1dcc1dcb1dca1dc91dc91dc81dc71dc71dc61dc51dc51dc41dc31dc31dc21dc11dc11dc01dbf1dbf1dbe1dbd1dbd1dbc1dbb1dbb1dba1db91db81db81db71db61db61db51db41db41db31db21db21db11db01db01daf1dae1dae1dad1dac1dac1dab1daa1daa1da91da81da81da71da61da51da51da41da31da31da21da11da11da01d9f1d9f1d9e1d9d1d9d1d9c1d9b1d9b1d9a1d991d991d981d971d97,
  0x1ef51ef51ef41ef31ef31ef21ef11ef01ef01eef1eee1eee1eed1eec1eec1eeb1eea1eea1ee91ee81ee71ee71ee61ee51ee51ee41ee31ee31ee21ee11ee11ee01edf1ede1ede1edd1edc1edc1edb1eda1eda1ed91ed81ed81ed71ed61ed51ed51ed41ed31ed31ed21ed11ed11ed01ecf1ece1ece1ecd1ecc1ecc1ecb1eca1eca1ec91ec81ec81ec71ec61ec51ec51ec41ec31ec31ec21ec11ec11ec01ebf1ebf1ebe1ebd1ebc1ebc1ebb1eba1eba1eb91eb81eb81eb71eb61eb61eb51eb41eb31eb31eb21eb11eb11eb01eaf1eaf1eae1ead1ead1eac1eab1eaa1eaa1ea91ea81ea81ea71ea61ea61ea51ea41ea41ea31ea21ea21ea11ea01e9f1e9f1e9e1e9d1e9d1e9c1e9b1e9b1e9a1e991e991e981e971e961e961e951e941e941e931e921e921e911e901e901e8f1e8e1e8d1e8d1e8c1e8b1e8b1e8a1e891e891e881e871e871e861e851e851e841e831e821e821e811e801e801e7f1e7e1e7e1e7d1e7c1e7c1e7b1e7a1e791e791e781e771e771e761e751e751e741e731e731e721e711e711e701e6f1e6e1e6e1e6d1e6c1e6c1e6b1e6a1e6a1e691e681e681e671e661e661e651e641e631e631e621e611e611e601e5f1e5f1e5e1e5d1e5d1e5c1e5b1e5b1e5a1e591e581e581e571e561e561e551e541e541e531e521e521e511e501e501e4f1e4e1e4d1e4d1e4c1e4b1e4b1e4a1e491e491e481e471e471e461e45,
  0x1fa81fa81fa71fa61fa61fa51fa41fa31fa31fa21fa11fa11fa01f9f1f9f1f9e1f9d1f9c1f9c1f9b1f9a1f9a1f991f981f981f971f961f951f951f941f931f931f921f911f901f901f8f1f8e1f8e1f8d1f8c1f8c1f8b1f8a1f891f891f881f871f871f861f851f851f841f831f821f821f811f801f801f7f1f7e1f7e1f7d1f7c1f7b1f7b1f7a1f791f791f781f771f771f761f751f741f741f731f721f721f711f701f701f6f1f6e1f6d1f6d1f6c1f6b1f6b1f6a1f691f681f681f671f661f661f651f641f641f631f621f611f611f601f5f1f5f1f5e1f5d1f5d1f5c1f5b1f5a1f5a1f591f581f581f571f561f561f551f541f531f531f521f511f511f501f4f1f4f1f4e1f4d1f4d1f4c1f4b1f4a1f4a1f491f481f481f471f461f461f451f441f431f431f421f411f411f401f3f1f3f1f3e1f3d1f3c1f3c1f3b1f3a1f3a1f391f381f381f371f361f351f351f341f331f331f321f311f311f301f2f1f2e1f2e1f2d1f2c1f2c1f2b1f2a1f2a1f291f281f271f271f261f251f251f241f231f231f221f211f211f201f1f1f1e1f1e1f1d1f1c1f1c1f1b1f1a1f1a1f191f181f171f171f161f151f151f141f131f131f121f111f101f101f0f1f0e1f0e1f0d1f0c1f0c1f0b1f0a1f0a1f091f081f071f071f061f051f051f041f031f031f021f011f001f001eff1efe1efe1efd1efc1efc1efb1efa1efa1ef91ef81ef71ef71ef6,
  0x205e205d205c205b205b205a20592059205820572056205620552054205420532052205120512050204f204f204e204d204c204c204b204a204a20492048204820472046204520452044204320432042204120402040203f203e203e203d203c203b203b203a20392039203820372036203620352034203420332032203120312030202f202f202e202d202d202c202b202a202a20292028202820272026202520252024202320232022202120202020201f201e201e201d201c201b201b201a20192019201820172017201620152014201420132012201220112010200f200f200e200d200d200c200b200a200a200920082008200720062006200520042003200320022001200120001fff1ffe1ffe1ffd1ffc1ffc1ffb1ffa1ffa1ff91ff81ff71ff71ff61ff51ff51ff41ff31ff21ff21ff11ff01ff01fef1fee1fed1fed1fec1feb1feb1fea1fe91fe91fe81fe71fe61fe61fe51fe41fe41fe31fe21fe11fe11fe01fdf1fdf1fde1fdd1fdd1fdc1fdb1fda1fda1fd91fd81fd81fd71fd61fd51fd51fd41fd31fd31fd21fd11fd11fd01fcf1fce1fce1fcd1fcc1fcc1fcb1fca1fc91fc91fc81fc71fc71fc61fc51fc51fc41fc31fc21fc21fc11fc01fc01fbf1fbe1fbd1fbd1fbc1fbb1fbb1fba1fb91fb91fb81fb71fb61fb61fb51fb41fb41fb31fb21fb21fb11fb01faf1faf1fae1fad1fad1fac1fab1faa1faa1fa9,
  0x21152114211421132112211121112110210f210e210e210d210c210c210b210a2109210921082107210721062105210421042103210221022101210020ff20ff20fe20fd20fc20fc20fb20fa20fa20f920f820f720f720f620f520f520f420f320f220f220f120f020f020ef20ee20ed20ed20ec20eb20eb20ea20e920e820e820e720e620e520e520e420e320e320e220e120e020e020df20de20de20dd20dc20db20db20da20d920d920d820d720d620d620d520d420d420d320d220d120d120d020cf20ce20ce20cd20cc20cc20cb20ca20c920c920c820c720c720c620c520c420c420c320c220c220c120c020bf20bf20be20bd20bd20bc20bb20ba20ba20b920b820b820b720b620b520b520b420b320b320b220b120b020b020af20ae20ae20ad20ac20ab20ab20aa20a920a920a820a720a620a620a520a420a420a320a220a120a120a0209f209f209e209d209c209c209b209a209a20992098209720972096209520952094209320922092209120902090208f208e208d208d208c208b208b208a20892088208820872086208620852084208320832082208120812080207f207e207e207d207c207c207b207a20792079207820772077207620752074207420732072207220712070206f206f206e206d206d206c206b206a206a20692068206820672066206520652064206320632062206120602060205f205e,
  0x21cf21ce21cd21cc21cc21cb21ca21c921c921c821c721c721c621c521c421c421c321c221c121c121c021bf21bf21be21bd21bc21bc21bb21ba21b921b921b821b721b621b621b521b421b421b321b221b121b121b021af21ae21ae21ad21ac21ac21ab21aa21a921a921a821a721a621a621a521a421a421a321a221a121a121a0219f219e219e219d219c219c219b219a21992199219821972196219621952194219421932192219121912190218f218e218e218d218c218c218b218a21892189218821872187218621852184218421832182218121812180217f217f217e217d217c217c217b217a21792179217821772177217621752174217421732172217121712170216f216f216e216d216c216c216b216a216a2169216821672167216621652164216421632162216221612160215f215f215e215d215c215c215b215a215a2159215821572157215621552155215421532152215221512150214f214f214e214d214d214c214b214a214a21492148214721472146214521452144214321422142214121402140213f213e213d213d213c213b213a213a21392138213821372136213521352134213321332132213121302130212f212e212d212d212c212b212b212a21292128212821272126212621252124212321232122212121202120211f211e211e211d211c211b211b211a211921192118211721162116,
  0x228a228a2289228822872287228622852284228422832282228122812280227f227f227e227d227c227c227b227a22792279227822772276227622752274227322732272227122712270226f226e226e226d226c226b226b226a22692268226822672266226522652264226322632262226122602260225f225e225d225d225c225b225a225a2259225822572257225622552255225422532252225222512250224f224f224e224d224c224c224b224a224a2249224822472247224622452244224422432242224122412240223f223e223e223d223c223c223b223a22392239223822372236223622352234223322332232223122312230222f222e222e222d222c222b222b222a22292228222822272226222622252224222322232222222122202220221f221e221d221d221c221b221b221a22192218221822172216221522152214221322122212221122102210220f220e220d220d220c220b220a220a220922082208220722062205220522042203220222022201220021ff21ff21fe21fd21fd21fc21fb21fa21fa21f921f821f721f721f621f521f421f421f321f221f221f121f021ef21ef21ee21ed21ec21ec21eb21ea21ea21e921e821e721e721e621e521e421e421e321e221e221e121e021df21df21de21dd21dc21dc21db21da21d921d921d821d721d721d621d521d421d421d321d221d121d121d021cf,
  0x234823482347234623452345234423432342234223412340233f233f233e233d233c233c233b233a23392339233823372336233623352334233323332332233123302330232f232e232d232d232c232b232a232a2329232823272327232623252324232423232322232223212320231f231f231e231d231c231c231b231a23192319231823172316231623152314231323132312231123102310230f230e230d230d230c230b230a230a230923082307230723062305230423042303230223022301230022ff22ff22fe22fd22fc22fc22fb22fa22f922f922f822f722f622f622f522f422f322f322f222f122f022f022ef22ee22ed22ed22ec22eb22eb22ea22e922e822e822e722e622e522e522e422e322e222e222e122e022df22df22de22dd22dc22dc22db22da22d922d922d822d722d622d622d522d422d422d322d222d122d122d022cf22ce22ce22cd22cc22cb22cb22ca22c922c822c822c722c622c522c522c422c322c222c222c122c022c022bf22be22bd22bd22bc22bb22ba22ba22b922b822b722b722b622b522b422b422b322b222b122b122b022af22ae22ae22ad22ac22ac22ab22aa22a922a922a822a722a622a622a522a422a322a322a222a122a022a0229f229e229e229d229c229b229b229a2299229822982297229622952295229422932292229222912290228f228f228e228d228d228c228b,
  0x24082408240724062405240524042403240224022401240023ff23ff23fe23fd23fc23fc23fb23fa23f923f923f823f723f623f623f523f423f323f323f223f123f023f023ef23ee23ed23ed23ec23eb23ea23ea23e923e823e723e723e623e523e423e423e323e223e123e023e023df23de23dd23dd23dc23db23da23da23d923d823d723d723d623d523d423d423d323d223d123d123d023cf23ce23ce23cd23cc23cb23cb23ca23c923c823c823c723c623c523c523c423c323c223c223c123c023bf23bf23be23bd23bc23bc23bb23ba23b923b923b823b723b623b623b523b423b323b323b223b123b023b023af23ae23ad23ad23ac23ab23aa23aa23a923a823a723a723a623a523a423a423a323a223a123a123a0239f239e239e239d239c239b239b239a2399239823982397239623952395239423932392239223912390238f238f238e238d238c238c238b238a23892389238823872386238623852384238323832382238123802380237f237e237d237d237c237b237a237a2379237823772377237623752374237423732372237123712370236f236e236e236d236c236b236b236a2369236823682367236623652365236423632362236223612360235f235f235e235d235c235c235b235a23592359235823572356235623552354235323532352235123502350234f234e234e234d234c234b234b234a2349,
  0x24cb24ca24c924c924c824c724c624c624c524c424c324c224c224c124c024bf24bf24be24bd24bc24bc24bb24ba24b924b924b824b724b624b524b524b424b324b224b224b124b024af24af24ae24ad24ac24ac24ab24aa24a924a924a824a724a624a524a524a424a324a224a224a124a0249f249f249e249d249c249c249b249a2499249924982497249624952495249424932492249224912490248f248f248e248d248c248c248b248a2489248924882487248624852485248424832482248224812480247f247f247e247d247c247c247b247a2479247924782477247624762475247424732472247224712470246f246f246e246d246c246c246b246a24692469246824672466246624652464246324632462246124602460245f245e245d245c245c245b245a24592459245824572456245624552454245324532452245124502450244f244e244d244d244c244b244a244a2449244824472446244624452444244324432442244124402440243f243e243d243d243c243b243a243a2439243824372437243624352434243424332432243124312430242f242e242d242d242c242b242a242a2429242824272427242624252424242424232422242124212420241f241e241e241d241c241b241b241a2419241824182417241624152415241424132412241224112410240f240e240e240d240c240b240b240a2409,
  0x258f258f258e258d258c258c258b258a2589258825882587258625852585258425832582258225812580257f257e257e257d257c257b257b257a2579257825782577257625752574257425732572257125712570256f256e256d256d256c256b256a256a2569256825672567256625652564256325632562256125602560255f255e255d255d255c255b255a2559255925582557255625562555255425532553255225512550254f254f254e254d254c254c254b254a2549254925482547254625452545254425432542254225412540253f253f253e253d253c253b253b253a2539253825382537253625352535253425332532253125312530252f252e252e252d252c252b252b252a2529252825272527252625252524252425232522252125212520251f251e251e251d251c251b251a251a2519251825172517251625152514251425132512251125102510250f250e250d250d250c250b250a250a250925082507250725062505250425032503250225012500250024ff24fe24fd24fd24fc24fb24fa24f924f924f824f724f624f624f524f424f324f324f224f124f024f024ef24ee24ed24ec24ec24eb24ea24e924e924e824e724e624e624e524e424e324e324e224e124e024df24df24de24dd24dc24dc24db24da24d924d924d824d724d624d624d524d424d324d224d224d124d024cf24cf24ce24cd24cc24cc,
  0x265626552655265426532652265226512650264f264e264e264d264c264b264b264a2649264826472647264626452644264426432642264126402640263f263e263d263d263c263b263a2639263926382637263626352635263426332632263226312630262f262e262e262d262c262b262b262a2629262826272627262626252624262426232622262126202620261f261e261d261d261c261b261a2619261926182617261626162615261426132612261226112610260f260f260e260d260c260b260b260a260926082608260726062605260426042603260226012601260025ff25fe25fd25fd25fc25fb25fa25fa25f925f825f725f625f625f525f425f325f325f225f125f025ef25ef25ee25ed25ec25ec25eb25ea25e925e825e825e725e625e525e525e425e325e225e125e125e025df25de25de25dd25dc25db25db25da25d925d825d725d725d625d525d425d425d325d225d125d025d025cf25ce25cd25cd25cc25cb25ca25c925c925c825c725c625c625c525c425c325c225c225c125c025bf25bf25be25bd25bc25bc25bb25ba25b925b825b825b725b625b525b525b425b325b225b125b125b025af25ae25ae25ad25ac25ab25aa25aa25a925a825a725a725a625a525a425a425a325a225a125a025a0259f259e259d259d259c259b259a2599259925982597259625962595259425932593259225912590,
  0x271f271f271e271d271c271b271b271a2719271827172717271627152714271327132712271127102710270f270e270d270c270c270b270a270927082708270727062705270427042703270227012701270026ff26fe26fd26fd26fc26fb26fa26f926f926f826f726f626f526f526f426f326f226f226f126f026ef26ee26ee26ed26ec26eb26ea26ea26e926e826e726e726e626e526e426e326e326e226e126e026df26df26de26dd26dc26dc26db26da26d926d826d826d726d626d526d426d426d326d226d126d126d026cf26ce26cd26cd26cc26cb26ca26c926c926c826c726c626c626c526c426c326c226c226c126c026bf26be26be26bd26bc26bb26bb26ba26b926b826b726b726b626b526b426b326b326b226b126b026b026af26ae26ad26ac26ac26ab26aa26a926a826a826a726a626a526a526a426a326a226a126a126a0269f269e269d269d269c269b269a269a269926982697269626962695269426932692269226912690268f268f268e268d268c268b268b268a2689268826882687268626852684268426832682268126802680267f267e267d267d267c267b267a2679267926782677267626762675267426732672267226712670266f266e266e266d266c266b266b266a2669266826672667266626652664266426632662266126602660265f265e265d265d265c265b265a2659265926582657,
  0x27eb27ea27e927e827e727e727e627e527e427e327e327e227e127e027df27df27de27dd27dc27db27db27da27d927d827d727d727d627d527d427d327d327d227d127d027cf27cf27ce27cd27cc27cb27cb27ca27c927c827c727c727c627c527c427c327c327c227c127c027c027bf27be27bd27bc27bc27bb27ba27b927b827b827b727b627b527b427b427b327b227b127b027b027af27ae27ad27ac27ac27ab27aa27a927a827a827a727a627a527a427a427a327a227a127a027a0279f279e279d279c279c279b279a2799279927982797279627952795279427932792279127912790278f278e278d278d278c278b278a2789278927882787278627852785278427832782278127812780277f277e277e277d277c277b277a277a277927782777277627762775277427732772277227712770276f276e276e276d276c276b276a276a276927682767276727662765276427632763276227612760275f275f275e275d275c275b275b275a2759275827572757275627552754275327532752275127502750274f274e274d274c274c274b274a2749274827482747274627452744274427432742274127402740273f273e273d273d273c273b273a2739273927382737273627352735273427332732273127312730272f272e272e272d272c272b272a272a272927282727272627262725272427232722272227212720,
  0x28b828b728b628b628b528b428b328b228b228b128b028af28ae28ae28ad28ac28ab28aa28aa28a928a828a728a628a628a528a428a328a228a128a128a0289f289e289d289d289c289b289a2899289928982897289628952895289428932892289128912890288f288e288d288d288c288b288a2889288928882887288628852884288428832882288128802880287f287e287d287c287c287b287a2879287828782877287628752874287428732872287128702870286f286e286d286c286c286b286a286928682868286728662865286428642863286228612860285f285f285e285d285c285b285b285a285928582857285728562855285428532853285228512850284f284f284e284d284c284b284b284a284928482847284728462845284428432843284228412840283f283f283e283d283c283b283b283a283928382837283728362835283428332833283228312830282f282f282e282d282c282b282b282a282928282827282728262825282428232823282228212820281f281f281e281d281c281b281b281a281928182817281728162815281428132813281228112810280f280f280e280d280c280b280b280a28092808280728072806280528042803280328022801280027ff27ff27fe27fd27fc27fb27fb27fa27f927f827f727f727f627f527f427f327f327f227f127f027ef27ef27ee27ed27ec27eb,
  0x29882987298629852985298429832982298129802980297f297e297d297c297c297b297a297929782977297729762975297429732973297229712970296f296f296e296d296c296b296a296a296929682967296629662965296429632962296129612960295f295e295d295d295c295b295a2959295929582957295629552954295429532952295129502950294f294e294d294c294c294b294a294929482947294729462945294429432943294229412940293f293f293e293d293c293b293a293a293929382937293629362935293429332932293229312930292f292e292d292d292c292b292a2929292929282927292629252925292429232922292129202920291f291e291d291c291c291b291a291929182918291729162915291429132913291229112910290f290f290e290d290c290b290b290a29092908290729072906290529042903290229022901290028ff28fe28fe28fd28fc28fb28fa28fa28f928f828f728f628f528f528f428f328f228f128f128f028ef28ee28ed28ed28ec28eb28ea28e928e928e828e728e628e528e428e428e328e228e128e028e028df28de28dd28dc28dc28db28da28d928d828d828d728d628d528d428d428d328d228d128d028cf28cf28ce28cd28cc28cb28cb28ca28c928c828c728c728c628c528c428c328c328c228c128c028bf28bf28be28bd28bc28bb28ba28ba28b9,
  0x2a5a2a592a582a572a562a562a552a542a532a522a522a512a502a4f2a4e2a4d2a4d2a4c2a4b2a4a2a492a482a482a472a462a452a442a442a432a422a412a402a3f2a3f2a3e2a3d2a3c2a3b2a3a2a3a2a392a382a372a362a362a352a342a332a322a312a312a302a2f2a2e2a2d2a2c2a2c2a2b2a2a2a292a282a282a272a262a252a242a232a232a222a212a202a1f2a1e2a1e2a1d2a1c2a1b2a1a2a1a2a192a182a172a162a152a152a142a132a122a112a112a102a0f2a0e2a0d2a0c2a0c2a0b2a0a2a092a082a072a072a062a052a042a032a032a022a012a0029ff29fe29fe29fd29fc29fb29fa29fa29f929f829f729f629f529f529f429f329f229f129f029f029ef29ee29ed29ec29ec29eb29ea29e929e829e729e729e629e529e429e329e329e229e129e029df29de29de29dd29dc29db29da29da29d929d829d729d629d529d529d429d329d229d129d129d029cf29ce29cd29cc29cc29cb29ca29c929c829c829c729c629c529c429c329c329c229c129c029bf29bf29be29bd29bc29bb29ba29ba29b929b829b729b629b629b529b429b329b229b129b129b029af29ae29ad29ad29ac29ab29aa29a929a829a829a729a629a529a429a429a329a229a129a0299f299f299e299d299c299b299b299a299929982997299629962995299429932992299229912990298f298e298d298d298c298b298a29892989,
  0x2b2e2b2d2b2c2b2b2b2b2b2a2b292b282b272b262b262b252b242b232b222b212b212b202b1f2b1e2b1d2b1c2b1c2b1b2b1a2b192b182b172b172b162b152b142b132b122b122b112b102b0f2b0e2b0d2b0d2b0c2b0b2b0a2b092b082b082b072b062b052b042b042b032b022b012b002aff2aff2afe2afd2afc2afb2afa2afa2af92af82af72af62af52af52af42af32af22af12af02af02aef2aee2aed2aec2aeb2aeb2aea2ae92ae82ae72ae62ae62ae52ae42ae32ae22ae12ae12ae02adf2ade2add2adc2adc2adb2ada2ad92ad82ad72ad72ad62ad52ad42ad32ad32ad22ad12ad02acf2ace2ace2acd2acc2acb2aca2ac92ac92ac82ac72ac62ac52ac42ac42ac32ac22ac12ac02abf2abf2abe2abd2abc2abb2aba2aba2ab92ab82ab72ab62ab52ab52ab42ab32ab22ab12ab12ab02aaf2aae2aad2aac2aac2aab2aaa2aa92aa82aa72aa72aa62aa52aa42aa32aa22aa22aa12aa02a9f2a9e2a9d2a9d2a9c2a9b2a9a2a992a992a982a972a962a952a942a942a932a922a912a902a8f2a8f2a8e2a8d2a8c2a8b2a8a2a8a2a892a882a872a862a862a852a842a832a822a812a812a802a7f2a7e2a7d2a7c2a7c2a7b2a7a2a792a782a772a772a762a752a742a732a732a722a712a702a6f2a6e2a6e2a6d2a6c2a6b2a6a2a692a692a682a672a662a652a642a642a632a622a612a602a602a5f2a5e2a5d2a5c2a5b2a5b,
  0x2c042c042c032c022c012c002bff2bff2bfe2bfd2bfc2bfb2bfa2bf92bf92bf82bf72bf62bf52bf42bf42bf32bf22bf12bf02bef2bef2bee2bed2bec2beb2bea2be92be92be82be72be62be52be42be42be32be22be12be02bdf2bdf2bde2bdd2bdc2bdb2bda2bda2bd92bd82bd72bd62bd52bd42bd42bd32bd22bd12bd02bcf2bcf2bce2bcd2bcc2bcb2bca2bca2bc92bc82bc72bc62bc52bc52bc42bc32bc22bc12bc02bbf2bbf2bbe2bbd2bbc2bbb2bba2bba2bb92bb82bb72bb62bb52bb52bb42bb32bb22bb12bb02bb02baf2bae2bad2bac2bab2bab2baa2ba92ba82ba72ba62ba52ba52ba42ba32ba22ba12ba02ba02b9f2b9e2b9d2b9c2b9b2b9b2b9a2b992b982b972b962b962b952b942b932b922b912b912b902b8f2b8e2b8d2b8c2b8c2b8b2b8a2b892b882b872b862b862b852b842b832b822b812b812b802b7f2b7e2b7d2b7c2b7c2b7b2b7a2b792b782b772b772b762b752b742b732b722b722b712b702b6f2b6e2b6d2b6d2b6c2b6b2b6a2b692b682b682b672b662b652b642b632b632b622b612b602b5f2b5e2b5e2b5d2b5c2b5b2b5a2b592b592b582b572b562b552b542b532b532b522b512b502b4f2b4e2b4e2b4d2b4c2b4b2b4a2b492b492b482b472b462b452b442b442b432b422b412b402b3f2b3f2b3e2b3d2b3c2b3b2b3a2b3a2b392b382b372b362b352b352b342b332b322b312b302b302b2f,
  0x2cdd2cdc2cdb2cdb2cda2cd92cd82cd72cd62cd52cd52cd42cd32cd22cd12cd02cd02ccf2cce2ccd2ccc2ccb2cca2cca2cc92cc82cc72cc62cc52cc42cc42cc32cc22cc12cc02cbf2cbf2cbe2cbd2cbc2cbb2cba2cb92cb92cb82cb72cb62cb52cb42cb32cb32cb22cb12cb02caf2cae2cae2cad2cac2cab2caa2ca92ca82ca82ca72ca62ca52ca42ca32ca22ca22ca12ca02c9f2c9e2c9d2c9d2c9c2c9b2c9a2c992c982c972c972c962c952c942c932c922c922c912c902c8f2c8e2c8d2c8c2c8c2c8b2c8a2c892c882c872c872c862c852c842c832c822c812c812c802c7f2c7e2c7d2c7c2c7b2c7b2c7a2c792c782c772c762c762c752c742c732c722c712c702c702c6f2c6e2c6d2c6c2c6b2c6b2c6a2c692c682c672c662c652c652c642c632c622c612c602c602c5f2c5e2c5d2c5c2c5b2c5a2c5a2c592c582c572c562c552c552c542c532c522c512c502c4f2c4f2c4e2c4d2c4c2c4b2c4a2c4a2c492c482c472c462c452c452c442c432c422c412c402c3f2c3f2c3e2c3d2c3c2c3b2c3a2c3a2c392c382c372c362c352c342c342c332c322c312c302c2f2c2f2c2e2c2d2c2c2c2b2c2a2c292c292c282c272c262c252c242c242c232c222c212c202c1f2c1f2c1e2c1d2c1c2c1b2c1a2c192c192c182c172c162c152c142c142c132c122c112c102c0f2c0f2c0e2c0d2c0c2c0b2c0a2c092c092c082c072c062c05,
  0x2db82db72db62db52db52db42db32db22db12db02daf2daf2dae2dad2dac2dab2daa2da92da92da82da72da62da52da42da32da32da22da12da02d9f2d9e2d9d2d9d2d9c2d9b2d9a2d992d982d972d972d962d952d942d932d922d912d912d902d8f2d8e2d8d2d8c2d8b2d8b2d8a2d892d882d872d862d852d852d842d832d822d812d802d7f2d7f2d7e2d7d2d7c2d7b2d7a2d792d792d782d772d762d752d742d732d732d722d712d702d6f2d6e2d6d2d6d2d6c2d6b2d6a2d692d682d672d672d662d652d642d632d622d612d612d602d5f2d5e2d5d2d5c2d5b2d5b2d5a2d592d582d572d562d552d552d542d532d522d512d502d4f2d4f2d4e2d4d2d4c2d4b2d4a2d492d492d482d472d462d452d442d432d432d422d412d402d3f2d3e2d3d2d3d2d3c2d3b2d3a2d392d382d382d372d362d352d342d332d322d322d312d302d2f2d2e2d2d2d2c2d2c2d2b2d2a2d292d282d272d262d262d252d242d232d222d212d202d202d1f2d1e2d1d2d1c2d1b2d1a2d1a2d192d182d172d162d152d142d142d132d122d112d102d0f2d0f2d0e2d0d2d0c2d0b2d0a2d092d092d082d072d062d052d042d032d032d022d012d002cff2cfe2cfd2cfd2cfc2cfb2cfa2cf92cf82cf82cf72cf62cf52cf42cf32cf22cf22cf12cf02cef2cee2ced2cec2cec2ceb2cea2ce92ce82ce72ce62ce62ce52ce42ce32ce22ce12ce12ce02cdf2cde,
  0x2e952e942e942e932e922e912e902e8f2e8e2e8d2e8d2e8c2e8b2e8a2e892e882e872e872e862e852e842e832e822e812e802e802e7f2e7e2e7d2e7c2e7b2e7a2e7a2e792e782e772e762e752e742e732e732e722e712e702e6f2e6e2e6d2e6d2e6c2e6b2e6a2e692e682e672e662e662e652e642e632e622e612e602e602e5f2e5e2e5d2e5c2e5b2e5a2e592e592e582e572e562e552e542e532e532e522e512e502e4f2e4e2e4d2e4c2e4c2e4b2e4a2e492e482e472e462e462e452e442e432e422e412e402e3f2e3f2e3e2e3d2e3c2e3b2e3a2e392e392e382e372e362e352e342e332e322e322e312e302e2f2e2e2e2d2e2c2e2c2e2b2e2a2e292e282e272e262e262e252e242e232e222e212e202e1f2e1f2e1e2e1d2e1c2e1b2e1a2e192e192e182e172e162e152e142e132e132e122e112e102e0f2e0e2e0d2e0c2e0c2e0b2e0a2e092e082e072e062e062e052e042e032e022e012e002e002dff2dfe2dfd2dfc2dfb2dfa2dfa2df92df82df72df62df52df42df32df32df22df12df02def2dee2ded2ded2dec2deb2dea2de92de82de72de72de62de52de42de32de22de12de12de02ddf2dde2ddd2ddc2ddb2dda2dda2dd92dd82dd72dd62dd52dd42dd42dd32dd22dd12dd02dcf2dce2dce2dcd2dcc2dcb2dca2dc92dc82dc82dc72dc62dc52dc42dc32dc22dc22dc12dc02dbf2dbe2dbd2dbc2dbc2dbb2dba2db9,
  0x2f752f742f732f722f712f702f6f2f6f2f6e2f6d2f6c2f6b2f6a2f692f682f682f672f662f652f642f632f622f612f612f602f5f2f5e2f5d2f5c2f5b2f5a2f5a2f592f582f572f562f552f542f532f532f522f512f502f4f2f4e2f4d2f4c2f4c2f4b2f4a2f492f482f472f462f452f452f442f432f422f412f402f3f2f3e2f3e2f3d2f3c2f3b2f3a2f392f382f372f372f362f352f342f332f322f312f302f302f2f2f2e2f2d2f2c2f2b2f2a2f292f292f282f272f262f252f242f232f222f222f212f202f1f2f1e2f1d2f1c2f1b2f1b2f1a2f192f182f172f162f152f142f142f132f122f112f102f0f2f0e2f0d2f0d2f0c2f0b2f0a2f092f082f072f062f062f052f042f032f022f012f002f002eff2efe2efd2efc2efb2efa2ef92ef92ef82ef72ef62ef52ef42ef32ef22ef22ef12ef02eef2eee2eed2eec2eeb2eeb2eea2ee92ee82ee72ee62ee52ee42ee42ee32ee22ee12ee02edf2ede2edd2edd2edc2edb2eda2ed92ed82ed72ed72ed62ed52ed42ed32ed22ed12ed02ed02ecf2ece2ecd2ecc2ecb2eca2ec92ec92ec82ec72ec62ec52ec42ec32ec22ec22ec12ec02ebf2ebe2ebd2ebc2ebc2ebb2eba2eb92eb82eb72eb62eb52eb52eb42eb32eb22eb12eb02eaf2eae2eae2ead2eac2eab2eaa2ea92ea82ea82ea72ea62ea52ea42ea32ea22ea12ea12ea02e9f2e9e2e9d2e9c2e9b2e9a2e9a2e992e982e972e96,
  0x30563056305530543053305230513050304f304f304e304d304c304b304a30493048304730473046304530443043304230413040303f303f303e303d303c303b303a303930383038303730363035303430333032303130303030302f302e302d302c302b302a302930283028302730263025302430233022302130213020301f301e301d301c301b301a301930193018301730163015301430133012301130113010300f300e300d300c300b300a300a300930083007300630053004300330023002300130002fff2ffe2ffd2ffc2ffb2ffb2ffa2ff92ff82ff72ff62ff52ff42ff32ff32ff22ff12ff02fef2fee2fed2fec2fec2feb2fea2fe92fe82fe72fe62fe52fe42fe42fe32fe22fe12fe02fdf2fde2fdd2fdd2fdc2fdb2fda2fd92fd82fd72fd62fd52fd52fd42fd32fd22fd12fd02fcf2fce2fce2fcd2fcc2fcb2fca2fc92fc82fc72fc72fc62fc52fc42fc32fc22fc12fc02fbf2fbf2fbe2fbd2fbc2fbb2fba2fb92fb82fb82fb72fb62fb52fb42fb32fb22fb12fb12fb02faf2fae2fad2fac2fab2faa2fa92fa92fa82fa72fa62fa52fa42fa32fa22fa22fa12fa02f9f2f9e2f9d2f9c2f9b2f9b2f9a2f992f982f972f962f952f942f932f932f922f912f902f8f2f8e2f8d2f8c2f8c2f8b2f8a2f892f882f872f862f852f852f842f832f822f812f802f7f2f7e2f7e2f7d2f7c2f7b2f7a2f792f782f772f772f76,
  0x313b313a31393138313731363135313431333132313231313130312f312e312d312c312b312a312a31293128312731263125312431233122312131213120311f311e311d311c311b311a311931193118311731163115311431133112311131103110310f310e310d310c310b310a31093108310831073106310531043103310231013100310030ff30fe30fd30fc30fb30fa30f930f830f730f730f630f530f430f330f230f130f030ef30ef30ee30ed30ec30eb30ea30e930e830e730e730e630e530e430e330e230e130e030df30de30de30dd30dc30db30da30d930d830d730d630d630d530d430d330d230d130d030cf30ce30ce30cd30cc30cb30ca30c930c830c730c630c630c530c430c330c230c130c030bf30be30be30bd30bc30bb30ba30b930b830b730b630b630b530b430b330b230b130b030af30ae30ae30ad30ac30ab30aa30a930a830a730a630a630a530a430a330a230a130a0309f309e309e309d309c309b309a30993098309730963096309530943093309230913090308f308e308e308d308c308b308a30893088308730863086308530843083308230813080307f307e307e307d307c307b307a30793078307730763076307530743073307230713070306f306e306e306d306c306b306a30693068306730663066306530643063306230613060305f305e305e305d305c305b305a305930583057,
  0x32213220321f321e321d321c321b321a321a32193218321732163215321432133212321132113210320f320e320d320c320b320a3209320832073207320632053204320332023201320031ff31fe31fe31fd31fc31fb31fa31f931f831f731f631f531f531f431f331f231f131f031ef31ee31ed31ec31ec31eb31ea31e931e831e731e631e531e431e331e231e231e131e031df31de31dd31dc31db31da31d931d931d831d731d631d531d431d331d231d131d031d031cf31ce31cd31cc31cb31ca31c931c831c731c731c631c531c431c331c231c131c031bf31be31be31bd31bc31bb31ba31b931b831b731b631b531b531b431b331b231b131b031af31ae31ad31ac31ac31ab31aa31a931a831a731a631a531a431a331a331a231a131a0319f319e319d319c319b319a319a31993198319731963195319431933192319131913190318f318e318d318c318b318a318931893188318731863185318431833182318131803180317f317e317d317c317b317a31793178317731773176317531743173317231713170316f316e316e316d316c316b316a31693168316731663166316531643163316231613160315f315e315d315d315c315b315a31593158315731563155315431543153315231513150314f314e314d314c314c314b314a31493148314731463145314431433143314231413140313f313e313d313c313b,
  0x3309330833083307330633053304330333023301330032ff32fe32fd32fd32fc32fb32fa32f932f832f732f632f532f432f332f332f232f132f032ef32ee32ed32ec32eb32ea32e932e932e832e732e632e532e432e332e232e132e032df32de32de32dd32dc32db32da32d932d832d732d632d532d432d432d332d232d132d032cf32ce32cd32cc32cb32ca32ca32c932c832c732c632c532c432c332c232c132c032c032bf32be32bd32bc32bb32ba32b932b832b732b632b632b532b432b332b232b132b032af32ae32ad32ac32ac32ab32aa32a932a832a732a632a532a432a332a232a232a132a0329f329e329d329c329b329a32993298329832973296329532943293329232913290328f328e328e328d328c328b328a32893288328732863285328432843283328232813280327f327e327d327c327b327a327a32793278327732763275327432733272327132703270326f326e326d326c326b326a32693268326732663266326532643263326232613260325f325e325d325d325c325b325a32593258325732563255325432533253325232513250324f324e324d324c324b324a324a32493248324732463245324432433242324132403240323f323e323d323c323b323a32393238323732363236323532343233323232313230322f322e322d322d322c322b322a322932283227322632253224322332233222,
  0x33f433f333f233f133f033f033ef33ee33ed33ec33eb33ea33e933e833e733e633e533e533e433e333e233e133e033df33de33dd33dc33db33da33d933d933d833d733d633d533d433d333d233d133d033cf33ce33cd33cd33cc33cb33ca33c933c833c733c633c533c433c333c233c233c133c033bf33be33bd33bc33bb33ba33b933b833b733b633b633b533b433b333b233b133b033af33ae33ad33ac33ab33ab33aa33a933a833a733a633a533a433a333a233a133a033a0339f339e339d339c339b339a33993398339733963395339533943393339233913390338f338e338d338c338b338a33893389338833873386338533843383338233813380337f337e337e337d337c337b337a33793378337733763375337433733373337233713370336f336e336d336c336b336a33693368336833673366336533643363336233613360335f335e335d335d335c335b335a33593358335733563355335433533352335233513350334f334e334d334c334b334a33493348334833473346334533443343334233413340333f333e333d333d333c333b333a33393338333733363335333433333332333233313330332f332e332d332c332b332a33293328332733273326332533243323332233213320331f331e331d331d331c331b331a33193318331733163315331433133312331233113310330f330e330d330c330b330a,
  0x34e134e034df34df34de34dd34dc34db34da34d934d834d734d634d534d434d334d234d134d134d034cf34ce34cd34cc34cb34ca34c934c834c734c634c534c434c434c334c234c134c034bf34be34bd34bc34bb34ba34b934b834b734b734b634b534b434b334b234b134b034af34ae34ad34ac34ab34aa34aa34a934a834a734a634a534a434a334a234a134a0349f349e349d349d349c349b349a34993498349734963495349434933492349134903490348f348e348d348c348b348a34893488348734863485348434833483348234813480347f347e347d347c347b347a34793478347734773476347534743473347234713470346f346e346d346c346b346a346a3469346834673466346534643463346234613460345f345e345d345d345c345b345a34593458345734563455345434533452345134513450344f344e344d344c344b344a34493448344734463445344534443443344234413440343f343e343d343c343b343a34393438343834373436343534343433343234313430342f342e342d342c342c342b342a34293428342734263425342434233422342134203420341f341e341d341c341b341a34193418341734163415341434143413341234113410340f340e340d340c340b340a3409340834083407340634053404340334023401340033ff33fe33fd33fc33fc33fb33fa33f933f833f733f633f5,
  0x35d135d035cf35ce35cd35cc35cb35ca35c935c835c735c635c535c435c435c335c235c135c035bf35be35bd35bc35bb35ba35b935b835b735b635b535b535b435b335b235b135b035af35ae35ad35ac35ab35aa35a935a835a735a635a635a535a435a335a235a135a0359f359e359d359c359b359a35993598359735973596359535943593359235913590358f358e358d358c358b358a35893588358835873586358535843583358235813580357f357e357d357c357b357a35793579357835773576357535743573357235713570356f356e356d356c356b356a356a3569356835673566356535643563356235613560355f355e355d355c355c355b355a3559355835573556355535543553355235513550354f354e354e354d354c354b354a3549354835473546354535443543354235413540353f353f353e353d353c353b353a35393538353735363535353435333532353135313530352f352e352d352c352b352a35293528352735263525352435233523352235213520351f351e351d351c351b351a35193518351735163515351535143513351235113510350f350e350d350c350b350a3509350835073507350635053504350335023501350034ff34fe34fd34fc34fb34fa34fa34f934f834f734f634f534f434f334f234f134f034ef34ee34ed34ec34ec34eb34ea34e934e834e734e634e534e434e334e2,
  0x36c236c136c136c036bf36be36bd36bc36bb36ba36b936b836b736b636b536b436b336b236b136b036af36ae36ae36ad36ac36ab36aa36a936a836a736a636a536a436a336a236a136a0369f369e369d369c369c369b369a3699369836973696369536943693369236913690368f368e368d368c368b368b368a3689368836873686368536843683368236813680367f367e367d367c367b367a36793679367836773676367536743673367236713670366f366e366d366c366b366a36693668366836673666366536643663366236613660365f365e365d365c365b365a36593658365736563656365536543653365236513650364f364e364d364c364b364a36493648364736463645364536443643364236413640363f363e363d363c363b363a36393638363736363635363536343633363236313630362f362e362d362c362b362a36293628362736263625362436243623362236213620361f361e361d361c361b361a36193618361736163615361436143613361236113610360f360e360d360c360b360a3609360836073606360536043604360336023601360035ff35fe35fd35fc35fb35fa35f935f835f735f635f535f435f435f335f235f135f035ef35ee35ed35ec35eb35ea35e935e835e735e635e535e435e435e335e235e135e035df35de35dd35dc35db35da35d935d835d735d635d535d435d435d335d2,
  0x37b637b537b437b437b337b237b137b037af37ae37ad37ac37ab37aa37a937a837a737a637a537a437a337a237a137a0379f379e379e379d379c379b379a3799379837973796379537943793379237913790378f378e378d378c378b378a37893788378837873786378537843783378237813780377f377e377d377c377b377a37793778377737763775377437733773377237713770376f376e376d376c376b376a3769376837673766376537643763376237613760375f375e375d375d375c375b375a3759375837573756375537543753375237513750374f374e374d374c374b374a37493749374837473746374537443743374237413740373f373e373d373c373b373a37393738373737363735373437343733373237313730372f372e372d372c372b372a37293728372737263725372437233722372137203720371f371e371d371c371b371a3719371837173716371537143713371237113710370f370e370d370d370c370b370a370937083707370637053704370337023701370036ff36fe36fd36fc36fb36fa36f936f936f836f736f636f536f436f336f236f136f036ef36ee36ed36ec36eb36ea36e936e836e736e636e636e536e436e336e236e136e036df36de36dd36dc36db36da36d936d836d736d636d536d436d336d336d236d136d036cf36ce36cd36cc36cb36ca36c936c836c736c636c536c436c3,
  0x38ad38ac38ab38aa38a938a838a738a638a538a438a338a238a138a0389f389e389d389c389b389a38993898389738963896389538943893389238913890388f388e388d388c388b388a3889388838873886388538843883388238813880387f387e387d387c387b387a387a3879387838773876387538743873387238713870386f386e386d386c386b386a3869386838673866386538643863386238613860385f385f385e385d385c385b385a3859385838573856385538543853385238513850384f384e384d384c384b384a38493848384738463845384538443843384238413840383f383e383d383c383b383a3839383838373836383538343833383238313830382f382e382d382c382b382b382a3829382838273826382538243823382238213820381f381e381d381c381b381a38193818381738163815381438133812381238113810380f380e380d380c380b380a380938083807380638053804380338023801380037ff37fe37fd37fc37fb37fa37fa37f937f837f737f637f537f437f337f237f137f037ef37ee37ed37ec37eb37ea37e937e837e737e637e537e437e337e237e237e137e037df37de37dd37dc37db37da37d937d837d737d637d537d437d337d237d137d037cf37ce37cd37cc37cb37cb37ca37c937c837c737c637c537c437c337c237c137c037bf37be37bd37bc37bb37ba37b937b837b7,
  0x39a539a439a339a239a139a0399f399e399d399d399c399b399a3999399839973996399539943993399239913990398f398e398d398c398b398a3989398839873986398539843983398239813980397f397e397d397c397b397a39793978397739773976397539743973397239713970396f396e396d396c396b396a3969396839673966396539643963396239613960395f395e395d395c395b395a39593958395739563955395439533952395239513950394f394e394d394c394b394a3949394839473946394539443943394239413940393f393e393d393c393b393a39393938393739363935393439333932393139303930392f392e392d392c392b392a3929392839273926392539243923392239213920391f391e391d391c391b391a3919391839173916391539143913391239113910390f390e390e390d390c390b390a390939083907390639053904390339023901390038ff38fe38fd38fc38fb38fa38f938f838f738f638f538f438f338f238f138f038ef38ef38ee38ed38ec38eb38ea38e938e838e738e638e538e438e338e238e138e038df38de38dd38dc38db38da38d938d838d738d638d538d438d338d238d138d038d038cf38ce38cd38cc38cb38ca38c938c838c738c638c538c438c338c238c138c038bf38be38bd38bc38bb38ba38b938b838b738b638b538b438b338b238b238b138b038af38ae,
  0x3aa03a9f3a9e3a9d3a9c3a9b3a9a3a993a983a973a963a953a943a933a923a913a903a8f3a8e3a8d3a8d3a8c3a8b3a8a3a893a883a873a863a853a843a833a823a813a803a7f3a7e3a7d3a7c3a7b3a7a3a793a783a773a763a753a743a733a723a713a703a6f3a6e3a6d3a6c3a6b3a6a3a693a683a673a663a653a643a633a623a613a603a5f3a5e3a5d3a5c3a5b3a5a3a593a583a573a563a553a543a543a533a523a513a503a4f3a4e3a4d3a4c3a4b3a4a3a493a483a473a463a453a443a433a423a413a403a3f3a3e3a3d3a3c3a3b3a3a3a393a383a373a363a353a343a333a323a313a303a2f3a2e3a2d3a2c3a2b3a2a3a293a283a273a263a253a243a233a223a213a203a203a1f3a1e3a1d3a1c3a1b3a1a3a193a183a173a163a153a143a133a123a113a103a0f3a0e3a0d3a0c3a0b3a0a3a093a083a073a063a053a043a033a023a013a0039ff39fe39fd39fc39fb39fa39f939f839f739f639f539f439f339f239f139f139f039ef39ee39ed39ec39eb39ea39e939e839e739e639e539e439e339e239e139e039df39de39dd39dc39db39da39d939d839d739d639d539d439d339d239d139d039cf39ce39cd39cc39cb39ca39c939c839c739c639c639c539c439c339c239c139c039bf39be39bd39bc39bb39ba39b939b839b739b639b539b439b339b239b139b039af39ae39ad39ac39ab39aa39a939a839a739a6,
  0x3b9d3b9c3b9b3b9a3b993b983b973b963b953b943b933b923b913b903b8f3b8e3b8e3b8d3b8c3b8b3b8a3b893b883b873b863b853b843b833b823b813b803b7f3b7e3b7d3b7c3b7b3b7a3b793b783b773b763b753b743b733b723b713b703b6f3b6e3b6d3b6c3b6b3b6a3b693b683b673b663b653b643b633b623b613b603b5f3b5e3b5d3b5c3b5b3b5a3b593b583b573b563b553b543b533b523b513b503b4f3b4e3b4d3b4c3b4b3b4a3b493b483b473b463b453b443b433b423b413b403b3f3b3e3b3d3b3c3b3b3b3a3b393b383b373b363b353b343b333b323b313b303b2f3b2e3b2d3b2c3b2b3b2a3b293b283b273b263b253b243b233b223b213b203b1f3b1f3b1e3b1d3b1c3b1b3b1a3b193b183b173b163b153b143b133b123b113b103b0f3b0e3b0d3b0c3b0b3b0a3b093b083b073b063b053b043b033b023b013b003aff3afe3afd3afc3afb3afa3af93af83af73af63af53af43af33af23af13af03aef3aee3aed3aec3aeb3aea3ae93ae83ae73ae63ae53ae43ae33ae23ae13ae03adf3ade3add3adc3adb3ada3ad93ad83ad73ad63ad53ad43ad33ad23ad13ad03acf3acf3ace3acd3acc3acb3aca3ac93ac83ac73ac63ac53ac43ac33ac23ac13ac03abf3abe3abd3abc3abb3aba3ab93ab83ab73ab63ab53ab43ab33ab23ab13ab03aaf3aae3aad3aac3aab3aaa3aa93aa83aa73aa63aa53aa43aa33aa23aa1,
  0x3c9d3c9c3c9b3c9a3c993c983c973c963c953c943c933c923c913c903c8f3c8e3c8d3c8c3c8b3c8a3c893c883c873c863c853c843c833c823c813c803c7f3c7e3c7d3c7c3c7b3c7a3c793c783c773c763c753c743c733c723c713c703c6f3c6e3c6d3c6c3c6b3c6a3c693c683c673c663c653c643c633c623c613c603c5f3c5e3c5d3c5c3c5b3c5a3c593c583c573c563c553c543c533c523c513c503c4f3c4e3c4d3c4c3c4b3c4a3c493c483c473c463c453c443c433c423c413c403c3f3c3e3c3d3c3c3c3b3c3a3c393c383c373c363c353c343c333c323c313c303c2f3c2e3c2d3c2c3c2b3c2a3c293c283c273c263c253c243c233c223c213c203c1f3c1e3c1d3c1c3c1b3c1a3c193c183c173c163c153c143c133c123c113c103c0f3c0e3c0d3c0c3c0b3c0a3c093c083c073c063c053c043c033c023c013c003bff3bfe3bfd3bfc3bfb3bfa3bf93bf83bf73bf63bf53bf43bf33bf23bf13bf03bef3bee3bed3bec3beb3bea3be93be83be73be63be53be43be33be23be13be03bdf3bde3bdd3bdc3bdb3bda3bd93bd83bd73bd63bd53bd43bd33bd23bd13bd03bcf3bce3bcd3bcc3bcb3bca3bc93bc83bc73bc63bc53bc43bc33bc23bc13bc03bbf3bbe3bbd3bbc3bbb3bba3bb93bb83bb73bb63bb53bb43bb33bb23bb13bb03baf3bae3bad3bac3bab3baa3ba93ba83ba73ba63ba53ba43ba33ba23ba13ba03b9f3b9e,
  0x3d9f3d9e3d9d3d9c3d9b3d9a3d993d983d973d963d953d943d933d923d913d903d8f3d8e3d8d3d8c3d8b3d8a3d893d873d863d853d843d833d823d813d803d7f3d7e3d7d3d7c3d7b3d7a3d793d783d773d763d753d743d733d723d713d703d6f3d6e3d6d3d6c3d6b3d6a3d693d683d673d663d653d643d633d623d613d603d5f3d5e3d5d3d5c3d5b3d5a3d593d583d573d563d553d543d533d523d513d503d4f3d4e3d4d3d4c3d4b3d4a3d493d483d473d463d453d443d433d423d413d403d3f3d3e3d3d3d3c3d3b3d3a3d393d383d373d363d353d343d333d323d313d303d2f3d2e3d2d3d2c3d2b3d2a3d293d283d273d263d253d243d233d223d213d203d1f3d1e3d1d3d1c3d1b3d1a3d193d183d163d153d143d133d123d113d103d0f3d0e3d0d3d0c3d0b3d0a3d093d083d073d063d053d043d033d023d013d003cff3cfe3cfd3cfc3cfb3cfa3cf93cf83cf73cf63cf53cf43cf33cf23cf13cf03cef3cee3ced3cec3ceb3cea3ce93ce83ce73ce63ce53ce43ce33ce23ce13ce03cdf3cde3cdd3cdc3cdb3cda3cd93cd83cd73cd63cd53cd43cd33cd23cd13cd03ccf3cce3ccd3ccc3ccb3cca3cc93cc83cc73cc63cc53cc43cc33cc23cc13cc03cbf3cbe3cbd3cbc3cbb3cba3cb93cb83cb73cb63cb53cb43cb33cb23cb13cb03caf3cae3cad3cac3cab3caa3ca93ca83ca73ca63ca53ca43ca33ca23ca13ca03c9f3c9e,
  0x3ea33ea23ea13ea03e9f3e9e3e9d3e9c3e9b3e9a3e993e983e973e963e953e943e933e923e913e903e8f3e8d3e8c3e8b3e8a3e893e883e873e863e853e843e833e823e813e803e7f3e7e3e7d3e7c3e7b3e7a3e793e783e773e763e753e743e733e723e713e703e6f3e6e3e6d3e6c3e6b3e6a3e693e683e673e663e653e643e633e623e613e603e5f3e5e3e5d3e5c3e5b3e5a3e583e573e563e553e543e533e523e513e503e4f3e4e3e4d3e4c3e4b3e4a3e493e483e473e463e453e443e433e423e413e403e3f3e3e3e3d3e3c3e3b3e3a3e393e383e373e363e353e343e333e323e313e303e2f3e2e3e2d3e2c3e2b3e2a3e293e283e273e263e253e243e233e223e213e203e1f3e1d3e1c3e1b3e1a3e193e183e173e163e153e143e133e123e113e103e0f3e0e3e0d3e0c3e0b3e0a3e093e083e073e063e053e043e033e023e013e003dff3dfe3dfd3dfc3dfb3dfa3df93df83df73df63df53df43df33df23df13df03def3dee3ded3dec3deb3dea3de93de83de73de63de53de43de33de23de13de03ddf3dde3ddd3ddc3ddb3dd93dd83dd73dd63dd53dd43dd33dd23dd13dd03dcf3dce3dcd3dcc3dcb3dca3dc93dc83dc73dc63dc53dc43dc33dc23dc13dc03dbf3dbe3dbd3dbc3dbb3dba3db93db83db73db63db53db43db33db23db13db03daf3dae3dad3dac3dab3daa3da93da83da73da63da53da43da33da23da13da0,
  0x3fa93fa83fa73fa63fa53fa43fa33fa23fa13fa03f9f3f9e3f9d3f9c3f9b3f9a3f993f983f973f963f953f943f933f923f913f903f8f3f8e3f8d3f8c3f8b3f893f883f873f863f853f843f833f823f813f803f7f3f7e3f7d3f7c3f7b3f7a3f793f783f773f763f753f743f733f723f713f703f6f3f6e3f6d3f6c3f6b3f6a3f693f683f673f653f643f633f623f613f603f5f3f5e3f5d3f5c3f5b3f5a3f593f583f573f563f553f543f533f523f513f503f4f3f4e3f4d3f4c3f4b3f4a3f493f483f473f463f453f443f433f423f413f403f3e3f3d3f3c3f3b3f3a3f393f383f373f363f353f343f333f323f313f303f2f3f2e3f2d3f2c3f2b3f2a3f293f283f273f263f253f243f233f223f213f203f1f3f1e3f1d3f1c3f1b3f1a3f193f183f163f153f143f133f123f113f103f0f3f0e3f0d3f0c3f0b3f0a3f093f083f073f063f053f043f033f023f013f003eff3efe3efd3efc3efb3efa3ef93ef83ef73ef63ef53ef43ef33ef23ef13ef03eef3eee3eec3eeb3eea3ee93ee83ee73ee63ee53ee43ee33ee23ee13ee03edf3ede3edd3edc3edb3eda3ed93ed83ed73ed63ed53ed43ed33ed23ed13ed03ecf3ece3ecd3ecc3ecb3eca3ec93ec83ec73ec63ec53ec43ec33ec23ec13ec03ebe3ebd3ebc3ebb3eba3eb93eb83eb73eb63eb53eb43eb33eb23eb13eb03eaf3eae3ead3eac3eab3eaa3ea93ea83ea73ea63ea53ea4,
  0x40b240b140b040af40ae40ad40ac40ab40aa40a940a840a740a640a540a440a340a240a140a0409e409d409c409b409a4099409840974096409540944093409240914090408f408e408d408c408b408a408940884087408640854083408240814080407f407e407d407c407b407a4079407840774076407540744073407240714070406f406e406d406c406b406a406940674066406540644063406240614060405f405e405d405c405b405a4059405840574056405540544053405240514050404f404e404d404c404a4049404840474046404540444043404240414040403f403e403d403c403b403a4039403840374036403540344033403240314030402f402e402c402b402a4029402840274026402540244023402240214020401f401e401d401c401b401a4019401840174016401540144013401240114010400e400d400c400b400a40094008400740064005400440034002400140003fff3ffe3ffd3ffc3ffb3ffa3ff93ff83ff73ff63ff53ff43ff33ff23ff13ff03fee3fed3fec3feb3fea3fe93fe83fe73fe63fe53fe43fe33fe23fe13fe03fdf3fde3fdd3fdc3fdb3fda3fd93fd83fd73fd63fd53fd43fd33fd23fd13fd03fce3fcd3fcc3fcb3fca3fc93fc83fc73fc63fc53fc43fc33fc23fc13fc03fbf3fbe3fbd3fbc3fbb3fba3fb93fb83fb73fb63fb53fb43fb33fb23fb13fb03faf3fae3fac3fab3faa,
  0x41bd41bc41bb41ba41b941b841b741b641b541b441b341b241b141b041af41ae41ad41ac41aa41a941a841a741a641a541a441a341a241a141a0419f419e419d419c419b419a419941984197419641944193419241914190418f418e418d418c418b418a4189418841874186418541844183418241814180417f417d417c417b417a4179417841774176417541744173417241714170416f416e416d416c416b416a416941684166416541644163416241614160415f415e415d415c415b415a415941584157415641554154415341524151414f414e414d414c414b414a4149414841474146414541444143414241414140413f413e413d413c413b413a413941374136413541344133413241314130412f412e412d412c412b412a412941284127412641254124412341224121411f411e411d411c411b411a4119411841174116411541144113411241114110410f410e410d410c410b410a41094108410641054104410341024101410040ff40fe40fd40fc40fb40fa40f940f840f740f640f540f440f340f240f140f040ef40ed40ec40eb40ea40e940e840e740e640e540e440e340e240e140e040df40de40dd40dc40db40da40d940d840d740d640d540d340d240d140d040cf40ce40cd40cc40cb40ca40c940c840c740c640c540c440c340c240c140c040bf40be40bd40bc40bb40b940b840b740b640b540b440b3,
  0x42cb42ca42c942c842c742c642c442c342c242c142c042bf42be42bd42bc42bb42ba42b942b842b742b642b542b442b242b142b042af42ae42ad42ac42ab42aa42a942a842a742a642a542a442a342a242a1429f429e429d429c429b429a4299429842974296429542944293429242914290428f428e428c428b428a4289428842874286428542844283428242814280427f427e427d427c427b427a427842774276427542744273427242714270426f426e426d426c426b426a426942684267426542644263426242614260425f425e425d425c425b425a425942584257425642554254425342514250424f424e424d424c424b424a4249424842474246424542444243424242414240423f423d423c423b423a4239423842374236423542344233423242314230422f422e422d422c422b4229422842274226422542244223422242214220421f421e421d421c421b421a421942184217421542144213421242114210420f420e420d420c420b420a42094208420742064205420442034202420041ff41fe41fd41fc41fb41fa41f941f841f741f641f541f441f341f241f141f041ef41ee41ed41eb41ea41e941e841e741e641e541e441e341e241e141e041df41de41dd41dc41db41da41d941d841d641d541d441d341d241d141d041cf41ce41cd41cc41cb41ca41c941c841c741c641c541c441c341c241c041bf41be,
  0x43db43da43d843d743d643d543d443d343d243d143d043cf43ce43cd43cc43cb43ca43c843c743c643c543c443c343c243c143c043bf43be43bd43bc43bb43ba43b943b743b643b543b443b343b243b143b043af43ae43ad43ac43ab43aa43a943a743a643a543a443a343a243a143a0439f439e439d439c439b439a439943984396439543944393439243914390438f438e438d438c438b438a438943884386438543844383438243814380437f437e437d437c437b437a437943784377437543744373437243714370436f436e436d436c436b436a436943684367436643644363436243614360435f435e435d435c435b435a435943584357435643554353435243514350434f434e434d434c434b434a434943484347434643454344434243414340433f433e433d433c433b433a433943384337433643354334433343324330432f432e432d432c432b432a432943284327432643254324432343224321431f431e431d431c431b431a4319431843174316431543144313431243114310430f430d430c430b430a430943084307430643054304430343024301430042ff42fe42fd42fb42fa42f942f842f742f642f542f442f342f242f142f042ef42ee42ed42ec42eb42e942e842e742e642e542e442e342e242e142e042df42de42dd42dc42db42da42d942d742d642d542d442d342d242d142d042cf42ce42cd42cc,
  0x44ed44ec44eb44ea44e844e744e644e544e444e344e244e144e044df44de44dd44dc44da44d944d844d744d644d544d444d344d244d144d044cf44ce44cd44cb44ca44c944c844c744c644c544c444c344c244c144c044bf44bd44bc44bb44ba44b944b844b744b644b544b444b344b244b144b044ae44ad44ac44ab44aa44a944a844a744a644a544a444a344a244a0449f449e449d449c449b449a449944984497449644954494449344914490448f448e448d448c448b448a448944884487448644854484448244814480447f447e447d447c447b447a447944784477447644754473447244714470446f446e446d446c446b446a446944684467446644644463446244614460445f445e445d445c445b445a445944584457445544544453445244514450444f444e444d444c444b444a444944484446444544444443444244414440443f443e443d443c443b443a443944384436443544344433443244314430442f442e442d442c442b442a442944274426442544244423442244214420441f441e441d441c441b441a441944174416441544144413441244114410440f440e440d440c440b440a44084407440644054404440344024401440043ff43fe43fd43fc43fb43fa43f843f743f643f543f443f343f243f143f043ef43ee43ed43ec43eb43ea43e843e743e643e543e443e343e243e143e043df43de43dd43dc,
  0x4601460045ff45fe45fd45fc45fb45fa45f945f745f645f545f445f345f245f145f045ef45ee45ed45ec45ea45e945e845e745e645e545e445e345e245e145e045df45dd45dc45db45da45d945d845d745d645d545d445d345d245d045cf45ce45cd45cc45cb45ca45c945c845c745c645c545c345c245c145c045bf45be45bd45bc45bb45ba45b945b845b645b545b445b345b245b145b045af45ae45ad45ac45ab45aa45a845a745a645a545a445a345a245a145a0459f459e459d459b459a4599459845974596459545944593459245914590458e458d458c458b458a458945884587458645854584458345824580457f457e457d457c457b457a457945784577457645754573457245714570456f456e456d456c456b456a456945684567456545644563456245614560455f455e455d455c455b455a455845574556455545544553455245514550454f454e454d454c454a4549454845474546454545444543454245414540453f453e453c453b453a453945384537453645354534453345324531452f452e452d452c452b452a452945284527452645254524452345214520451f451e451d451c451b451a451945184517451645154513451245114510450f450e450d450c450b450a45094508450745054504450345024501450044ff44fe44fd44fc44fb44fa44f944f844f644f544f444f344f244f144f044ef44ee,
  0x47184717471647154714471347124710470f470e470d470c470b470a47094708470747054704470347024701470046ff46fe46fd46fc46fb46f946f846f746f646f546f446f346f246f146f046ef46ed46ec46eb46ea46e946e846e746e646e546e446e346e146e046df46de46dd46dc46db46da46d946d846d746d546d446d346d246d146d046cf46ce46cd46cc46cb46c946c846c746c646c546c446c346c246c146c046bf46bd46bc46bb46ba46b946b846b746b646b546b446b346b146b046af46ae46ad46ac46ab46aa46a946a846a746a546a446a346a246a146a0469f469e469d469c469b4699469846974696469546944693469246914690468f468d468c468b468a468946884687468646854684468346814680467f467e467d467c467b467a467946784677467546744673467246714670466f466e466d466c466b466a466846674666466546644663466246614660465f465e465c465b465a465946584657465646554654465346524651464f464e464d464c464b464a464946484647464646454643464246414640463f463e463d463c463b463a463946384636463546344633463246314630462f462e462d462c462a4629462846274626462546244623462246214620461f461d461c461b461a461946184617461646154614461346124610460f460e460d460c460b460a4609460846074606460446034602,
  0x48314830482f482e482d482c482b482a482848274826482548244823482248214820481f481d481c481b481a481948184817481648154813481248114810480f480e480d480c480b480a48084807480648054804480348024801480047ff47fd47fc47fb47fa47f947f847f747f647f547f447f247f147f047ef47ee47ed47ec47eb47ea47e947e747e647e547e447e347e247e147e047df47de47dc47db47da47d947d847d747d647d547d447d347d147d047cf47ce47cd47cc47cb47ca47c947c847c647c547c447c347c247c147c047bf47be47bd47bb47ba47b947b847b747b647b547b447b347b247b047af47ae47ad47ac47ab47aa47a947a847a747a547a447a347a247a147a0479f479e479d479c479a4799479847974796479547944793479247914790478e478d478c478b478a478947884787478647854783478247814780477f477e477d477c477b477a477847774776477547744773477247714770476f476d476c476b476a476947684767476647654764476347614760475f475e475d475c475b475a475947584756475547544753475247514750474f474e474d474c474a474947484747474647454744474347424741473f473e473d473c473b473a473947384737473647354733473247314730472f472e472d472c472b472a472847274726472547244723472247214720471f471e471c471b471a4719,
  0x494d494c494b494949484947494649454944494349424941493f493e493d493c493b493a493949384937493549344933493249314930492f492e492d492b492a492949284927492649254924492349214920491f491e491d491c491b491a491949174916491549144913491249114910490f490d490c490b490a49094908490749064905490349024901490048ff48fe48fd48fc48fb48f948f848f748f648f548f448f348f248f148f048ee48ed48ec48eb48ea48e948e848e748e648e448e348e248e148e048df48de48dd48dc48da48d948d848d748d648d548d448d348d248d048cf48ce48cd48cc48cb48ca48c948c848c648c548c448c348c248c148c048bf48be48bd48bb48ba48b948b848b748b648b548b448b348b148b048af48ae48ad48ac48ab48aa48a948a748a648a548a448a348a248a148a0489f489e489c489b489a489948984897489648954894489248914890488f488e488d488c488b488a488948874886488548844883488248814880487f487d487c487b487a487948784877487648754873487248714870486f486e486d486c486b486a486848674866486548644863486248614860485f485d485c485b485a485948584857485648554853485248514850484f484e484d484c484b484a484848474846484548444843484248414840483e483d483c483b483a4839483848374836483548334832,
  0x4a6b4a6a4a684a674a664a654a644a634a624a614a5f4a5e4a5d4a5c4a5b4a5a4a594a584a574a554a544a534a524a514a504a4f4a4e4a4c4a4b4a4a4a494a484a474a464a454a434a424a414a404a3f4a3e4a3d4a3c4a3b4a394a384a374a364a354a344a334a324a304a2f4a2e4a2d4a2c4a2b4a2a4a294a274a264a254a244a234a224a214a204a1f4a1d4a1c4a1b4a1a4a194a184a174a164a144a134a124a114a104a0f4a0e4a0d4a0c4a0a4a094a084a074a064a054a044a034a014a0049ff49fe49fd49fc49fb49fa49f849f749f649f549f449f349f249f149f049ee49ed49ec49eb49ea49e949e849e749e649e449e349e249e149e049df49de49dd49db49da49d949d849d749d649d549d449d349d149d049cf49ce49cd49cc49cb49ca49c849c749c649c549c449c349c249c149c049be49bd49bc49bb49ba49b949b849b749b549b449b349b249b149b049af49ae49ad49ab49aa49a949a849a749a649a549a449a349a149a0499f499e499d499c499b499a499949974996499549944993499249914990498e498d498c498b498a498949884987498649844983498249814980497f497e497d497c497a497949784977497649754974497349724970496f496e496d496c496b496a496949674966496549644963496249614960495f495d495c495b495a495949584957495649554953495249514950494f494e,
  0x4b8b4b8a4b894b884b864b854b844b834b824b814b804b7f4b7d4b7c4b7b4b7a4b794b784b774b754b744b734b724b714b704b6f4b6e4b6c4b6b4b6a4b694b684b674b664b654b634b624b614b604b5f4b5e4b5d4b5b4b5a4b594b584b574b564b554b544b524b514b504b4f4b4e4b4d4b4c4b4b4b494b484b474b464b454b444b434b424b404b3f4b3e4b3d4b3c4b3b4b3a4b394b374b364b354b344b334b324b314b2f4b2e4b2d4b2c4b2b4b2a4b294b284b264b254b244b234b224b214b204b1f4b1d4b1c4b1b4b1a4b194b184b174b164b144b134b124b114b104b0f4b0e4b0d4b0b4b0a4b094b084b074b064b054b044b024b014b004aff4afe4afd4afc4afb4af94af84af74af64af54af44af34af24af04aef4aee4aed4aec4aeb4aea4ae94ae74ae64ae54ae44ae34ae24ae14ae04ade4add4adc4adb4ada4ad94ad84ad74ad54ad44ad34ad24ad14ad04acf4ace4acc4acb4aca4ac94ac84ac74ac64ac54ac34ac24ac14ac04abf4abe4abd4abc4aba4ab94ab84ab74ab64ab54ab44ab34ab14ab04aaf4aae4aad4aac4aab4aaa4aa84aa74aa64aa54aa44aa34aa24aa14a9f4a9e4a9d4a9c4a9b4a9a4a994a984a964a954a944a934a924a914a904a8f4a8d4a8c4a8b4a8a4a894a884a874a864a844a834a824a814a804a7f4a7e4a7d4a7c4a7a4a794a784a774a764a754a744a734a714a704a6f4a6e4a6d4a6c,
  0x4cae4cac4cab4caa4ca94ca84ca74ca64ca44ca34ca24ca14ca04c9f4c9e4c9c4c9b4c9a4c994c984c974c964c944c934c924c914c904c8f4c8e4c8d4c8b4c8a4c894c884c874c864c854c834c824c814c804c7f4c7e4c7d4c7b4c7a4c794c784c774c764c754c734c724c714c704c6f4c6e4c6d4c6c4c6a4c694c684c674c664c654c644c624c614c604c5f4c5e4c5d4c5c4c5a4c594c584c574c564c554c544c524c514c504c4f4c4e4c4d4c4c4c4b4c494c484c474c464c454c444c434c414c404c3f4c3e4c3d4c3c4c3b4c394c384c374c364c354c344c334c324c304c2f4c2e4c2d4c2c4c2b4c2a4c284c274c264c254c244c234c224c204c1f4c1e4c1d4c1c4c1b4c1a4c194c174c164c154c144c134c124c114c0f4c0e4c0d4c0c4c0b4c0a4c094c084c064c054c044c034c024c014c004bfe4bfd4bfc4bfb4bfa4bf94bf84bf74bf54bf44bf34bf24bf14bf04bef4bed4bec4beb4bea4be94be84be74be64be44be34be24be14be04bdf4bde4bdc4bdb4bda4bd94bd84bd74bd64bd54bd34bd24bd14bd04bcf4bce4bcd4bcb4bca4bc94bc84bc74bc64bc54bc44bc24bc14bc04bbf4bbe4bbd4bbc4bba4bb94bb84bb74bb64bb54bb44bb34bb14bb04baf4bae4bad4bac4bab4ba94ba84ba74ba64ba54ba44ba34ba24ba04b9f4b9e4b9d4b9c4b9b4b9a4b994b974b964b954b944b934b924b914b8f4b8e4b8d4b8c,
  0x4dd34dd14dd04dcf4dce4dcd4dcc4dca4dc94dc84dc74dc64dc54dc44dc24dc14dc04dbf4dbe4dbd4dbc4dba4db94db84db74db64db54db44db24db14db04daf4dae4dad4dab4daa4da94da84da74da64da54da34da24da14da04d9f4d9e4d9d4d9b4d9a4d994d984d974d964d954d934d924d914d904d8f4d8e4d8d4d8b4d8a4d894d884d874d864d844d834d824d814d804d7f4d7e4d7c4d7b4d7a4d794d784d774d764d744d734d724d714d704d6f4d6e4d6c4d6b4d6a4d694d684d674d664d644d634d624d614d604d5f4d5e4d5c4d5b4d5a4d594d584d574d564d544d534d524d514d504d4f4d4d4d4c4d4b4d4a4d494d484d474d454d444d434d424d414d404d3f4d3d4d3c4d3b4d3a4d394d384d374d354d344d334d324d314d304d2f4d2d4d2c4d2b4d2a4d294d284d274d254d244d234d224d214d204d1f4d1d4d1c4d1b4d1a4d194d184d174d154d144d134d124d114d104d0f4d0d4d0c4d0b4d0a4d094d084d074d054d044d034d024d014d004cff4cfd4cfc4cfb4cfa4cf94cf84cf74cf54cf44cf34cf24cf14cf04cef4ced4cec4ceb4cea4ce94ce84ce74ce54ce44ce34ce24ce14ce04cdf4cdd4cdc4cdb4cda4cd94cd84cd74cd54cd44cd34cd24cd14cd04ccf4ccd4ccc4ccb4cca4cc94cc84cc74cc64cc44cc34cc24cc14cc04cbf4cbe4cbc4cbb4cba4cb94cb84cb74cb64cb44cb34cb24cb14cb04caf,
  0x4efa4ef94ef84ef64ef54ef44ef34ef24ef14eef4eee4eed4eec4eeb4eea4ee94ee74ee64ee54ee44ee34ee24ee04edf4ede4edd4edc4edb4ed94ed84ed74ed64ed54ed44ed34ed14ed04ecf4ece4ecd4ecc4eca4ec94ec84ec74ec64ec54ec34ec24ec14ec04ebf4ebe4ebd4ebb4eba4eb94eb84eb74eb64eb44eb34eb24eb14eb04eaf4eae4eac4eab4eaa4ea94ea84ea74ea54ea44ea34ea24ea14ea04e9e4e9d4e9c4e9b4e9a4e994e984e964e954e944e934e924e914e8f4e8e4e8d4e8c4e8b4e8a4e894e874e864e854e844e834e824e804e7f4e7e4e7d4e7c4e7b4e7a4e784e774e764e754e744e734e714e704e6f4e6e4e6d4e6c4e6b4e694e684e674e664e654e644e624e614e604e5f4e5e4e5d4e5c4e5a4e594e584e574e564e554e534e524e514e504e4f4e4e4e4d4e4b4e4a4e494e484e474e464e444e434e424e414e404e3f4e3e4e3c4e3b4e3a4e394e384e374e354e344e334e324e314e304e2f4e2d4e2c4e2b4e2a4e294e284e274e254e244e234e224e214e204e1e4e1d4e1c4e1b4e1a4e194e184e164e154e144e134e124e114e0f4e0e4e0d4e0c4e0b4e0a4e094e074e064e054e044e034e024e014dff4dfe4dfd4dfc4dfb4dfa4df84df74df64df54df44df34df24df04def4dee4ded4dec4deb4dea4de84de74de64de54de44de34de14de04ddf4dde4ddd4ddc4ddb4dd94dd84dd74dd64dd54dd4,
  0x5024502250215020501f501e501d501b501a501950185017501650145013501250115010500f500d500c500b500a500950085006500550045003500250014fff4ffe4ffd4ffc4ffb4ffa4ff84ff74ff64ff54ff44ff34ff14ff04fef4fee4fed4fec4fea4fe94fe84fe74fe64fe54fe34fe24fe14fe04fdf4fde4fdc4fdb4fda4fd94fd84fd74fd54fd44fd34fd24fd14fd04fce4fcd4fcc4fcb4fca4fc94fc74fc64fc54fc44fc34fc24fc04fbf4fbe4fbd4fbc4fbb4fba4fb84fb74fb64fb54fb44fb34fb14fb04faf4fae4fad4fac4faa4fa94fa84fa74fa64fa54fa34fa24fa14fa04f9f4f9e4f9c4f9b4f9a4f994f984f974f954f944f934f924f914f904f8e4f8d4f8c4f8b4f8a4f894f874f864f854f844f834f824f814f7f4f7e4f7d4f7c4f7b4f7a4f784f774f764f754f744f734f714f704f6f4f6e4f6d4f6c4f6a4f694f684f674f664f654f634f624f614f604f5f4f5e4f5c4f5b4f5a4f594f584f574f564f544f534f524f514f504f4f4f4d4f4c4f4b4f4a4f494f484f464f454f444f434f424f414f3f4f3e4f3d4f3c4f3b4f3a4f384f374f364f354f344f334f324f304f2f4f2e4f2d4f2c4f2b4f294f284f274f264f254f244f224f214f204f1f4f1e4f1d4f1b4f1a4f194f184f174f164f154f134f124f114f104f0f4f0e4f0c4f0b4f0a4f094f084f074f054f044f034f024f014f004eff4efd4efc4efb,
  0x5150514f514d514c514b514a51495147514651455144514351425140513f513e513d513c513b513951385137513651355133513251315130512f512e512c512b512a51295128512751255124512351225121511f511e511d511c511b511a51185117511651155114511351115110510f510e510d510c510a51095108510751065104510351025101510050ff50fd50fc50fb50fa50f950f850f650f550f450f350f250f150ef50ee50ed50ec50eb50e950e850e750e650e550e450e250e150e050df50de50dd50db50da50d950d850d750d650d450d350d250d150d050ce50cd50cc50cb50ca50c950c750c650c550c450c350c250c050bf50be50bd50bc50bb50b950b850b750b650b550b450b250b150b050af50ae50ac50ab50aa50a950a850a750a550a450a350a250a150a0509e509d509c509b509a50995097509650955094509350925090508f508e508d508c508b508950885087508650855083508250815080507f507e507c507b507a507950785077507550745073507250715070506e506d506c506b506a50695067506650655064506350625060505f505e505d505c505b505950585057505650555054505250515050504f504e504d504b504a504950485047504550445043504250415040503e503d503c503b503a50395037503650355034503350325030502f502e502d502c502b50295028502750265025,
  0x527e527d527c527b527952785277527652755274527252715270526f526e526c526b526a52695268526652655264526352625261525f525e525d525c525b525952585257525652555254525252515250524f524e524c524b524a52495248524652455244524352425241523f523e523d523c523b523952385237523652355234523252315230522f522e522c522b522a52295228522752255224522352225221521f521e521d521c521b521952185217521652155214521252115210520f520e520c520b520a5209520852075205520452035202520151ff51fe51fd51fc51fb51fa51f851f751f651f551f451f251f151f051ef51ee51ed51eb51ea51e951e851e751e551e451e351e251e151e051de51dd51dc51db51da51d851d751d651d551d451d351d151d051cf51ce51cd51cb51ca51c951c851c751c651c451c351c251c151c051bf51bd51bc51bb51ba51b951b751b651b551b451b351b251b051af51ae51ad51ac51aa51a951a851a751a651a551a351a251a151a0519f519d519c519b519a51995198519651955194519351925190518f518e518d518c518b518951885187518651855184518251815180517f517e517c517b517a517951785177517551745173517251715170516e516d516c516b516a51685167516651655164516351615160515f515e515d515b515a51595158515751565154515351525151,
  0x53af53ae53ad53ab53aa53a953a853a753a553a453a353a253a153a0539e539d539c539b539a53985397539653955394539253915390538f538e538c538b538a53895388538653855384538353825380537f537e537d537c537a537953785377537653755373537253715370536f536d536c536b536a53695367536653655364536353615360535f535e535d535b535a535953585357535553545353535253515350534e534d534c534b534a53485347534653455344534253415340533f533e533c533b533a53395338533653355334533353325331532f532e532d532c532b532953285327532653255323532253215320531f531d531c531b531a53195318531653155314531353125310530f530e530d530c530a53095308530753065304530353025301530052ff52fd52fc52fb52fa52f952f752f652f552f452f352f152f052ef52ee52ed52eb52ea52e952e852e752e652e452e352e252e152e052de52dd52dc52db52da52d852d752d652d552d452d352d152d052cf52ce52cd52cb52ca52c952c852c752c552c452c352c252c152bf52be52bd52bc52bb52ba52b852b752b652b552b452b252b152b052af52ae52ac52ab52aa52a952a852a752a552a452a352a252a1529f529e529d529c529b529952985297529652955294529252915290528f528e528c528b528a52895288528652855284528352825281527f,
  0x54e254e154e054df54dd54dc54db54da54d954d754d654d554d454d354d154d054cf54ce54cd54cb54ca54c954c854c754c554c454c354c254c154bf54be54bd54bc54bb54b954b854b754b654b554b354b254b154b054af54ad54ac54ab54aa54a954a754a654a554a454a254a154a0549f549e549c549b549a54995498549654955494549354925490548f548e548d548c548a548954885487548654845483548254815480547e547d547c547b547a54785477547654755474547254715470546f546e546c546b546a54695468546654655464546354625460545f545e545d545c545a545954585457545654545453545254515450544e544d544c544b544a54485447544654455444544254415440543f543e543c543b543a54395438543654355434543354325430542f542e542d542c542a542954285427542654245423542254215420541e541d541c541b541a54185417541654155414541254115410540f540e540c540b540a5409540854065405540454035402540053ff53fe53fd53fc53fa53f953f853f753f653f453f353f253f153f053ee53ed53ec53eb53ea53e853e753e653e553e453e253e153e053df53de53dd53db53da53d953d853d753d553d453d353d253d153cf53ce53cd53cc53cb53c953c853c753c653c553c353c253c153c053bf53bd53bc53bb53ba53b953b753b653b553b453b353b153b0,
  0x5618561756155614561356125611560f560e560d560c560b56095608560756065605560356025601560055fe55fd55fc55fb55fa55f855f755f655f555f455f255f155f055ef55ed55ec55eb55ea55e955e755e655e555e455e355e155e055df55de55dc55db55da55d955d855d655d555d455d355d255d055cf55ce55cd55cc55ca55c955c855c755c555c455c355c255c155bf55be55bd55bc55bb55b955b855b755b655b455b355b255b155b055ae55ad55ac55ab55aa55a855a755a655a555a455a255a155a0559f559d559c559b559a55995597559655955594559355915590558f558e558d558b558a55895588558655855584558355825580557f557e557d557c557a557955785577557655745573557255715570556e556d556c556b556955685567556655655563556255615560555f555d555c555b555a55595557555655555554555355515550554f554e554c554b554a55495548554655455544554355425540553f553e553d553c553a55395538553755365534553355325531552f552e552d552c552b552955285527552655255523552255215520551f551d551c551b551a55195517551655155514551355115510550f550e550c550b550a5509550855065505550455035502550054ff54fe54fd54fc54fa54f954f854f754f654f454f354f254f154f054ee54ed54ec54eb54ea54e854e754e654e554e3,
  0x5750574f574e574c574b574a57495747574657455744574257415740573f573e573c573b573a57395737573657355734573357315730572f572e572c572b572a57295728572657255724572357215720571f571e571d571b571a57195718571657155714571357125710570f570e570d570b570a5709570857075705570457035702570156ff56fe56fd56fc56fa56f956f856f756f656f456f356f256f156ef56ee56ed56ec56eb56e956e856e756e656e456e356e256e156e056de56dd56dc56db56d956d856d756d656d556d356d256d156d056ce56cd56cc56cb56ca56c856c756c656c556c356c256c156c056bf56bd56bc56bb56ba56b956b756b656b556b456b256b156b056af56ae56ac56ab56aa56a956a756a656a556a456a356a156a0569f569e569c569b569a56995698569656955694569356925690568f568e568d568b568a56895688568756855684568356825680567f567e567d567c567a56795678567756765674567356725671566f566e566d566c566b566956685667566656645663566256615660565e565d565c565b565a56585657565656555653565256515650564f564d564c564b564a56495647564656455644564256415640563f563e563c563b563a56395638563656355634563356315630562f562e562d562b562a56295628562756255624562356225620561f561e561d561c561a5619,
  0x588a58895888588758855884588358825881587f587e587d587c587a58795878587758755874587358725870586f586e586d586c586a58695868586758655864586358625860585f585e585d585c585a58595858585758555854585358525850584f584e584d584c584a58495848584758455844584358425840583f583e583d583c583a58395838583758355834583358325830582f582e582d582c582a58295828582758255824582358225820581f581e581d581c581a58195818581758155814581358125810580f580e580d580c580a5809580858075805580458035802580157ff57fe57fd57fc57fa57f957f857f757f557f457f357f257f157ef57ee57ed57ec57ea57e957e857e757e557e457e357e257e157df57de57dd57dc57da57d957d857d757d657d457d357d257d157cf57ce57cd57cc57ca57c957c857c757c657c457c357c257c157bf57be57bd57bc57bb57b957b857b757b657b457b357b257b157af57ae57ad57ac57ab57a957a857a757a657a457a357a257a157a0579e579d579c579b579957985797579657955793579257915790578e578d578c578b578957885787578657855783578257815780577e577d577c577b577a57785777577657755773577257715770576f576d576c576b576a57685767576657655764576257615760575f575d575c575b575a5759575757565755575457525751,
  0x59c759c659c559c359c259c159c059be59bd59bc59bb59ba59b859b759b659b559b359b259b159b059ae59ad59ac59ab59a959a859a759a659a459a359a259a1599f599e599d599c599a59995998599759965994599359925991598f598e598d598c598a59895988598759855984598359825980597f597e597d597b597a59795978597759755974597359725970596f596e596d596b596a59695968596659655964596359615960595f595e595c595b595a59595958595659555954595359515950594f594e594c594b594a59495947594659455944594259415940593f593e593c593b593a59395937593659355934593259315930592f592d592c592b592a59285927592659255924592259215920591f591d591c591b591a59185917591659155913591259115910590e590d590c590b590a5908590759065905590359025901590058fe58fd58fc58fb58f958f858f758f658f558f358f258f158f058ee58ed58ec58eb58e958e858e758e658e458e358e258e158e058de58dd58dc58db58d958d858d758d658d458d358d258d158cf58ce58cd58cc58cb58c958c858c758c658c458c358c258c158bf58be58bd58bc58ba58b958b858b758b658b458b358b258b158af58ae58ad58ac58aa58a958a858a758a658a458a358a258a1589f589e589d589c589a58995898589758955894589358925891588f588e588d588c,
  0x5b065b055b045b035b015b005aff5afe5afc5afb5afa5af95af75af65af55af45af25af15af05aef5aed5aec5aeb5aea5ae85ae75ae65ae55ae35ae25ae15ae05ade5add5adc5adb5ad95ad85ad75ad65ad45ad35ad25ad15acf5ace5acd5acc5aca5ac95ac85ac75ac55ac45ac35ac25ac05abf5abe5abd5abb5aba5ab95ab85ab65ab55ab45ab35ab15ab05aaf5aae5aac5aab5aaa5aa95aa75aa65aa55aa45aa25aa15aa05a9f5a9d5a9c5a9b5a9a5a985a975a965a955a935a925a915a905a8e5a8d5a8c5a8b5a895a885a875a865a845a835a825a815a7f5a7e5a7d5a7c5a7a5a795a785a775a755a745a735a725a705a6f5a6e5a6d5a6b5a6a5a695a685a665a655a645a635a615a605a5f5a5e5a5d5a5b5a5a5a595a585a565a555a545a535a515a505a4f5a4e5a4c5a4b5a4a5a495a475a465a455a445a425a415a405a3f5a3d5a3c5a3b5a3a5a385a375a365a355a335a325a315a305a2e5a2d5a2c5a2b5a295a285a275a265a245a235a225a215a1f5a1e5a1d5a1c5a1a5a195a185a175a165a145a135a125a115a0f5a0e5a0d5a0c5a0a5a095a085a075a055a045a035a025a0059ff59fe59fd59fb59fa59f959f859f659f559f459f359f159f059ef59ee59ec59eb59ea59e959e759e659e559e459e359e159e059df59de59dc59db59da59d959d759d659d559d459d259d159d059cf59cd59cc59cb59ca59c8,
  0x5c485c475c455c445c435c425c405c3f5c3e5c3d5c3b5c3a5c395c385c365c355c345c335c315c305c2f5c2e5c2c5c2b5c2a5c295c275c265c255c235c225c215c205c1e5c1d5c1c5c1b5c195c185c175c165c145c135c125c115c0f5c0e5c0d5c0c5c0a5c095c085c065c055c045c035c015c005bff5bfe5bfc5bfb5bfa5bf95bf75bf65bf55bf45bf25bf15bf05bef5bed5bec5beb5bea5be85be75be65be55be35be25be15bdf5bde5bdd5bdc5bda5bd95bd85bd75bd55bd45bd35bd25bd05bcf5bce5bcd5bcb5bca5bc95bc85bc65bc55bc45bc35bc15bc05bbf5bbe5bbc5bbb5bba5bb95bb75bb65bb55bb35bb25bb15bb05bae5bad5bac5bab5ba95ba85ba75ba65ba45ba35ba25ba15b9f5b9e5b9d5b9c5b9a5b995b985b975b955b945b935b925b905b8f5b8e5b8d5b8b5b8a5b895b885b865b855b845b825b815b805b7f5b7d5b7c5b7b5b7a5b785b775b765b755b735b725b715b705b6e5b6d5b6c5b6b5b695b685b675b665b645b635b625b615b5f5b5e5b5d5b5c5b5a5b595b585b575b555b545b535b525b505b4f5b4e5b4d5b4b5b4a5b495b485b465b455b445b435b415b405b3f5b3e5b3c5b3b5b3a5b385b375b365b355b335b325b315b305b2e5b2d5b2c5b2b5b295b285b275b265b245b235b225b215b1f5b1e5b1d5b1c5b1a5b195b185b175b155b145b135b125b105b0f5b0e5b0d5b0b5b0a5b095b08,
  0x5d8c5d8b5d895d885d875d865d845d835d825d815d7f5d7e5d7d5d7c5d7a5d795d785d765d755d745d735d715d705d6f5d6e5d6c5d6b5d6a5d685d675d665d655d635d625d615d605d5e5d5d5d5c5d5b5d595d585d575d555d545d535d525d505d4f5d4e5d4d5d4b5d4a5d495d475d465d455d445d425d415d405d3f5d3d5d3c5d3b5d3a5d385d375d365d345d335d325d315d2f5d2e5d2d5d2c5d2a5d295d285d275d255d245d235d215d205d1f5d1e5d1c5d1b5d1a5d195d175d165d155d145d125d115d105d0e5d0d5d0c5d0b5d095d085d075d065d045d035d025d015cff5cfe5cfd5cfb5cfa5cf95cf85cf65cf55cf45cf35cf15cf05cef5cee5cec5ceb5cea5ce85ce75ce65ce55ce35ce25ce15ce05cde5cdd5cdc5cdb5cd95cd85cd75cd55cd45cd35cd25cd05ccf5cce5ccd5ccb5cca5cc95cc85cc65cc55cc45cc35cc15cc05cbf5cbd5cbc5cbb5cba5cb85cb75cb65cb55cb35cb25cb15cb05cae5cad5cac5caa5ca95ca85ca75ca55ca45ca35ca25ca05c9f5c9e5c9d5c9b5c9a5c995c985c965c955c945c925c915c905c8f5c8d5c8c5c8b5c8a5c885c875c865c855c835c825c815c805c7e5c7d5c7c5c7a5c795c785c775c755c745c735c725c705c6f5c6e5c6d5c6b5c6a5c695c685c665c655c645c635c615c605c5f5c5d5c5c5c5b5c5a5c585c575c565c555c535c525c515c505c4e5c4d5c4c5c4b5c49,
  0x5ed25ed15ed05ecf5ecd5ecc5ecb5eca5ec85ec75ec65ec45ec35ec25ec15ebf5ebe5ebd5ebb5eba5eb95eb85eb65eb55eb45eb25eb15eb05eaf5ead5eac5eab5eaa5ea85ea75ea65ea45ea35ea25ea15e9f5e9e5e9d5e9b5e9a5e995e985e965e955e945e935e915e905e8f5e8d5e8c5e8b5e8a5e885e875e865e845e835e825e815e7f5e7e5e7d5e7c5e7a5e795e785e765e755e745e735e715e705e6f5e6d5e6c5e6b5e6a5e685e675e665e655e635e625e615e5f5e5e5e5d5e5c5e5a5e595e585e575e555e545e535e515e505e4f5e4e5e4c5e4b5e4a5e485e475e465e455e435e425e415e405e3e5e3d5e3c5e3a5e395e385e375e355e345e335e325e305e2f5e2e5e2c5e2b5e2a5e295e275e265e255e235e225e215e205e1e5e1d5e1c5e1b5e195e185e175e155e145e135e125e105e0f5e0e5e0d5e0b5e0a5e095e075e065e055e045e025e015e005dff5dfd5dfc5dfb5df95df85df75df65df45df35df25df15def5dee5ded5deb5dea5de95de85de65de55de45de35de15de05ddf5ddd5ddc5ddb5dda5dd85dd75dd65dd55dd35dd25dd15dcf5dce5dcd5dcc5dca5dc95dc85dc75dc55dc45dc35dc15dc05dbf5dbe5dbc5dbb5dba5db95db75db65db55db35db25db15db05dae5dad5dac5dab5da95da85da75da55da45da35da25da05d9f5d9e5d9d5d9b5d9a5d995d975d965d955d945d925d915d905d8f5d8d,
  0x601b601a60196017601660156014601260116010600e600d600c600b600960086007600560046003600260005fff5ffe5ffc5ffb5ffa5ff95ff75ff65ff55ff35ff25ff15ff05fee5fed5fec5fea5fe95fe85fe65fe55fe45fe35fe15fe05fdf5fdd5fdc5fdb5fda5fd85fd75fd65fd45fd35fd25fd15fcf5fce5fcd5fcb5fca5fc95fc85fc65fc55fc45fc25fc15fc05fbf5fbd5fbc5fbb5fb95fb85fb75fb65fb45fb35fb25fb05faf5fae5fad5fab5faa5fa95fa75fa65fa55fa45fa25fa15fa05f9e5f9d5f9c5f9b5f995f985f975f955f945f935f925f905f8f5f8e5f8c5f8b5f8a5f895f875f865f855f835f825f815f805f7e5f7d5f7c5f7a5f795f785f775f755f745f735f715f705f6f5f6e5f6c5f6b5f6a5f685f675f665f655f635f625f615f5f5f5e5f5d5f5c5f5a5f595f585f565f555f545f535f515f505f4f5f4e5f4c5f4b5f4a5f485f475f465f455f435f425f415f3f5f3e5f3d5f3c5f3a5f395f385f365f355f345f335f315f305f2f5f2d5f2c5f2b5f2a5f285f275f265f245f235f225f215f1f5f1e5f1d5f1b5f1a5f195f185f165f155f145f135f115f105f0f5f0d5f0c5f0b5f0a5f085f075f065f045f035f025f015eff5efe5efd5efb5efa5ef95ef85ef65ef55ef45ef25ef15ef05eef5eed5eec5eeb5eea5ee85ee75ee65ee45ee35ee25ee15edf5ede5edd5edb5eda5ed95ed85ed65ed55ed4,
  0x616761656164616361616160615f615d615c615b615a6158615761566154615361526151614f614e614d614b614a61496147614661456144614261416140613e613d613c613a61396138613761356134613361316130612f612d612c612b612a6128612761266124612361226121611f611e611d611b611a61196117611661156114611261116110610e610d610c610a6109610861076105610461036101610060ff60fe60fc60fb60fa60f860f760f660f460f360f260f160ef60ee60ed60eb60ea60e960e760e660e560e460e260e160e060de60dd60dc60db60d960d860d760d560d460d360d160d060cf60ce60cc60cb60ca60c860c760c660c560c360c260c160bf60be60bd60bb60ba60b960b860b660b560b460b260b160b060af60ad60ac60ab60a960a860a760a560a460a360a260a0609f609e609c609b609a6099609760966095609360926091608f608e608d608c608a60896088608660856084608360816080607f607d607c607b607a6078607760766074607360726070606f606e606d606b606a60696067606660656064606260616060605e605d605c605b60596058605760556054605360516050604f604e604c604b604a6048604760466045604360426041603f603e603d603c603a60396038603660356034603360316030602f602d602c602b602a6028602760266024602360226020601f601e601d,
  0x62b462b362b262b062af62ae62ac62ab62aa62a862a762a662a562a362a262a1629f629e629d629b629a62996297629662956294629262916290628e628d628c628a62896288628662856284628362816280627f627d627c627b62796278627762766274627362726270626f626e626c626b626a6268626762666265626362626261625f625e625d625b625a62596257625662556254625262516250624e624d624c624a62496248624762456244624362416240623f623d623c623b62396238623762366234623362326230622f622e622c622b622a6228622762266225622362226221621f621e621d621b621a62196218621662156214621262116210620e620d620c620b6209620862076205620462036201620061ff61fd61fc61fb61fa61f861f761f661f461f361f261f061ef61ee61ed61eb61ea61e961e761e661e561e361e261e161e061de61dd61dc61da61d961d861d661d561d461d261d161d061cf61cd61cc61cb61c961c861c761c561c461c361c261c061bf61be61bc61bb61ba61b861b761b661b561b361b261b161af61ae61ad61ab61aa61a961a861a661a561a461a261a161a0619e619d619c619b61996198619761956194619361916190618f618e618c618b618a6188618761866184618361826181617f617e617d617b617a61796177617661756174617261716170616e616d616c616a61696168,
  0x640464036402640063ff63fe63fc63fb63fa63f863f763f663f563f363f263f163ef63ee63ed63eb63ea63e963e763e663e563e363e263e163df63de63dd63dc63da63d963d863d663d563d463d263d163d063ce63cd63cc63ca63c963c863c663c563c463c363c163c063bf63bd63bc63bb63b963b863b763b563b463b363b163b063af63ad63ac63ab63aa63a863a763a663a463a363a263a0639f639e639c639b639a6398639763966394639363926391638f638e638d638b638a6389638763866385638363826381637f637e637d637c637a63796378637663756374637263716370636e636d636c636a63696368636763656364636363616360635f635d635c635b63596358635763556354635363516350634f634e634c634b634a6348634763466344634363426340633f633e633d633b633a6339633763366335633363326331632f632e632d632b632a63296328632663256324632263216320631e631d631c631a63196318631663156314631363116310630f630d630c630b6309630863076305630463036302630062ff62fe62fc62fb62fa62f862f762f662f462f362f262f062ef62ee62ed62eb62ea62e962e762e662e562e362e262e162df62de62dd62dc62da62d962d862d662d562d462d262d162d062ce62cd62cc62ca62c962c862c762c562c462c362c162c062bf62bd62bc62bb62b962b862b762b6,
  0x655765566554655365526550654f654e654c654b654a6548654765466544654365426540653f653e653c653b653a6538653765366534653365326530652f652e652c652b652a6528652765266524652365226521651f651e651d651b651a6519651765166515651365126511650f650e650d650b650a650965076506650565036502650164ff64fe64fd64fb64fa64f964f764f664f564f364f264f164ef64ee64ed64ec64ea64e964e864e664e564e464e264e164e064de64dd64dc64da64d964d864d664d564d464d264d164d064ce64cd64cc64ca64c964c864c664c564c464c264c164c064bf64bd64bc64bb64b964b864b764b564b464b364b164b064af64ad64ac64ab64a964a864a764a564a464a364a164a0649f649d649c649b64996498649764966494649364926490648f648e648c648b648a6488648764866484648364826480647f647e647c647b647a6478647764766474647364726471646f646e646d646b646a6469646764666465646364626461645f645e645d645b645a64596457645664556453645264516450644e644d644c644a64496448644664456444644264416440643e643d643c643a64396438643664356434643264316430642f642d642c642b64296428642764256424642364216420641f641d641c641b64196418641764156414641364126410640f640e640c640b640a640864076406,
  0x66ac66aa66a966a866a666a566a466a266a166a0669e669d669c669a66996698669666956694669266916690668e668d668c668a66896688668666856684668266816680667e667d667c667a66796678667666756674667266716670666e666d666c666a66696668666666656664666266616660665e665d665c665a66596658665666556654665266516650664e664d664c664a66496648664666456644664266416640663e663d663c663a66396638663666356634663266316630662e662d662c662a66296628662666256624662266216620661e661d661c661a66196618661666156614661266116610660e660d660c660a6609660866066605660466026601660065fe65fd65fc65fa65f965f865f665f565f465f265f165f065ee65ed65ec65ea65e965e865e665e565e465e265e165e065de65dd65dc65da65d965d865d665d565d465d265d165d065ce65cd65cc65ca65c965c865c665c565c465c265c165c065bf65bd65bc65bb65b965b865b765b565b465b365b165b065af65ad65ac65ab65a965a865a765a565a465a365a165a0659f659d659c659b65996598659765956594659365916590658f658d658c658b65896588658765856584658365816580657f657d657c657b65796578657765756574657365716570656f656d656c656b65696568656765656564656365616560655f655e655c655b655a6558,
  0x68036802680167ff67fe67fc67fb67fa67f867f767f667f467f367f267f067ef67ee67ec67eb67ea67e867e767e667e467e367e267e067df67de67dc67db67d967d867d767d567d467d367d167d067cf67cd67cc67cb67c967c867c767c567c467c367c167c067bf67bd67bc67bb67b967b867b767b567b467b367b167b067ae67ad67ac67aa67a967a867a667a567a467a267a167a0679e679d679c679a67996798679667956794679267916790678e678d678c678a6789678867866785678467826781677f677e677d677b677a6779677767766775677367726771676f676e676d676b676a6769676767666765676367626761675f675e675d675b675a6759675767566755675367526751674f674e674c674b674a6748674767466744674367426740673f673e673c673b673a6738673767366734673367326730672f672e672c672b672a6728672767266724672367226720671f671e671c671b671a6718671767166714671367126710670f670d670c670b6709670867076705670467036701670066ff66fd66fc66fb66f966f866f766f566f466f366f166f066ef66ed66ec66eb66e966e866e766e566e466e366e166e066df66dd66dc66db66d966d866d766d566d466d366d166d066cf66cd66cc66cb66c966c866c766c566c466c366c166c066bf66bd66bc66bb66b966b866b766b566b466b366b166b066af66ad,
  0x695d695c695a6959695869566955695469526951694f694e694d694b694a6949694769466945694369426941693f693e693c693b693a6938693769366934693369326930692f692e692c692b692a6928692769256924692369216920691f691d691c691b69196918691769156914691369116910690e690d690c690a6909690869066905690469026901690068fe68fd68fc68fa68f968f768f668f568f368f268f168ef68ee68ed68eb68ea68e968e768e668e568e368e268e068df68de68dc68db68da68d868d768d668d468d368d268d068cf68ce68cc68cb68c968c868c768c568c468c368c168c068bf68bd68bc68bb68b968b868b768b568b468b368b168b068ae68ad68ac68aa68a968a868a668a568a468a268a168a0689e689d689c689a6899689768966895689368926891688f688e688d688b688a6889688768866885688368826881687f687e687d687b687a6878687768766874687368726870686f686e686c686b686a6868686768666864686368626860685f685d685c685b68596858685768556854685368516850684f684d684c684b68496848684768456844684368416840683e683d683c683a68396838683668356834683268316830682e682d682c682a6829682868266825682468226821681f681e681d681b681a6819681768166815681368126811680f680e680d680b680a6809680768066805,
  0x6ab96ab86ab76ab56ab46ab26ab16ab06aae6aad6aac6aaa6aa96aa86aa66aa56aa36aa26aa16a9f6a9e6a9d6a9b6a9a6a996a976a966a946a936a926a906a8f6a8e6a8c6a8b6a8a6a886a876a856a846a836a816a806a7f6a7d6a7c6a7b6a796a786a766a756a746a726a716a706a6e6a6d6a6c6a6a6a696a676a666a656a636a626a616a5f6a5e6a5d6a5b6a5a6a586a576a566a546a536a526a506a4f6a4e6a4c6a4b6a496a486a476a456a446a436a416a406a3f6a3d6a3c6a3a6a396a386a366a356a346a326a316a306a2e6a2d6a2c6a2a6a296a276a266a256a236a226a216a1f6a1e6a1d6a1b6a1a6a186a176a166a146a136a126a106a0f6a0e6a0c6a0b6a096a086a076a056a046a036a016a0069ff69fd69fc69fb69f969f869f669f569f469f269f169f069ee69ed69ec69ea69e969e769e669e569e369e269e169df69de69dd69db69da69d969d769d669d469d369d269d069cf69ce69cc69cb69ca69c869c769c669c469c369c169c069bf69bd69bc69bb69b969b869b769b569b469b269b169b069ae69ad69ac69aa69a969a869a669a569a469a269a1699f699e699d699b699a6999699769966995699369926991698f698e698c698b698a6988698769866984698369826980697f697e697c697b69796978697769756974697369716970696f696d696c696b69696968696769656964696269616960695e,
  0x6c186c176c156c146c126c116c106c0e6c0d6c0c6c0a6c096c076c066c056c036c026c016bff6bfe6bfc6bfb6bfa6bf86bf76bf66bf46bf36bf16bf06bef6bed6bec6beb6be96be86be66be56be46be26be16be06bde6bdd6bdc6bda6bd96bd76bd66bd56bd36bd26bd16bcf6bce6bcc6bcb6bca6bc86bc76bc66bc46bc36bc16bc06bbf6bbd6bbc6bbb6bb96bb86bb66bb56bb46bb26bb16bb06bae6bad6bab6baa6ba96ba76ba66ba56ba36ba26ba16b9f6b9e6b9c6b9b6b9a6b986b976b966b946b936b916b906b8f6b8d6b8c6b8b6b896b886b866b856b846b826b816b806b7e6b7d6b7b6b7a6b796b776b766b756b736b726b716b6f6b6e6b6c6b6b6b6a6b686b676b666b646b636b616b606b5f6b5d6b5c6b5b6b596b586b566b556b546b526b516b506b4e6b4d6b4c6b4a6b496b476b466b456b436b426b416b3f6b3e6b3c6b3b6b3a6b386b376b366b346b336b326b306b2f6b2d6b2c6b2b6b296b286b276b256b246b226b216b206b1e6b1d6b1c6b1a6b196b186b166b156b136b126b116b0f6b0e6b0d6b0b6b0a6b096b076b066b046b036b026b006aff6afe6afc6afb6af96af86af76af56af46af36af16af06aef6aed6aec6aea6ae96ae86ae66ae56ae46ae26ae16ae06ade6add6adb6ada6ad96ad76ad66ad56ad36ad26ad06acf6ace6acc6acb6aca6ac86ac76ac66ac46ac36ac16ac06abf6abd6abc6abb,
  0x6d796d786d766d756d746d726d716d6f6d6e6d6d6d6b6d6a6d686d676d666d646d636d626d606d5f6d5d6d5c6d5b6d596d586d566d556d546d526d516d506d4e6d4d6d4b6d4a6d496d476d466d456d436d426d406d3f6d3e6d3c6d3b6d396d386d376d356d346d336d316d306d2e6d2d6d2c6d2a6d296d276d266d256d236d226d216d1f6d1e6d1c6d1b6d1a6d186d176d166d146d136d116d106d0f6d0d6d0c6d0a6d096d086d066d056d046d026d016cff6cfe6cfd6cfb6cfa6cf96cf76cf66cf46cf36cf26cf06cef6ced6cec6ceb6ce96ce86ce76ce56ce46ce26ce16ce06cde6cdd6cdc6cda6cd96cd76cd66cd56cd36cd26cd06ccf6cce6ccc6ccb6cca6cc86cc76cc56cc46cc36cc16cc06cbf6cbd6cbc6cba6cb96cb86cb66cb56cb46cb26cb16caf6cae6cad6cab6caa6ca86ca76ca66ca46ca36ca26ca06c9f6c9d6c9c6c9b6c996c986c976c956c946c926c916c906c8e6c8d6c8c6c8a6c896c876c866c856c836c826c816c7f6c7e6c7c6c7b6c7a6c786c776c766c746c736c716c706c6f6c6d6c6c6c6a6c696c686c666c656c646c626c616c5f6c5e6c5d6c5b6c5a6c596c576c566c546c536c526c506c4f6c4e6c4c6c4b6c496c486c476c456c446c436c416c406c3e6c3d6c3c6c3a6c396c386c366c356c336c326c316c2f6c2e6c2d6c2b6c2a6c286c276c266c246c236c226c206c1f6c1d6c1c6c1b6c19,
  0x6edd6edb6eda6ed86ed76ed66ed46ed36ed26ed06ecf6ecd6ecc6ecb6ec96ec86ec66ec56ec46ec26ec16ebf6ebe6ebd6ebb6eba6eb86eb76eb66eb46eb36eb16eb06eaf6ead6eac6eab6ea96ea86ea66ea56ea46ea26ea16e9f6e9e6e9d6e9b6e9a6e986e976e966e946e936e916e906e8f6e8d6e8c6e8a6e896e886e866e856e846e826e816e7f6e7e6e7d6e7b6e7a6e786e776e766e746e736e716e706e6f6e6d6e6c6e6a6e696e686e666e656e646e626e616e5f6e5e6e5d6e5b6e5a6e586e576e566e546e536e516e506e4f6e4d6e4c6e4b6e496e486e466e456e446e426e416e3f6e3e6e3d6e3b6e3a6e386e376e366e346e336e326e306e2f6e2d6e2c6e2b6e296e286e266e256e246e226e216e1f6e1e6e1d6e1b6e1a6e196e176e166e146e136e126e106e0f6e0d6e0c6e0b6e096e086e066e056e046e026e016e006dfe6dfd6dfb6dfa6df96df76df66df46df36df26df06def6ded6dec6deb6de96de86de76de56de46de26de16de06dde6ddd6ddb6dda6dd96dd76dd66dd56dd36dd26dd06dcf6dce6dcc6dcb6dc96dc86dc76dc56dc46dc26dc16dc06dbe6dbd6dbc6dba6db96db76db66db56db36db26db06daf6dae6dac6dab6daa6da86da76da56da46da36da16da06d9e6d9d6d9c6d9a6d996d986d966d956d936d926d916d8f6d8e6d8c6d8b6d8a6d886d876d866d846d836d816d806d7f6d7d6d7c6d7a,
  0x704370417040703e703d703c703a7039703770367035703370327030702f702e702c702b70297028702770257024702270217020701e701d701b701a7019701770167014701370127010700f700d700c700b70097008700670057004700270016fff6ffe6ffd6ffb6ffa6ff86ff76ff66ff46ff36ff16ff06fef6fed6fec6fea6fe96fe86fe66fe56fe36fe26fe16fdf6fde6fdc6fdb6fda6fd86fd76fd56fd46fd36fd16fd06fce6fcd6fcc6fca6fc96fc76fc66fc56fc36fc26fc06fbf6fbe6fbc6fbb6fb96fb86fb76fb56fb46fb26fb16fb06fae6fad6fab6faa6fa96fa76fa66fa46fa36fa26fa06f9f6f9d6f9c6f9b6f996f986f966f956f946f926f916f8f6f8e6f8d6f8b6f8a6f886f876f866f846f836f816f806f7f6f7d6f7c6f7a6f796f786f766f756f736f726f716f6f6f6e6f6c6f6b6f6a6f686f676f656f646f636f616f606f5e6f5d6f5c6f5a6f596f576f566f556f536f526f506f4f6f4e6f4c6f4b6f496f486f476f456f446f426f416f406f3e6f3d6f3c6f3a6f396f376f366f356f336f326f306f2f6f2e6f2c6f2b6f296f286f276f256f246f226f216f206f1e6f1d6f1b6f1a6f196f176f166f146f136f126f106f0f6f0d6f0c6f0b6f096f086f066f056f046f026f016f006efe6efd6efb6efa6ef96ef76ef66ef46ef36ef26ef06eef6eed6eec6eeb6ee96ee86ee66ee56ee46ee26ee16edf6ede,
  0x71ab71aa71a871a771a571a471a371a171a0719e719d719c719a7199719771967195719371927190718f718d718c718b7189718871867185718471827181717f717e717d717b717a7178717771757174717371717170716e716d716c716a7169716771667165716371627160715f715d715c715b7159715871567155715471527151714f714e714d714b714a7148714771467144714371417140713e713d713c713a7139713771367135713371327130712f712e712c712b7129712871267125712471227121711f711e711d711b711a7118711771167114711371117110710f710d710c710a710971077106710571037102710070ff70fe70fc70fb70f970f870f770f570f470f270f170f070ee70ed70eb70ea70e970e770e670e470e370e170e070df70dd70dc70da70d970d870d670d570d370d270d170cf70ce70cc70cb70ca70c870c770c570c470c370c170c070be70bd70bb70ba70b970b770b670b470b370b270b070af70ad70ac70ab70a970a870a670a570a470a270a1709f709e709d709b709a7098709770967094709370917090708e708d708c708a7089708770867085708370827080707f707e707c707b70797078707770757074707270717070706e706d706b706a7069706770667064706370627060705f705d705c705b7059705870567055705470527051704f704e704c704b704a7048704770457044,
  0x73167315731373127310730f730e730c730b730973087306730573047302730172ff72fe72fc72fb72fa72f872f772f572f472f372f172f072ee72ed72eb72ea72e972e772e672e472e372e172e072df72dd72dc72da72d972d872d672d572d372d272d072cf72ce72cc72cb72c972c872c672c572c472c272c172bf72be72bd72bb72ba72b872b772b572b472b372b172b072ae72ad72ab72aa72a972a772a672a472a372a272a0729f729d729c729a7299729872967295729372927291728f728e728c728b7289728872877285728472827281727f727e727d727b727a7278727772767274727372717270726e726d726c726a7269726772667265726372627260725f725d725c725b7259725872567255725472527251724f724e724c724b724a7248724772457244724372417240723e723d723b723a7239723772367234723372327230722f722d722c722a7229722872267225722372227221721f721e721c721b72197218721772157214721272117210720e720d720b720a720872077206720472037201720071ff71fd71fc71fa71f971f771f671f571f371f271f071ef71ee71ec71eb71e971e871e771e571e471e271e171df71de71dd71db71da71d871d771d671d471d371d171d071ce71cd71cc71ca71c971c771c671c571c371c271c071bf71be71bc71bb71b971b871b671b571b471b271b171af71ae71ad,
  0x748374827481747f747e747c747b7479747874777475747474727471746f746e746d746b746a7468746774657464746274617460745e745d745b745a7458745774567454745374517450744e744d744c744a7449744774467444744374427440743f743d743c743a7439743874367435743374327430742f742e742c742b7429742874267425742474227421741f741e741c741b741a7418741774157414741274117410740e740d740b740a740874077406740474037401740073fe73fd73fc73fa73f973f773f673f473f373f273f073ef73ed73ec73ea73e973e873e673e573e373e273e073df73de73dc73db73d973d873d673d573d473d273d173cf73ce73cc73cb73ca73c873c773c573c473c273c173c073be73bd73bb73ba73b873b773b673b473b373b173b073ae73ad73ac73aa73a973a773a673a473a373a273a0739f739d739c739b7399739873967395739373927391738f738e738c738b7389738873877385738473827381737f737e737d737b737a7378737773757374737373717370736e736d736b736a7369736773667364736373617360735f735d735c735a7359735873567355735373527350734f734e734c734b7349734873467345734473427341733f733e733c733b733a7338733773357334733373317330732e732d732b732a7329732773267324732373217320731f731d731c731a73197317,
  0x75f375f275f075ef75ed75ec75eb75e975e875e675e575e375e275e175df75de75dc75db75d975d875d675d575d475d275d175cf75ce75cc75cb75c975c875c775c575c475c275c175bf75be75bd75bb75ba75b875b775b575b475b275b175b075ae75ad75ab75aa75a875a775a575a475a375a175a0759e759d759b759a7599759775967594759375917590758e758d758c758a7589758775867584758375817580757f757d757c757a7579757775767575757375727570756f756d756c756a7569756875667565756375627560755f755e755c755b7559755875567555755375527551754f754e754c754b7549754875477545754475427541753f753e753c753b753a7538753775357534753275317530752e752d752b752a7528752775257524752375217520751e751d751b751a7519751775167514751375117510750f750d750c750a750975077506750475037502750074ff74fd74fc74fa74f974f874f674f574f374f274f074ef74ed74ec74eb74e974e874e674e574e374e274e174df74de74dc74db74d974d874d774d574d474d274d174cf74ce74cd74cb74ca74c874c774c574c474c274c174c074be74bd74bb74ba74b874b774b674b474b374b174b074ae74ad74ac74aa74a974a774a674a474a374a274a0749f749d749c749a7499749774967495749374927490748f748d748c748b7489748874867485,
  0x77667764776377617760775e775d775b775a7758775777567754775377517750774e774d774b774a7749774777467744774377417740773e773d773b773a7739773777367734773377317730772e772d772c772a7729772777267724772377217720771e771d771c771a7719771777167714771377117710770f770d770c770a770977077706770477037702770076ff76fd76fc76fa76f976f776f676f476f376f276f076ef76ed76ec76ea76e976e776e676e576e376e276e076df76dd76dc76da76d976d876d676d576d376d276d076cf76cd76cc76ca76c976c876c676c576c376c276c076bf76bd76bc76bb76b976b876b676b576b376b276b076af76ae76ac76ab76a976a876a676a576a376a276a1769f769e769c769b7699769876967695769476927691768f768e768c768b7689768876867685768476827681767f767e767c767b7679767876777675767476727671766f766e766c766b766a766876677665766476627661765f765e765d765b765a7658765776557654765276517650764e764d764b764a7648764776457644764376417640763e763d763b763a7638763776367634763376317630762e762d762c762a7629762776267624762376217620761f761d761c761a7619761776167614761376127610760f760d760c760a760976077606760576037602760075ff75fd75fc75fa75f975f875f675f5,
  0x78da78d978d778d678d478d378d278d078cf78cd78cc78ca78c978c778c678c478c378c178c078bf78bd78bc78ba78b978b778b678b478b378b178b078ae78ad78ac78aa78a978a778a678a478a378a178a0789e789d789c789a7899789778967894789378917890788e788d788b788a7889788778867884788378817880787e787d787b787a7879787778767874787378717870786e786d786b786a7868786778667864786378617860785e785d785b785a7858785778567854785378517850784e784d784b784a7848784778457844784378417840783e783d783b783a7838783778357834783378317830782e782d782b782a7828782778257824782378217820781e781d781b781a7818781778157814781378117810780e780d780b780a780878077805780478037801780077fe77fd77fb77fa77f877f777f577f477f277f177f077ee77ed77eb77ea77e877e777e577e477e277e177e077de77dd77db77da77d877d777d577d477d277d177d077ce77cd77cb77ca77c877c777c577c477c377c177c077be77bd77bb77ba77b877b777b577b477b377b177b077ae77ad77ab77aa77a877a777a577a477a377a177a0779e779d779b779a7798779777957794779377917790778e778d778b778a7788778777857784778377817780777e777d777b777a7778777777767774777377717770776e776d776b776a77687767,
  0x7a527a507a4f7a4d7a4c7a4a7a497a477a467a447a437a417a407a3e7a3d7a3b7a3a7a397a377a367a347a337a317a307a2e7a2d7a2b7a2a7a287a277a257a247a227a217a207a1e7a1d7a1b7a1a7a187a177a157a147a127a117a0f7a0e7a0c7a0b7a0a7a087a077a057a047a027a0179ff79fe79fc79fb79f979f879f679f579f379f279f179ef79ee79ec79eb79e979e879e679e579e379e279e079df79dd79dc79db79d979d879d679d579d379d279d079cf79cd79cc79ca79c979c779c679c579c379c279c079bf79bd79bc79ba79b979b779b679b479b379b179b079af79ad79ac79aa79a979a779a679a479a379a179a0799e799d799b799a7999799779967994799379917990798e798d798b798a7988798779857984798379817980797e797d797b797a7978797779757974797279717970796e796d796b796a796879677965796479627961795f795e795c795b795a795879577955795479527951794f794e794c794b7949794879477945794479427941793f793e793c793b7939793879367935793379327931792f792e792c792b7929792879267925792379227920791f791e791c791b7919791879167915791379127910790f790d790c790b790979087906790579037902790078ff78fd78fc78fa78f978f878f678f578f378f278f078ef78ed78ec78ea78e978e778e678e578e378e278e078df78dd78dc,
  0x7bcb7bca7bc87bc77bc57bc47bc27bc17bbf7bbe7bbc7bbb7bb97bb87bb67bb57bb47bb27bb17baf7bae7bac7bab7ba97ba87ba67ba57ba37ba27ba07b9f7b9d7b9c7b9a7b997b977b967b947b937b927b907b8f7b8d7b8c7b8a7b897b877b867b847b837b817b807b7e7b7d7b7b7b7a7b787b777b757b747b727b717b707b6e7b6d7b6b7b6a7b687b677b657b647b627b617b5f7b5e7b5c7b5b7b597b587b567b557b537b527b507b4f7b4e7b4c7b4b7b497b487b467b457b437b427b407b3f7b3d7b3c7b3a7b397b377b367b347b337b317b307b2f7b2d7b2c7b2a7b297b277b267b247b237b217b207b1e7b1d7b1b7b1a7b187b177b157b147b127b117b107b0e7b0d7b0b7b0a7b087b077b057b047b027b017aff7afe7afc7afb7af97af87af67af57af47af27af17aef7aee7aec7aeb7ae97ae87ae67ae57ae37ae27ae07adf7add7adc7ada7ad97ad77ad67ad57ad37ad27ad07acf7acd7acc7aca7ac97ac77ac67ac47ac37ac17ac07abe7abd7abc7aba7ab97ab77ab67ab47ab37ab17ab07aae7aad7aab7aaa7aa87aa77aa57aa47aa27aa17aa07a9e7a9d7a9b7a9a7a987a977a957a947a927a917a8f7a8e7a8c7a8b7a897a887a867a857a847a827a817a7f7a7e7a7c7a7b7a797a787a767a757a737a727a707a6f7a6d7a6c7a6b7a697a687a667a657a637a627a607a5f7a5d7a5c7a5a7a597a577a567a547a53,
  0x7d477d467d447d437d417d407d3e7d3d7d3b7d3a7d387d377d367d347d337d317d307d2e7d2d7d2b7d2a7d287d277d257d247d227d217d1f7d1e7d1c7d1b7d197d187d167d157d137d127d107d0f7d0d7d0c7d0a7d097d077d067d047d037d017d007cfe7cfd7cfb7cfa7cf87cf77cf57cf47cf37cf17cf07cee7ced7ceb7cea7ce87ce77ce57ce47ce27ce17cdf7cde7cdc7cdb7cd97cd87cd67cd57cd37cd27cd07ccf7ccd7ccc7cca7cc97cc77cc67cc47cc37cc17cc07cbe7cbd7cbc7cba7cb97cb77cb67cb47cb37cb17cb07cae7cad7cab7caa7ca87ca77ca57ca47ca27ca17c9f7c9e7c9c7c9b7c997c987c967c957c937c927c907c8f7c8d7c8c7c8a7c897c877c867c857c837c827c807c7f7c7d7c7c7c7a7c797c777c767c747c737c717c707c6e7c6d7c6b7c6a7c687c677c657c647c627c617c5f7c5e7c5c7c5b7c597c587c577c557c547c527c517c4f7c4e7c4c7c4b7c497c487c467c457c437c427c407c3f7c3d7c3c7c3a7c397c377c367c347c337c317c307c2e7c2d7c2c7c2a7c297c277c267c247c237c217c207c1e7c1d7c1b7c1a7c187c177c157c147c127c117c0f7c0e7c0c7c0b7c097c087c067c057c037c027c017bff7bfe7bfc7bfb7bf97bf87bf67bf57bf37bf27bf07bef7bed7bec7bea7be97be77be67be47be37be17be07bde7bdd7bdb7bda7bd97bd77bd67bd47bd37bd17bd07bce7bcd,
  0x7ec67ec57ec37ec27ec07ebf7ebd7ebc7eba7eb97eb77eb67eb47eb37eb17eb07eae7ead7eab7eaa7ea87ea77ea57ea47ea27ea17e9f7e9e7e9c7e9b7e997e987e967e957e937e927e907e8f7e8d7e8c7e8a7e897e877e867e847e837e817e807e7e7e7d7e7b7e7a7e787e777e757e747e727e717e6f7e6e7e6c7e6b7e697e687e667e657e637e627e607e5f7e5d7e5c7e5a7e597e577e567e547e537e517e507e4e7e4d7e4b7e4a7e487e477e457e447e427e417e3f7e3e7e3c7e3b7e397e387e367e357e337e327e307e2f7e2d7e2c7e2a7e297e277e267e247e237e217e207e1e7e1d7e1b7e1a7e187e177e157e147e127e117e0f7e0e7e0c7e0b7e097e087e067e057e037e027e007dff7dfd7dfc7dfa7df97df77df67df47df37df17df07dee7ded7deb7dea7de87de77de67de47de37de17de07dde7ddd7ddb7dda7dd87dd77dd57dd47dd27dd17dcf7dce7dcc7dcb7dc97dc87dc67dc57dc37dc27dc07dbf7dbd7dbc7dba7db97db77db67db47db37db17db07dae7dad7dab7daa7da87da77da57da47da27da17d9f7d9e7d9c7d9b7d997d987d967d957d937d927d907d8f7d8d7d8c7d8a7d897d877d867d847d837d827d807d7f7d7d7d7c7d7a7d797d777d767d747d737d717d707d6e7d6d7d6b7d6a7d687d677d657d647d627d617d5f7d5e7d5c7d5b7d597d587d567d557d537d527d507d4f7d4d7d4c7d4a7d49,
  0x804780468044804380418040803e803d803b803a803880378035803480328030802f802d802c802a8029802780268024802380218020801e801d801b801a801880178015801480128011800f800e800c800b80098008800680058003800280007fff7ffd7ffc7ffa7ff97ff77ff67ff47ff37ff17ff07fee7fed7feb7fea7fe87fe77fe57fe47fe27fe17fdf7fde7fdc7fdb7fd97fd87fd67fd57fd37fd27fd07fcf7fcd7fcb7fca7fc87fc77fc57fc47fc27fc17fbf7fbe7fbc7fbb7fb97fb87fb67fb57fb37fb27fb07faf7fad7fac7faa7fa97fa77fa67fa47fa37fa17fa07f9e7f9d7f9b7f9a7f987f977f957f947f927f917f8f7f8e7f8c7f8b7f897f887f867f857f837f827f807f7f7f7d7f7c7f7a7f797f777f767f747f737f717f707f6e7f6d7f6b7f6a7f687f677f657f647f627f617f5f7f5e7f5c7f5b7f597f587f567f557f537f527f507f4f7f4d7f4c7f4a7f497f477f467f447f437f417f407f3e7f3d7f3b7f3a7f387f377f357f347f327f317f2f7f2e7f2c7f2b7f297f287f267f257f237f227f207f1f7f1d7f1c7f1a7f197f177f167f147f137f117f107f0e7f0d7f0b7f0a7f087f077f057f047f027f017eff7efe7efc7efb7ef97ef87ef67ef57ef37ef27ef07eef7eed7eec7eea7ee97ee77ee67ee47ee37ee17ee07ede7edd7edb7eda7ed87ed77ed57ed47ed27ed17ecf7ece7ecc7ecb7ec97ec8,
  0x81cb81c981c881c681c581c381c281c081bf81bd81bc81ba81b881b781b581b481b281b181af81ae81ac81ab81a981a881a681a581a381a281a0819f819d819c819a8199819781968194819381918190818e818c818b8189818881868185818381828180817f817d817c817a8179817781768174817381718170816e816d816b816a816881678165816481628160815f815d815c815a8159815781568154815381518150814e814d814b814a814881478145814481428141813f813e813c813b8139813881368135813381328130812e812d812b812a812881278125812481228121811f811e811c811b8119811881168115811381128110810f810d810c810a810981078106810481038101810080fe80fc80fb80f980f880f680f580f380f280f080ef80ed80ec80ea80e980e780e680e480e380e180e080de80dd80db80da80d880d780d580d480d280d180cf80ce80cc80cb80c980c880c680c580c380c180c080be80bd80bb80ba80b880b780b580b480b280b180af80ae80ac80ab80a980a880a680a580a380a280a0809f809d809c809a8099809780968094809380918090808e808d808b808a808880878085808480828080807f807d807c807a8079807780768074807380718070806e806d806b806a806880678065806480628061805f805e805c805b8059805880568055805380528050804f804d804c804a8049,
  0x8351834f834e834c834b8349834883468345834383428340833e833d833b833a833883378335833483328331832f832e832c832b8329832883268324832383218320831e831d831b831a831883178315831483128311830f830e830c830b830983078306830483038301830082fe82fd82fb82fa82f882f782f582f482f282f182ef82ee82ec82ea82e982e782e682e482e382e182e082de82dd82db82da82d882d782d582d482d282d182cf82cd82cc82ca82c982c782c682c482c382c182c082be82bd82bb82ba82b882b782b582b482b282b082af82ad82ac82aa82a982a782a682a482a382a182a0829e829d829b829a829882978295829482928290828f828d828c828a8289828782868284828382818280827e827d827b827a827882778275827482728270826f826d826c826a8269826782668264826382618260825e825d825b825a825882578255825482528251824f824d824c824a8249824782468244824382418240823e823d823b823a823882378235823482328231822f822e822c822a8229822782268224822382218220821e821d821b821a821882178215821482128211820f820e820c820b820982078206820482038201820081fe81fd81fb81fa81f881f781f581f481f281f181ef81ee81ec81eb81e981e881e681e581e381e281e081de81dd81db81da81d881d781d581d481d281d181cf81ce81cc,
  0x84d984d884d684d584d384d284d084cf84cd84cc84ca84c884c784c584c484c284c184bf84be84bc84bb84b984b884b684b484b384b184b084ae84ad84ab84aa84a884a784a584a484a284a0849f849d849c849a8499849784968494849384918490848e848c848b8489848884868485848384828480847f847d847c847a847984778475847484728471846f846e846c846b8469846884668465846384618460845e845d845b845a845884578455845484528451844f844e844c844a8449844784468444844384418440843e843d843b843a843884378435843384328430842f842d842c842a842984278426842484238421841f841e841c841b8419841884168415841384128410840f840d840c840a84088407840584048402840183ff83fe83fc83fb83f983f883f683f583f383f183f083ee83ed83eb83ea83e883e783e583e483e283e183df83de83dc83db83d983d783d683d483d383d183d083ce83cd83cb83ca83c883c783c583c483c283c083bf83bd83bc83ba83b983b783b683b483b383b183b083ae83ad83ab83aa83a883a683a583a383a283a0839f839d839c839a839983978396839483938391838f838e838c838b8389838883868385838383828380837f837d837c837a837983778375837483728371836f836e836c836b8369836883668365836383628360835f835d835b835a83588357835583548352,
  0x8664866386618660865e865d865b865a865886568655865386528650864f864d864c864a864986478645864486428641863f863e863c863b8639863886368634863386318630862e862d862b862a862886278625862386228620861f861d861c861a861986178615861486128611860f860e860c860b860986088606860486038601860085fe85fd85fb85fa85f885f785f585f385f285f085ef85ed85ec85ea85e985e785e685e485e285e185df85de85dc85db85d985d885d685d585d385d285d085ce85cd85cb85ca85c885c785c585c485c285c185bf85bd85bc85ba85b985b785b685b485b385b185b085ae85ac85ab85a985a885a685a585a385a285a0859f859d859b859a859885978595859485928591858f858e858c858a8589858785868584858385818580857e857d857b857a857885768575857385728570856f856d856c856a856985678565856485628561855f855e855c855b8559855885568555855385518550854e854d854b854a854885478545854485428540853f853d853c853a8539853785368534853385318530852e852c852b8529852885268525852385228520851f851d851c851a851885178515851485128511850f850e850c850b850985088506850485038501850084fe84fd84fb84fa84f884f784f584f384f284f084ef84ed84ec84ea84e984e784e684e484e384e184df84de84dc84db,
  0x87f287f087ef87ed87ec87ea87e987e787e587e487e287e187df87de87dc87db87d987d787d687d487d387d187d087ce87cd87cb87c987c887c687c587c387c287c087bf87bd87bb87ba87b887b787b587b487b287b187af87ad87ac87aa87a987a787a687a487a387a1879f879e879c879b8799879887968795879387918790878e878d878b878a878887878785878387828780877f877d877c877a877987778775877487728771876f876e876c876b8769876787668764876387618760875e875d875b8759875887568755875387528750874f874d874b874a874887478745874487428741873f873d873c873a8739873787368734873387318730872e872c872b8729872887268725872387228720871e871d871b871a871887178715871487128710870f870d870c870a87098707870687048702870186ff86fe86fc86fb86f986f886f686f586f386f186f086ee86ed86eb86ea86e886e786e586e386e286e086df86dd86dc86da86d986d786d586d486d286d186cf86ce86cc86cb86c986c886c686c486c386c186c086be86bd86bb86ba86b886b686b586b386b286b086af86ad86ac86aa86a986a786a586a486a286a1869f869e869c869b8699869786968694869386918690868e868d868b868a868886868685868386828680867f867d867c867a867986778675867486728671866f866e866c866b866986678666,
  0x89828980897f897d897c897a897989778975897489728971896f896e896c896a896989678966896489638961895f895e895c895b8959895889568955895389518950894e894d894b894a894889468945894389428940893f893d893b893a893889378935893489328930892f892d892c892a892989278926892489228921891f891e891c891b8919891789168914891389118910890e890c890b890989088906890589038902890088fe88fd88fb88fa88f888f788f588f388f288f088ef88ed88ec88ea88e988e788e588e488e288e188df88de88dc88da88d988d788d688d488d388d188d088ce88cc88cb88c988c888c688c588c388c188c088be88bd88bb88ba88b888b688b588b388b288b088af88ad88ac88aa88a888a788a588a488a288a1889f889d889c889a889988978896889488938891888f888e888c888b8889888888868885888388818880887e887d887b887a887888768875887388728870886f886d886c886a886888678865886488628861885f885d885c885a885988578856885488538851884f884e884c884b8849884888468845884388418840883e883d883b883a883888368835883388328830882f882d882c882a882888278825882488228821881f881e881c881a8819881788168814881388118810880e880c880b880988088806880588038802880087fe87fd87fb87fa87f887f787f587f3,
  0x8b148b138b118b108b0e8b0d8b0b8b098b088b068b058b038b028b008afe8afd8afb8afa8af88af78af58af38af28af08aef8aed8aeb8aea8ae88ae78ae58ae48ae28ae08adf8add8adc8ada8ad98ad78ad58ad48ad28ad18acf8ace8acc8aca8ac98ac78ac68ac48ac38ac18abf8abe8abc8abb8ab98ab78ab68ab48ab38ab18ab08aae8aac8aab8aa98aa88aa68aa58aa38aa18aa08a9e8a9d8a9b8a9a8a988a968a958a938a928a908a8f8a8d8a8b8a8a8a888a878a858a848a828a808a7f8a7d8a7c8a7a8a798a778a758a748a728a718a6f8a6e8a6c8a6a8a698a678a668a648a628a618a5f8a5e8a5c8a5b8a598a578a568a548a538a518a508a4e8a4c8a4b8a498a488a468a458a438a418a408a3e8a3d8a3b8a3a8a388a368a358a338a328a308a2f8a2d8a2b8a2a8a288a278a258a248a228a208a1f8a1d8a1c8a1a8a198a178a158a148a128a118a0f8a0e8a0c8a0a8a098a078a068a048a038a0189ff89fe89fc89fb89f989f889f689f489f389f189f089ee89ed89eb89e989e889e689e589e389e289e089de89dd89db89da89d889d789d589d489d289d089cf89cd89cc89ca89c989c789c589c489c289c189bf89be89bc89ba89b989b789b689b489b389b189af89ae89ac89ab89a989a889a689a489a389a189a0899e899d899b8999899889968995899389928990898e898d898b898a8988898789858984,
  0x8ca98ca88ca68ca58ca38ca28ca08c9e8c9d8c9b8c9a8c988c968c958c938c928c908c8f8c8d8c8b8c8a8c888c878c858c838c828c808c7f8c7d8c7b8c7a8c788c778c758c748c728c708c6f8c6d8c6c8c6a8c688c678c658c648c628c618c5f8c5d8c5c8c5a8c598c578c558c548c528c518c4f8c4e8c4c8c4a8c498c478c468c448c428c418c3f8c3e8c3c8c3a8c398c378c368c348c338c318c2f8c2e8c2c8c2b8c298c278c268c248c238c218c208c1e8c1c8c1b8c198c188c168c148c138c118c108c0e8c0d8c0b8c098c088c068c058c038c018c008bfe8bfd8bfb8bfa8bf88bf68bf58bf38bf28bf08bee8bed8beb8bea8be88be78be58be38be28be08bdf8bdd8bdc8bda8bd88bd78bd58bd48bd28bd08bcf8bcd8bcc8bca8bc98bc78bc58bc48bc28bc18bbf8bbd8bbc8bba8bb98bb78bb68bb48bb28bb18baf8bae8bac8baa8ba98ba78ba68ba48ba38ba18b9f8b9e8b9c8b9b8b998b988b968b948b938b918b908b8e8b8c8b8b8b898b888b868b858b838b818b808b7e8b7d8b7b8b798b788b768b758b738b728b708b6e8b6d8b6b8b6a8b688b678b658b638b628b608b5f8b5d8b5b8b5a8b588b578b558b548b528b508b4f8b4d8b4c8b4a8b498b478b458b448b428b418b3f8b3d8b3c8b3a8b398b378b368b348b328b318b2f8b2e8b2c8b2b8b298b278b268b248b238b218b208b1e8b1c8b1b8b198b188b16,
  0x8e418e3f8e3e8e3c8e3b8e398e378e368e348e338e318e2f8e2e8e2c8e2b8e298e278e268e248e238e218e1f8e1e8e1c8e1b8e198e188e168e148e138e118e108e0e8e0c8e0b8e098e088e068e048e038e018e008dfe8dfc8dfb8df98df88df68df48df38df18df08dee8dec8deb8de98de88de68de48de38de18de08dde8ddc8ddb8dd98dd88dd68dd58dd38dd18dd08dce8dcd8dcb8dc98dc88dc68dc58dc38dc18dc08dbe8dbd8dbb8db98db88db68db58db38db18db08dae8dad8dab8da98da88da68da58da38da28da08d9e8d9d8d9b8d9a8d988d968d958d938d928d908d8e8d8d8d8b8d8a8d888d868d858d838d828d808d7e8d7d8d7b8d7a8d788d778d758d738d728d708d6f8d6d8d6b8d6a8d688d678d658d638d628d608d5f8d5d8d5b8d5a8d588d578d558d548d528d508d4f8d4d8d4c8d4a8d488d478d458d448d428d408d3f8d3d8d3c8d3a8d388d378d358d348d328d318d2f8d2d8d2c8d2a8d298d278d258d248d228d218d1f8d1d8d1c8d1a8d198d178d158d148d128d118d0f8d0e8d0c8d0a8d098d078d068d048d028d018cff8cfe8cfc8cfa8cf98cf78cf68cf48cf38cf18cef8cee8cec8ceb8ce98ce78ce68ce48ce38ce18cdf8cde8cdc8cdb8cd98cd88cd68cd48cd38cd18cd08cce8ccc8ccb8cc98cc88cc68cc48cc38cc18cc08cbe8cbd8cbb8cb98cb88cb68cb58cb38cb18cb08cae8cad8cab,
  0x8fdb8fd98fd88fd68fd58fd38fd18fd08fce8fcd8fcb8fc98fc88fc68fc58fc38fc18fc08fbe8fbd8fbb8fb98fb88fb68fb48fb38fb18fb08fae8fac8fab8fa98fa88fa68fa48fa38fa18fa08f9e8f9c8f9b8f998f988f968f948f938f918f908f8e8f8c8f8b8f898f888f868f848f838f818f808f7e8f7c8f7b8f798f788f768f748f738f718f6f8f6e8f6c8f6b8f698f678f668f648f638f618f5f8f5e8f5c8f5b8f598f578f568f548f538f518f4f8f4e8f4c8f4b8f498f478f468f448f438f418f3f8f3e8f3c8f3b8f398f378f368f348f338f318f2f8f2e8f2c8f2b8f298f278f268f248f238f218f1f8f1e8f1c8f1b8f198f178f168f148f138f118f0f8f0e8f0c8f0b8f098f078f068f048f028f018eff8efe8efc8efa8ef98ef78ef68ef48ef28ef18eef8eee8eec8eea8ee98ee78ee68ee48ee28ee18edf8ede8edc8eda8ed98ed78ed68ed48ed28ed18ecf8ece8ecc8eca8ec98ec78ec68ec48ec28ec18ebf8ebe8ebc8eba8eb98eb78eb68eb48eb28eb18eaf8eae8eac8eaa8ea98ea78ea68ea48ea28ea18e9f8e9e8e9c8e9a8e998e978e968e948e928e918e8f8e8e8e8c8e8a8e898e878e868e848e838e818e7f8e7e8e7c8e7b8e798e778e768e748e738e718e6f8e6e8e6c8e6b8e698e678e668e648e638e618e5f8e5e8e5c8e5b8e598e578e568e548e538e518e4f8e4e8e4c8e4b8e498e478e468e448e43,
  0x91789176917491739171916f916e916c916b916991679166916491639161915f915e915c915a915991579156915491529151914f914e914c914a914991479145914491429141913f913d913c913a913991379135913491329130912f912d912c912a912891279125912491229120911f911d911b911a911891179115911391129110910f910d910b910a91089107910591039102910090fe90fd90fb90fa90f890f690f590f390f290f090ee90ed90eb90e990e890e690e590e390e190e090de90dd90db90d990d890d690d590d390d190d090ce90cc90cb90c990c890c690c490c390c190c090be90bc90bb90b990b790b690b490b390b190af90ae90ac90ab90a990a790a690a490a390a1909f909e909c909a909990979096909490929091908f908e908c908a908990879086908490829081907f907d907c907a907990779075907490729071906f906d906c906a906990679065906490629061905f905d905c905a905890579055905490529050904f904d904c904a904890479045904490429040903f903d903b903a903890379035903390329030902f902d902b902a902890279025902390229020901f901d901b901a901890179015901390129010900e900d900b900a9008900690059003900290008ffe8ffd8ffb8ffa8ff88ff68ff58ff38ff28ff08fee8fed8feb8fe98fe88fe68fe58fe38fe18fe08fde8fdd,
  0x93179315931393129310930e930d930b930a93089306930593039301930092fe92fd92fb92f992f892f692f492f392f192f092ee92ec92eb92e992e792e692e492e392e192df92de92dc92da92d992d792d692d492d292d192cf92cd92cc92ca92c992c792c592c492c292c092bf92bd92bc92ba92b892b792b592b392b292b092af92ad92ab92aa92a892a692a592a392a292a0929e929d929b9299929892969295929392919290928e928d928b9289928892869284928392819280927e927c927b927992779276927492739271926f926e926c926a926992679266926492629261925f925d925c925a925992579255925492529250924f924d924c924a924892479245924492429240923f923d923b923a923892379235923392329230922e922d922b922a922892269225922392219220921e921d921b9219921892169215921392119210920e920c920b92099208920692049203920191ff91fe91fc91fb91f991f791f691f491f391f191ef91ee91ec91ea91e991e791e691e491e291e191df91dd91dc91da91d991d791d591d491d291d191cf91cd91cc91ca91c891c791c591c491c291c091bf91bd91bb91ba91b891b791b591b391b291b091af91ad91ab91aa91a891a691a591a391a291a0919e919d919b919a919891969195919391919190918e918d918b9189918891869184918391819180917e917c917b9179,
  0x94b894b794b594b394b294b094ae94ad94ab94a994a894a694a594a394a194a0949e949c949b949994979496949494939491948f948e948c948a948994879485948494829481947f947d947c947a947894779475947394729470946f946d946b946a946894669465946394619460945e945d945b9459945894569454945394519450944e944c944b944994479446944494429441943f943e943c943a943994379435943494329430942f942d942c942a942894279425942394229420941f941d941b941a941894169415941394119410940e940d940b940994089406940494039401940093fe93fc93fb93f993f793f693f493f293f193ef93ee93ec93ea93e993e793e593e493e293e193df93dd93dc93da93d893d793d593d393d293d093cf93cd93cb93ca93c893c693c593c393c293c093be93bd93bb93b993b893b693b593b393b193b093ae93ac93ab93a993a793a693a493a393a1939f939e939c939a939993979396939493929391938f938d938c938a938993879385938493829380937f937d937b937a937893779375937393729370936e936d936b936a936893669365936393619360935e935d935b9359935893569354935393519350934e934c934b934993479346934493439341933f933e933c933a933993379335933493329331932f932d932c932a932893279325932493229320931f931d931b931a9318,
  0x965c965b965996579656965496529651964f964d964c964a964896479645964496429640963f963d963b963a963896369635963396319630962e962c962b962996289626962496239621961f961e961c961a961996179615961496129611960f960d960c960a96089607960596039602960095fe95fd95fb95fa95f895f695f595f395f195f095ee95ec95eb95e995e795e695e495e395e195df95de95dc95da95d995d795d595d495d295d095cf95cd95cc95ca95c895c795c595c395c295c095be95bd95bb95b995b895b695b595b395b195b095ae95ac95ab95a995a795a695a495a295a1959f959e959c959a959995979595959495929590958f958d958b958a958895879585958395829580957e957d957b9579957895769575957395719570956e956c956b956995679566956495629561955f955e955c955a955995579555955495529550954f954d954c954a954895479545954395429540953e953d953b9539953895369535953395319530952e952c952b952995279526952495239521951f951e951c951a951995179515951495129511950f950d950c950a95089507950595039502950094ff94fd94fb94fa94f894f694f594f394f194f094ee94ed94eb94e994e894e694e494e394e194df94de94dc94db94d994d794d694d494d294d194cf94cd94cc94ca94c994c794c594c494c294c094bf94bd94bb94ba,
  0x9803980197ff97fe97fc97fa97f997f797f697f497f297f197ef97ed97ec97ea97e897e797e597e397e297e097de97dd97db97d997d897d697d497d397d197cf97ce97cc97cb97c997c797c697c497c297c197bf97bd97bc97ba97b897b797b597b397b297b097ae97ad97ab97a997a897a697a497a397a197a0979e979c979b979997979796979497929791978f978d978c978a978897879785978397829780977e977d977b9779977897769775977397719770976e976c976b976997679766976497629761975f975d975c975a975897579755975497529750974f974d974b974a974897469745974397419740973e973c973b973997379736973497329731972f972e972c972a972997279725972497229720971f971d971b971a971897169715971397119710970e970d970b97099708970697049703970196ff96fe96fc96fa96f996f796f596f496f296f096ef96ed96ec96ea96e896e796e596e396e296e096de96dd96db96d996d896d696d496d396d196cf96ce96cc96cb96c996c796c696c496c296c196bf96bd96bc96ba96b896b796b596b396b296b096af96ad96ab96aa96a896a696a596a396a196a0969e969c969b969996979696969496939691968f968e968c968a968996879685968496829680967f967d967b967a967896779675967396729670966e966d966b966996689666966496639661965f965e,
  0x99ac99aa99a999a799a599a499a299a0999f999d999b999a999899969995999399919990998e998c998b998999879986998499829981997f997d997c997a997899779975997399729970996e996d996b996999689966996499639961995f995e995c995a995999579955995499529950994f994d994b994a994899469945994399419940993e993c993b993999379936993499329931992f992d992c992a992899279925992399229920991e991d991b991999189916991499139911990f990e990c990b99099907990699049902990198ff98fd98fc98fa98f898f798f598f398f298f098ee98ed98eb98e998e898e698e498e398e198df98de98dc98da98d998d798d598d498d298d098cf98cd98cb98ca98c898c698c598c398c198c098be98bc98bb98b998b798b698b498b298b198af98ae98ac98aa98a998a798a598a498a298a0989f989d989b989a989898969895989398919890988e988c988b988998879886988498829881987f987d987c987a987898779875987398729870986e986d986b9869986898669865986398619860985e985c985b985998579856985498529851984f984d984c984a984898479845984398429840983e983d983b983998389836983498339831982f982e982c982b982998279826982498229821981f981d981c981a981898179815981398129810980e980d980b9809980898069804,
  0x9b579b569b549b529b519b4f9b4d9b4c9b4a9b489b479b459b439b429b409b3e9b3d9b3b9b399b389b369b349b339b319b2f9b2e9b2c9b2a9b299b279b259b249b229b209b1f9b1d9b1b9b1a9b189b169b149b139b119b0f9b0e9b0c9b0a9b099b079b059b049b029b009aff9afd9afb9afa9af89af69af59af39af19af09aee9aec9aeb9ae99ae79ae69ae49ae29ae19adf9add9adc9ada9ad89ad79ad59ad39ad29ad09ace9acd9acb9ac99ac89ac69ac49ac39ac19abf9abe9abc9aba9ab99ab79ab59ab39ab29ab09aae9aad9aab9aa99aa89aa69aa49aa39aa19a9f9a9e9a9c9a9a9a999a979a959a949a929a909a8f9a8d9a8b9a8a9a889a869a859a839a819a809a7e9a7c9a7b9a799a779a769a749a729a719a6f9a6d9a6c9a6a9a689a679a659a639a629a609a5e9a5d9a5b9a599a589a569a549a539a519a4f9a4e9a4c9a4a9a499a479a459a449a429a409a3f9a3d9a3b9a3a9a389a369a359a339a319a309a2e9a2c9a2b9a299a279a269a249a229a219a1f9a1d9a1c9a1a9a189a179a159a139a129a109a0e9a0d9a0b9a099a089a069a049a039a0199ff99fe99fc99fa99f999f799f599f499f299f099ef99ed99eb99ea99e899e699e599e399e199e099de99dc99db99d999d799d699d499d299d199cf99cd99cc99ca99c899c799c599c399c299c099be99bd99bb99b999b899b699b499b399b199af99ae,
  0x9d069d049d029d019cff9cfd9cfc9cfa9cf89cf69cf59cf39cf19cf09cee9cec9ceb9ce99ce79ce69ce49ce29ce19cdf9cdd9cdb9cda9cd89cd69cd59cd39cd19cd09cce9ccc9ccb9cc99cc79cc69cc49cc29cc19cbf9cbd9cbc9cba9cb89cb69cb59cb39cb19cb09cae9cac9cab9ca99ca79ca69ca49ca29ca19c9f9c9d9c9c9c9a9c989c969c959c939c919c909c8e9c8c9c8b9c899c879c869c849c829c819c7f9c7d9c7c9c7a9c789c779c759c739c719c709c6e9c6c9c6b9c699c679c669c649c629c619c5f9c5d9c5c9c5a9c589c579c559c539c529c509c4e9c4c9c4b9c499c479c469c449c429c419c3f9c3d9c3c9c3a9c389c379c359c339c329c309c2e9c2d9c2b9c299c289c269c249c229c219c1f9c1d9c1c9c1a9c189c179c159c139c129c109c0e9c0d9c0b9c099c089c069c049c039c019bff9bfe9bfc9bfa9bf89bf79bf59bf39bf29bf09bee9bed9beb9be99be89be69be49be39be19bdf9bde9bdc9bda9bd99bd79bd59bd49bd29bd09bcf9bcd9bcb9bc99bc89bc69bc49bc39bc19bbf9bbe9bbc9bba9bb99bb79bb59bb49bb29bb09baf9bad9bab9baa9ba89ba69ba59ba39ba19ba09b9e9b9c9b9b9b999b979b959b949b929b909b8f9b8d9b8b9b8a9b889b869b859b839b819b809b7e9b7c9b7b9b799b779b769b749b729b719b6f9b6d9b6c9b6a9b689b679b659b639b629b609b5e9b5d9b5b9b59,
  0x9eb69eb59eb39eb19eaf9eae9eac9eaa9ea99ea79ea59ea49ea29ea09e9f9e9d9e9b9e999e989e969e949e939e919e8f9e8e9e8c9e8a9e899e879e859e839e829e809e7e9e7d9e7b9e799e789e769e749e739e719e6f9e6d9e6c9e6a9e689e679e659e639e629e609e5e9e5c9e5b9e599e579e569e549e529e519e4f9e4d9e4c9e4a9e489e469e459e439e419e409e3e9e3c9e3b9e399e379e369e349e329e309e2f9e2d9e2b9e2a9e289e269e259e239e219e209e1e9e1c9e1a9e199e179e159e149e129e109e0f9e0d9e0b9e0a9e089e069e059e039e019dff9dfe9dfc9dfa9df99df79df59df49df29df09def9ded9deb9de99de89de69de49de39de19ddf9dde9ddc9dda9dd99dd79dd59dd39dd29dd09dce9dcd9dcb9dc99dc89dc69dc49dc39dc19dbf9dbe9dbc9dba9db89db79db59db39db29db09dae9dad9dab9da99da89da69da49da29da19d9f9d9d9d9c9d9a9d989d979d959d939d929d909d8e9d8d9d8b9d899d879d869d849d829d819d7f9d7d9d7c9d7a9d789d779d759d739d729d709d6e9d6c9d6b9d699d679d669d649d629d619d5f9d5d9d5c9d5a9d589d579d559d539d519d509d4e9d4c9d4b9d499d479d469d449d429d419d3f9d3d9d3c9d3a9d389d369d359d339d319d309d2e9d2c9d2b9d299d279d269d249d229d219d1f9d1d9d1c9d1a9d189d169d159d139d119d109d0e9d0c9d0b9d099d07,
  0xa069a068a066a064a063a061a05fa05ea05ca05aa058a057a055a053a052a050a04ea04ca04ba049a047a046a044a042a041a03fa03da03ba03aa038a036a035a033a031a030a02ea02ca02aa029a027a025a024a022a020a01ea01da01ba019a018a016a014a013a011a00fa00da00ca00aa008a007a005a003a002a0009ffe9ffc9ffb9ff99ff79ff69ff49ff29ff19fef9fed9feb9fea9fe89fe69fe59fe39fe19fdf9fde9fdc9fda9fd99fd79fd59fd49fd29fd09fce9fcd9fcb9fc99fc89fc69fc49fc39fc19fbf9fbd9fbc9fba9fb89fb79fb59fb39fb29fb09fae9fac9fab9fa99fa79fa69fa49fa29fa19f9f9f9d9f9b9f9a9f989f969f959f939f919f909f8e9f8c9f8a9f899f879f859f849f829f809f7f9f7d9f7b9f799f789f769f749f739f719f6f9f6e9f6c9f6a9f689f679f659f639f629f609f5e9f5d9f5b9f599f579f569f549f529f519f4f9f4d9f4c9f4a9f489f469f459f439f419f409f3e9f3c9f3b9f399f379f369f349f329f309f2f9f2d9f2b9f2a9f289f269f259f239f219f1f9f1e9f1c9f1a9f199f179f159f149f129f109f0e9f0d9f0b9f099f089f069f049f039f019eff9efd9efc9efa9ef89ef79ef59ef39ef29ef09eee9eed9eeb9ee99ee79ee69ee49ee29ee19edf9edd9edc9eda9ed89ed69ed59ed39ed19ed09ece9ecc9ecb9ec99ec79ec69ec49ec29ec09ebf9ebd9ebb9eba9eb8,
  0xa21fa21da21ca21aa218a217a215a213a211a210a20ea20ca20ba209a207a205a204a202a200a1ffa1fda1fba1f9a1f8a1f6a1f4a1f3a1f1a1efa1eda1eca1eaa1e8a1e7a1e5a1e3a1e1a1e0a1dea1dca1dba1d9a1d7a1d5a1d4a1d2a1d0a1cfa1cda1cba1c9a1c8a1c6a1c4a1c3a1c1a1bfa1bea1bca1baa1b8a1b7a1b5a1b3a1b2a1b0a1aea1aca1aba1a9a1a7a1a6a1a4a1a2a1a0a19fa19da19ba19aa198a196a194a193a191a18fa18ea18ca18aa188a187a185a183a182a180a17ea17ca17ba179a177a176a174a172a170a16fa16da16ba16aa168a166a165a163a161a15fa15ea15ca15aa159a157a155a153a152a150a14ea14da14ba149a147a146a144a142a141a13fa13da13ba13aa138a136a135a133a131a12fa12ea12ca12aa129a127a125a124a122a120a11ea11da11ba119a118a116a114a112a111a10fa10da10ca10aa108a106a105a103a101a100a0fea0fca0fba0f9a0f7a0f5a0f4a0f2a0f0a0efa0eda0eba0e9a0e8a0e6a0e4a0e3a0e1a0dfa0dda0dca0daa0d8a0d7a0d5a0d3a0d2a0d0a0cea0cca0cba0c9a0c7a0c6a0c4a0c2a0c0a0bfa0bda0bba0baa0b8a0b6a0b5a0b3a0b1a0afa0aea0aca0aaa0a9a0a7a0a5a0a3a0a2a0a0a09ea09da09ba099a098a096a094a092a091a08fa08da08ca08aa088a086a085a083a081a080a07ea07ca07ba079a077a075a074a072a070a06fa06da06b,
  0xa3d7a3d6a3d4a3d2a3d1a3cfa3cda3cba3caa3c8a3c6a3c4a3c3a3c1a3bfa3bea3bca3baa3b8a3b7a3b5a3b3a3b1a3b0a3aea3aca3aba3a9a3a7a3a5a3a4a3a2a3a0a39fa39da39ba399a398a396a394a392a391a38fa38da38ca38aa388a386a385a383a381a380a37ea37ca37aa379a377a375a373a372a370a36ea36da36ba369a367a366a364a362a361a35fa35da35ba35aa358a356a354a353a351a34fa34ea34ca34aa348a347a345a343a342a340a33ea33ca33ba339a337a335a334a332a330a32fa32da32ba329a328a326a324a323a321a31fa31da31ca31aa318a317a315a313a311a310a30ea30ca30aa309a307a305a304a302a300a2fea2fda2fba2f9a2f8a2f6a2f4a2f2a2f1a2efa2eda2eca2eaa2e8a2e6a2e5a2e3a2e1a2dfa2dea2dca2daa2d9a2d7a2d5a2d3a2d2a2d0a2cea2cda2cba2c9a2c7a2c6a2c4a2c2a2c1a2bfa2bda2bba2baa2b8a2b6a2b5a2b3a2b1a2afa2aea2aca2aaa2a8a2a7a2a5a2a3a2a2a2a0a29ea29ca29ba299a297a296a294a292a290a28fa28da28ba28aa288a286a284a283a281a27fa27ea27ca27aa278a277a275a273a272a270a26ea26ca26ba269a267a266a264a262a260a25fa25da25ba25aa258a256a254a253a251a24fa24da24ca24aa248a247a245a243a241a240a23ea23ca23ba239a237a235a234a232a230a22fa22da22ba229a228a226a224a223a221,
  0xa592a590a58fa58da58ba58aa588a586a584a583a581a57fa57da57ca57aa578a576a575a573a571a570a56ea56ca56aa569a567a565a563a562a560a55ea55ca55ba559a557a556a554a552a550a54fa54da54ba549a548a546a544a542a541a53fa53da53ca53aa538a536a535a533a531a52fa52ea52ca52aa528a527a525a523a522a520a51ea51ca51ba519a517a515a514a512a510a50fa50da50ba509a508a506a504a502a501a4ffa4fda4fba4faa4f8a4f6a4f5a4f3a4f1a4efa4eea4eca4eaa4e8a4e7a4e5a4e3a4e1a4e0a4dea4dca4dba4d9a4d7a4d5a4d4a4d2a4d0a4cea4cda4cba4c9a4c8a4c6a4c4a4c2a4c1a4bfa4bda4bba4baa4b8a4b6a4b5a4b3a4b1a4afa4aea4aca4aaa4a8a4a7a4a5a4a3a4a1a4a0a49ea49ca49ba499a497a495a494a492a490a48ea48da48ba489a488a486a484a482a481a47fa47da47ba47aa478a476a475a473a471a46fa46ea46ca46aa468a467a465a463a462a460a45ea45ca45ba459a457a455a454a452a450a44fa44da44ba449a448a446a444a442a441a43fa43da43ca43aa438a436a435a433a431a42fa42ea42ca42aa429a427a425a423a422a420a41ea41ca41ba419a417a416a414a412a410a40fa40da40ba409a408a406a404a403a401a3ffa3fda3fca3faa3f8a3f6a3f5a3f3a3f1a3f0a3eea3eca3eaa3e9a3e7a3e5a3e4a3e2a3e0a3dea3dda3dba3d9,
  0xa750a74ea74ca74aa749a747a745a743a742a740a73ea73ca73ba739a737a735a734a732a730a72ea72da72ba729a727a726a724a722a720a71fa71da71ba719a718a716a714a713a711a70fa70da70ca70aa708a706a705a703a701a6ffa6fea6fca6faa6f8a6f7a6f5a6f3a6f1a6f0a6eea6eca6eaa6e9a6e7a6e5a6e3a6e2a6e0a6dea6dca6dba6d9a6d7a6d6a6d4a6d2a6d0a6cfa6cda6cba6c9a6c8a6c6a6c4a6c2a6c1a6bfa6bda6bba6baa6b8a6b6a6b4a6b3a6b1a6afa6ada6aca6aaa6a8a6a7a6a5a6a3a6a1a6a0a69ea69ca69aa699a697a695a693a692a690a68ea68ca68ba689a687a685a684a682a680a67ea67da67ba679a678a676a674a672a671a66fa66da66ba66aa668a666a664a663a661a65fa65da65ca65aa658a656a655a653a651a650a64ea64ca64aa649a647a645a643a642a640a63ea63ca63ba639a637a635a634a632a630a62ea62da62ba629a628a626a624a622a621a61fa61da61ba61aa618a616a614a613a611a60fa60da60ca60aa608a607a605a603a601a600a5fea5fca5faa5f9a5f7a5f5a5f3a5f2a5f0a5eea5eca5eba5e9a5e7a5e6a5e4a5e2a5e0a5dfa5dda5dba5d9a5d8a5d6a5d4a5d2a5d1a5cfa5cda5cba5caa5c8a5c6a5c5a5c3a5c1a5bfa5bea5bca5baa5b8a5b7a5b5a5b3a5b1a5b0a5aea5aca5aba5a9a5a7a5a5a5a4a5a2a5a0a59ea59da59ba599a597a596a594,
  0xa90fa90ea90ca90aa908a907a905a903a901a900a8fea8fca8faa8f9a8f7a8f5a8f3a8f2a8f0a8eea8eca8eba8e9a8e7a8e5a8e4a8e2a8e0a8dea8dda8dba8d9a8d7a8d6a8d4a8d2a8d0a8cfa8cda8cba8c9a8c8a8c6a8c4a8c2a8c0a8bfa8bda8bba8b9a8b8a8b6a8b4a8b2a8b1a8afa8ada8aba8aaa8a8a8a6a8a4a8a3a8a1a89fa89da89ca89aa898a896a895a893a891a88fa88ea88ca88aa888a887a885a883a881a880a87ea87ca87aa879a877a875a873a872a870a86ea86ca86ba869a867a865a864a862a860a85ea85da85ba859a857a856a854a852a850a84fa84da84ba849a848a846a844a842a841a83fa83da83ba83aa838a836a834a833a831a82fa82da82ca82aa828a826a825a823a821a81fa81ea81ca81aa818a817a815a813a811a810a80ea80ca80aa809a807a805a803a802a800a7fea7fca7fba7f9a7f7a7f5a7f4a7f2a7f0a7eea7eda7eba7e9a7e7a7e6a7e4a7e2a7e0a7dfa7dda7dba7d9a7d8a7d6a7d4a7d2a7d1a7cfa7cda7cba7caa7c8a7c6a7c5a7c3a7c1a7bfa7bea7bca7baa7b8a7b7a7b5a7b3a7b1a7b0a7aea7aca7aaa7a9a7a7a7a5a7a3a7a2a7a0a79ea79ca79ba799a797a795a794a792a790a78ea78da78ba789a787a786a784a782a780a77fa77da77ba779a778a776a774a772a771a76fa76da76ba76aa768a766a764a763a761a75fa75da75ca75aa758a757a755a753a751,
  0xaad2aad0aaceaacdaacbaac9aac7aac5aac4aac2aac0aabeaabdaabbaab9aab7aab6aab4aab2aab0aaafaaadaaabaaa9aaa7aaa6aaa4aaa2aaa0aa9faa9daa9baa99aa98aa96aa94aa92aa91aa8faa8daa8baa8aaa88aa86aa84aa82aa81aa7faa7daa7baa7aaa78aa76aa74aa73aa71aa6faa6daa6caa6aaa68aa66aa64aa63aa61aa5faa5daa5caa5aaa58aa56aa55aa53aa51aa4faa4eaa4caa4aaa48aa47aa45aa43aa41aa40aa3eaa3caa3aaa38aa37aa35aa33aa31aa30aa2eaa2caa2aaa29aa27aa25aa23aa22aa20aa1eaa1caa1baa19aa17aa15aa13aa12aa10aa0eaa0caa0baa09aa07aa05aa04aa02aa00a9fea9fda9fba9f9a9f7a9f6a9f4a9f2a9f0a9efa9eda9eba9e9a9e7a9e6a9e4a9e2a9e0a9dfa9dda9dba9d9a9d8a9d6a9d4a9d2a9d1a9cfa9cda9cba9caa9c8a9c6a9c4a9c3a9c1a9bfa9bda9bca9baa9b8a9b6a9b4a9b3a9b1a9afa9ada9aca9aaa9a8a9a6a9a5a9a3a9a1a99fa99ea99ca99aa998a997a995a993a991a990a98ea98ca98aa989a987a985a983a982a980a97ea97ca97aa979a977a975a973a972a970a96ea96ca96ba969a967a965a964a962a960a95ea95da95ba959a957a956a954a952a950a94fa94da94ba949a948a946a944a942a941a93fa93da93ba93aa938a936a934a932a931a92fa92da92ba92aa928a926a924a923a921a91fa91da91ca91aa918a916a915a913a911,
  0xac97ac95ac93ac91ac90ac8eac8cac8aac89ac87ac85ac83ac81ac80ac7eac7cac7aac79ac77ac75ac73ac72ac70ac6eac6cac6aac69ac67ac65ac63ac62ac60ac5eac5cac5aac59ac57ac55ac53ac52ac50ac4eac4cac4bac49ac47ac45ac43ac42ac40ac3eac3cac3bac39ac37ac35ac33ac32ac30ac2eac2cac2bac29ac27ac25ac24ac22ac20ac1eac1cac1bac19ac17ac15ac14ac12ac10ac0eac0cac0bac09ac07ac05ac04ac02ac00abfeabfdabfbabf9abf7abf5abf4abf2abf0abeeabedabebabe9abe7abe6abe4abe2abe0abdeabddabdbabd9abd7abd6abd4abd2abd0abcfabcdabcbabc9abc7abc6abc4abc2abc0abbfabbdabbbabb9abb8abb6abb4abb2abb0abafabadabababa9aba8aba6aba4aba2aba1ab9fab9dab9bab99ab98ab96ab94ab92ab91ab8fab8dab8bab8aab88ab86ab84ab82ab81ab7fab7dab7bab7aab78ab76ab74ab73ab71ab6fab6dab6bab6aab68ab66ab64ab63ab61ab5fab5dab5cab5aab58ab56ab54ab53ab51ab4fab4dab4cab4aab48ab46ab45ab43ab41ab3fab3eab3cab3aab38ab36ab35ab33ab31ab2fab2eab2cab2aab28ab27ab25ab23ab21ab1fab1eab1cab1aab18ab17ab15ab13ab11ab10ab0eab0cab0aab09ab07ab05ab03ab01ab00aafeaafcaafaaaf9aaf7aaf5aaf3aaf2aaf0aaeeaaecaaebaae9aae7aae5aae3aae2aae0aadeaadcaadbaad9aad7aad5aad4,
  0xae5eae5cae5bae59ae57ae55ae54ae52ae50ae4eae4cae4bae49ae47ae45ae43ae42ae40ae3eae3cae3bae39ae37ae35ae33ae32ae30ae2eae2cae2bae29ae27ae25ae23ae22ae20ae1eae1cae1aae19ae17ae15ae13ae12ae10ae0eae0cae0aae09ae07ae05ae03ae02ae00adfeadfcadfaadf9adf7adf5adf3adf1adf0adeeadecadeaade9ade7ade5ade3ade1ade0addeaddcaddaadd9add7add5add3add1add0adceadccadcaadc9adc7adc5adc3adc1adc0adbeadbcadbaadb8adb7adb5adb3adb1adb0adaeadacadaaada8ada7ada5ada3ada1ada0ad9ead9cad9aad98ad97ad95ad93ad91ad90ad8ead8cad8aad88ad87ad85ad83ad81ad80ad7ead7cad7aad78ad77ad75ad73ad71ad70ad6ead6cad6aad68ad67ad65ad63ad61ad60ad5ead5cad5aad58ad57ad55ad53ad51ad4fad4ead4cad4aad48ad47ad45ad43ad41ad3fad3ead3cad3aad38ad37ad35ad33ad31ad2fad2ead2cad2aad28ad27ad25ad23ad21ad1fad1ead1cad1aad18ad17ad15ad13ad11ad10ad0ead0cad0aad08ad07ad05ad03ad01ad00acfeacfcacfaacf8acf7acf5acf3acf1acf0aceeacecaceaace8ace7ace5ace3ace1ace0acdeacdcacdaacd8acd7acd5acd3acd1acd0acceacccaccaacc8acc7acc5acc3acc1acc0acbeacbcacbaacb8acb7acb5acb3acb1acb0acaeacacacaaaca9aca7aca5aca3aca1aca0ac9eac9cac9aac99,
  0xb028b027b025b023b021b01fb01eb01cb01ab018b016b015b013b011b00fb00db00cb00ab008b006b004b003b001afffaffdaffbaffaaff8aff6aff4aff2aff1afefafedafebafeaafe8afe6afe4afe2afe1afdfafddafdbafd9afd8afd6afd4afd2afd0afcfafcdafcbafc9afc7afc6afc4afc2afc0afbfafbdafbbafb9afb7afb6afb4afb2afb0afaeafadafabafa9afa7afa5afa4afa2afa0af9eaf9caf9baf99af97af95af94af92af90af8eaf8caf8baf89af87af85af83af82af80af7eaf7caf7aaf79af77af75af73af71af70af6eaf6caf6aaf69af67af65af63af61af60af5eaf5caf5aaf58af57af55af53af51af4faf4eaf4caf4aaf48af47af45af43af41af3faf3eaf3caf3aaf38af36af35af33af31af2faf2daf2caf2aaf28af26af25af23af21af1faf1daf1caf1aaf18af16af14af13af11af0faf0daf0caf0aaf08af06af04af03af01aeffaefdaefbaefaaef8aef6aef4aef2aef1aeefaeedaeebaeeaaee8aee6aee4aee2aee1aedfaeddaedbaed9aed8aed6aed4aed2aed1aecfaecdaecbaec9aec8aec6aec4aec2aec0aebfaebdaebbaeb9aeb8aeb6aeb4aeb2aeb0aeafaeadaeabaea9aea7aea6aea4aea2aea0ae9fae9dae9bae99ae97ae96ae94ae92ae90ae8eae8dae8bae89ae87ae86ae84ae82ae80ae7eae7dae7bae79ae77ae75ae74ae72ae70ae6eae6dae6bae69ae67ae65ae64ae62ae60,
  0xb1f5b1f3b1f1b1efb1eeb1ecb1eab1e8b1e6b1e5b1e3b1e1b1dfb1ddb1dcb1dab1d8b1d6b1d4b1d3b1d1b1cfb1cdb1cbb1cab1c8b1c6b1c4b1c2b1c1b1bfb1bdb1bbb1b9b1b8b1b6b1b4b1b2b1b0b1afb1adb1abb1a9b1a7b1a6b1a4b1a2b1a0b19eb19db19bb199b197b195b194b192b190b18eb18cb18bb189b187b185b183b182b180b17eb17cb17ab179b177b175b173b171b170b16eb16cb16ab168b166b165b163b161b15fb15db15cb15ab158b156b154b153b151b14fb14db14bb14ab148b146b144b142b141b13fb13db13bb139b138b136b134b132b130b12fb12db12bb129b127b126b124b122b120b11eb11db11bb119b117b115b114b112b110b10eb10cb10bb109b107b105b103b102b100b0feb0fcb0fab0f9b0f7b0f5b0f3b0f1b0f0b0eeb0ecb0eab0e9b0e7b0e5b0e3b0e1b0e0b0deb0dcb0dab0d8b0d7b0d5b0d3b0d1b0cfb0ceb0ccb0cab0c8b0c6b0c5b0c3b0c1b0bfb0bdb0bcb0bab0b8b0b6b0b4b0b3b0b1b0afb0adb0abb0aab0a8b0a6b0a4b0a2b0a1b09fb09db09bb099b098b096b094b092b090b08fb08db08bb089b087b086b084b082b080b07eb07db07bb079b077b075b074b072b070b06eb06db06bb069b067b065b064b062b060b05eb05cb05bb059b057b055b053b052b050b04eb04cb04ab049b047b045b043b041b040b03eb03cb03ab038b037b035b033b031b02fb02eb02cb02a,
  0xb3c4b3c2b3c0b3bfb3bdb3bbb3b9b3b7b3b6b3b4b3b2b3b0b3aeb3acb3abb3a9b3a7b3a5b3a3b3a2b3a0b39eb39cb39ab399b397b395b393b391b38fb38eb38cb38ab388b386b385b383b381b37fb37db37cb37ab378b376b374b372b371b36fb36db36bb369b368b366b364b362b360b35fb35db35bb359b357b355b354b352b350b34eb34cb34bb349b347b345b343b342b340b33eb33cb33ab338b337b335b333b331b32fb32eb32cb32ab328b326b325b323b321b31fb31db31cb31ab318b316b314b312b311b30fb30db30bb309b308b306b304b302b300b2ffb2fdb2fbb2f9b2f7b2f5b2f4b2f2b2f0b2eeb2ecb2ebb2e9b2e7b2e5b2e3b2e2b2e0b2deb2dcb2dab2d9b2d7b2d5b2d3b2d1b2cfb2ceb2ccb2cab2c8b2c6b2c5b2c3b2c1b2bfb2bdb2bcb2bab2b8b2b6b2b4b2b3b2b1b2afb2adb2abb2aab2a8b2a6b2a4b2a2b2a0b29fb29db29bb299b297b296b294b292b290b28eb28db28bb289b287b285b284b282b280b27eb27cb27bb279b277b275b273b271b270b26eb26cb26ab268b267b265b263b261b25fb25eb25cb25ab258b256b255b253b251b24fb24db24cb24ab248b246b244b243b241b23fb23db23bb239b238b236b234b232b230b22fb22db22bb229b227b226b224b222b220b21eb21db21bb219b217b215b214b212b210b20eb20cb20bb209b207b205b203b202b200b1feb1fcb1fab1f9b1f7,
  0xb596b594b592b590b58eb58db58bb589b587b585b584b582b580b57eb57cb57ab579b577b575b573b571b56fb56eb56cb56ab568b566b565b563b561b55fb55db55bb55ab558b556b554b552b550b54fb54db54bb549b547b546b544b542b540b53eb53cb53bb539b537b535b533b531b530b52eb52cb52ab528b527b525b523b521b51fb51db51cb51ab518b516b514b513b511b50fb50db50bb509b508b506b504b502b500b4feb4fdb4fbb4f9b4f7b4f5b4f4b4f2b4f0b4eeb4ecb4eab4e9b4e7b4e5b4e3b4e1b4e0b4deb4dcb4dab4d8b4d6b4d5b4d3b4d1b4cfb4cdb4ccb4cab4c8b4c6b4c4b4c2b4c1b4bfb4bdb4bbb4b9b4b8b4b6b4b4b4b2b4b0b4aeb4adb4abb4a9b4a7b4a5b4a3b4a2b4a0b49eb49cb49ab499b497b495b493b491b48fb48eb48cb48ab488b486b485b483b481b47fb47db47bb47ab478b476b474b472b471b46fb46db46bb469b467b466b464b462b460b45eb45db45bb459b457b455b453b452b450b44eb44cb44ab449b447b445b443b441b440b43eb43cb43ab438b436b435b433b431b42fb42db42cb42ab428b426b424b422b421b41fb41db41bb419b418b416b414b412b410b40eb40db40bb409b407b405b404b402b400b3feb3fcb3fab3f9b3f7b3f5b3f3b3f1b3f0b3eeb3ecb3eab3e8b3e7b3e5b3e3b3e1b3dfb3ddb3dcb3dab3d8b3d6b3d4b3d3b3d1b3cfb3cdb3cbb3c9b3c8b3c6,
  0xb76ab768b766b765b763b761b75fb75db75bb75ab758b756b754b752b750b74fb74db74bb749b747b745b744b742b740b73eb73cb73ab739b737b735b733b731b72fb72eb72cb72ab728b726b724b723b721b71fb71db71bb719b718b716b714b712b710b70eb70db70bb709b707b705b703b702b700b6feb6fcb6fab6f8b6f7b6f5b6f3b6f1b6efb6edb6ecb6eab6e8b6e6b6e4b6e2b6e1b6dfb6ddb6dbb6d9b6d7b6d6b6d4b6d2b6d0b6ceb6ccb6cbb6c9b6c7b6c5b6c3b6c1b6c0b6beb6bcb6bab6b8b6b6b6b5b6b3b6b1b6afb6adb6abb6aab6a8b6a6b6a4b6a2b6a1b69fb69db69bb699b697b696b694b692b690b68eb68cb68bb689b687b685b683b681b680b67eb67cb67ab678b676b675b673b671b66fb66db66bb66ab668b666b664b662b660b65fb65db65bb659b657b656b654b652b650b64eb64cb64bb649b647b645b643b641b640b63eb63cb63ab638b636b635b633b631b62fb62db62bb62ab628b626b624b622b621b61fb61db61bb619b617b616b614b612b610b60eb60cb60bb609b607b605b603b601b600b5feb5fcb5fab5f8b5f6b5f5b5f3b5f1b5efb5edb5ecb5eab5e8b5e6b5e4b5e2b5e1b5dfb5ddb5dbb5d9b5d7b5d6b5d4b5d2b5d0b5ceb5cdb5cbb5c9b5c7b5c5b5c3b5c2b5c0b5beb5bcb5bab5b8b5b7b5b5b5b3b5b1b5afb5adb5acb5aab5a8b5a6b5a4b5a3b5a1b59fb59db59bb599b598,
  0xb941b93fb93db93bb939b938b936b934b932b930b92eb92db92bb929b927b925b923b922b920b91eb91cb91ab918b916b915b913b911b90fb90db90bb90ab908b906b904b902b900b8feb8fdb8fbb8f9b8f7b8f5b8f3b8f2b8f0b8eeb8ecb8eab8e8b8e7b8e5b8e3b8e1b8dfb8ddb8dbb8dab8d8b8d6b8d4b8d2b8d0b8cfb8cdb8cbb8c9b8c7b8c5b8c4b8c2b8c0b8beb8bcb8bab8b9b8b7b8b5b8b3b8b1b8afb8adb8acb8aab8a8b8a6b8a4b8a2b8a1b89fb89db89bb899b897b896b894b892b890b88eb88cb88ab889b887b885b883b881b87fb87eb87cb87ab878b876b874b873b871b86fb86db86bb869b868b866b864b862b860b85eb85cb85bb859b857b855b853b851b850b84eb84cb84ab848b846b845b843b841b83fb83db83bb83ab838b836b834b832b830b82fb82db82bb829b827b825b823b822b820b81eb81cb81ab818b817b815b813b811b80fb80db80cb80ab808b806b804b802b801b7ffb7fdb7fbb7f9b7f7b7f6b7f4b7f2b7f0b7eeb7ecb7ebb7e9b7e7b7e5b7e3b7e1b7dfb7deb7dcb7dab7d8b7d6b7d4b7d3b7d1b7cfb7cdb7cbb7c9b7c8b7c6b7c4b7c2b7c0b7beb7bdb7bbb7b9b7b7b7b5b7b3b7b2b7b0b7aeb7acb7aab7a8b7a7b7a5b7a3b7a1b79fb79db79cb79ab798b796b794b792b791b78fb78db78bb789b787b786b784b782b780b77eb77cb77bb779b777b775b773b771b770b76eb76c,
  0xbb1abb18bb17bb15bb13bb11bb0fbb0dbb0bbb0abb08bb06bb04bb02bb00bafebafdbafbbaf9baf7baf5baf3baf1baf0baeebaecbaeabae8bae6bae5bae3bae1badfbaddbadbbad9bad8bad6bad4bad2bad0bacebaccbacbbac9bac7bac5bac3bac1babfbabebabcbababab8bab6bab4bab2bab1baafbaadbaabbaa9baa7baa6baa4baa2baa0ba9eba9cba9aba99ba97ba95ba93ba91ba8fba8dba8cba8aba88ba86ba84ba82ba80ba7fba7dba7bba79ba77ba75ba74ba72ba70ba6eba6cba6aba68ba67ba65ba63ba61ba5fba5dba5bba5aba58ba56ba54ba52ba50ba4fba4dba4bba49ba47ba45ba43ba42ba40ba3eba3cba3aba38ba36ba35ba33ba31ba2fba2dba2bba2aba28ba26ba24ba22ba20ba1eba1dba1bba19ba17ba15ba13ba12ba10ba0eba0cba0aba08ba06ba05ba03ba01b9ffb9fdb9fbb9f9b9f8b9f6b9f4b9f2b9f0b9eeb9edb9ebb9e9b9e7b9e5b9e3b9e1b9e0b9deb9dcb9dab9d8b9d6b9d5b9d3b9d1b9cfb9cdb9cbb9c9b9c8b9c6b9c4b9c2b9c0b9beb9bdb9bbb9b9b9b7b9b5b9b3b9b1b9b0b9aeb9acb9aab9a8b9a6b9a5b9a3b9a1b99fb99db99bb999b998b996b994b992b990b98eb98db98bb989b987b985b983b981b980b97eb97cb97ab978b976b975b973b971b96fb96db96bb969b968b966b964b962b960b95eb95db95bb959b957b955b953b951b950b94eb94cb94ab948b946b945b943,
  0xbcf6bcf4bcf2bcf1bcefbcedbcebbce9bce7bce5bce4bce2bce0bcdebcdcbcdabcd8bcd7bcd5bcd3bcd1bccfbccdbccbbcc9bcc8bcc6bcc4bcc2bcc0bcbebcbcbcbbbcb9bcb7bcb5bcb3bcb1bcafbcaebcacbcaabca8bca6bca4bca2bca1bc9fbc9dbc9bbc99bc97bc95bc93bc92bc90bc8ebc8cbc8abc88bc86bc85bc83bc81bc7fbc7dbc7bbc79bc78bc76bc74bc72bc70bc6ebc6cbc6bbc69bc67bc65bc63bc61bc5fbc5dbc5cbc5abc58bc56bc54bc52bc50bc4fbc4dbc4bbc49bc47bc45bc43bc42bc40bc3ebc3cbc3abc38bc36bc35bc33bc31bc2fbc2dbc2bbc29bc28bc26bc24bc22bc20bc1ebc1cbc1bbc19bc17bc15bc13bc11bc0fbc0dbc0cbc0abc08bc06bc04bc02bc00bbffbbfdbbfbbbf9bbf7bbf5bbf3bbf2bbf0bbeebbecbbeabbe8bbe6bbe5bbe3bbe1bbdfbbddbbdbbbd9bbd8bbd6bbd4bbd2bbd0bbcebbccbbcbbbc9bbc7bbc5bbc3bbc1bbbfbbbebbbcbbbabbb8bbb6bbb4bbb2bbb1bbafbbadbbabbba9bba7bba5bba4bba2bba0bb9ebb9cbb9abb98bb97bb95bb93bb91bb8fbb8dbb8bbb8abb88bb86bb84bb82bb80bb7ebb7dbb7bbb79bb77bb75bb73bb71bb70bb6ebb6cbb6abb68bb66bb64bb63bb61bb5fbb5dbb5bbb59bb57bb56bb54bb52bb50bb4ebb4cbb4abb49bb47bb45bb43bb41bb3fbb3dbb3cbb3abb38bb36bb34bb32bb31bb2fbb2dbb2bbb29bb27bb25bb24bb22bb20bb1ebb1c,
  0xbed5bed3bed1becfbecdbecbbec9bec8bec6bec4bec2bec0bebebebcbebbbeb9beb7beb5beb3beb1beafbeadbeacbeaabea8bea6bea4bea2bea0be9ebe9dbe9bbe99be97be95be93be91be8fbe8ebe8cbe8abe88be86be84be82be80be7fbe7dbe7bbe79be77be75be73be71be70be6ebe6cbe6abe68be66be64be62be61be5fbe5dbe5bbe59be57be55be54be52be50be4ebe4cbe4abe48be46be45be43be41be3fbe3dbe3bbe39be37be36be34be32be30be2ebe2cbe2abe28be27be25be23be21be1fbe1dbe1bbe1abe18be16be14be12be10be0ebe0cbe0bbe09be07be05be03be01bdffbdfdbdfcbdfabdf8bdf6bdf4bdf2bdf0bdefbdedbdebbde9bde7bde5bde3bde1bde0bddebddcbddabdd8bdd6bdd4bdd2bdd1bdcfbdcdbdcbbdc9bdc7bdc5bdc4bdc2bdc0bdbebdbcbdbabdb8bdb6bdb5bdb3bdb1bdafbdadbdabbda9bda7bda6bda4bda2bda0bd9ebd9cbd9abd99bd97bd95bd93bd91bd8fbd8dbd8bbd8abd88bd86bd84bd82bd80bd7ebd7dbd7bbd79bd77bd75bd73bd71bd6fbd6ebd6cbd6abd68bd66bd64bd62bd61bd5fbd5dbd5bbd59bd57bd55bd53bd52bd50bd4ebd4cbd4abd48bd46bd45bd43bd41bd3fbd3dbd3bbd39bd37bd36bd34bd32bd30bd2ebd2cbd2abd29bd27bd25bd23bd21bd1fbd1dbd1cbd1abd18bd16bd14bd12bd10bd0ebd0dbd0bbd09bd07bd05bd03bd01bd00bcfebcfcbcfabcf8,
  0xc0b6c0b4c0b2c0b0c0aec0acc0abc0a9c0a7c0a5c0a3c0a1c09fc09dc09bc09ac098c096c094c092c090c08ec08cc08bc089c087c085c083c081c07fc07dc07bc07ac078c076c074c072c070c06ec06cc06bc069c067c065c063c061c05fc05dc05bc05ac058c056c054c052c050c04ec04cc04bc049c047c045c043c041c03fc03dc03bc03ac038c036c034c032c030c02ec02cc02bc029c027c025c023c021c01fc01dc01bc01ac018c016c014c012c010c00ec00cc00bc009c007c005c003c001bfffbffdbffbbffabff8bff6bff4bff2bff0bfeebfecbfebbfe9bfe7bfe5bfe3bfe1bfdfbfddbfdcbfdabfd8bfd6bfd4bfd2bfd0bfcebfccbfcbbfc9bfc7bfc5bfc3bfc1bfbfbfbdbfbcbfbabfb8bfb6bfb4bfb2bfb0bfaebfadbfabbfa9bfa7bfa5bfa3bfa1bf9fbf9ebf9cbf9abf98bf96bf94bf92bf90bf8ebf8dbf8bbf89bf87bf85bf83bf81bf7fbf7ebf7cbf7abf78bf76bf74bf72bf70bf6fbf6dbf6bbf69bf67bf65bf63bf61bf60bf5ebf5cbf5abf58bf56bf54bf52bf51bf4fbf4dbf4bbf49bf47bf45bf43bf42bf40bf3ebf3cbf3abf38bf36bf34bf33bf31bf2fbf2dbf2bbf29bf27bf25bf23bf22bf20bf1ebf1cbf1abf18bf16bf14bf13bf11bf0fbf0dbf0bbf09bf07bf05bf04bf02bf00befebefcbefabef8bef6bef5bef3bef1beefbeedbeebbee9bee7bee6bee4bee2bee0bedebedcbedabed8bed7,
  0xc29ac298c296c294c292c290c28ec28cc28ac288c287c285c283c281c27fc27dc27bc279c277c276c274c272c270c26ec26cc26ac268c266c264c263c261c25fc25dc25bc259c257c255c253c252c250c24ec24cc24ac248c246c244c242c241c23fc23dc23bc239c237c235c233c231c22fc22ec22cc22ac228c226c224c222c220c21ec21dc21bc219c217c215c213c211c20fc20dc20cc20ac208c206c204c202c200c1fec1fcc1fbc1f9c1f7c1f5c1f3c1f1c1efc1edc1ebc1eac1e8c1e6c1e4c1e2c1e0c1dec1dcc1dac1d8c1d7c1d5c1d3c1d1c1cfc1cdc1cbc1c9c1c7c1c6c1c4c1c2c1c0c1bec1bcc1bac1b8c1b6c1b5c1b3c1b1c1afc1adc1abc1a9c1a7c1a5c1a4c1a2c1a0c19ec19cc19ac198c196c194c193c191c18fc18dc18bc189c187c185c183c182c180c17ec17cc17ac178c176c174c172c171c16fc16dc16bc169c167c165c163c161c160c15ec15cc15ac158c156c154c152c150c14fc14dc14bc149c147c145c143c141c13fc13ec13cc13ac138c136c134c132c130c12fc12dc12bc129c127c125c123c121c11fc11ec11cc11ac118c116c114c112c110c10ec10dc10bc109c107c105c103c101c0ffc0fdc0fcc0fac0f8c0f6c0f4c0f2c0f0c0eec0edc0ebc0e9c0e7c0e5c0e3c0e1c0dfc0ddc0dcc0dac0d8c0d6c0d4c0d2c0d0c0cec0ccc0cbc0c9c0c7c0c5c0c3c0c1c0bfc0bdc0bbc0bac0b8,
  0xc480c47ec47cc47ac478c476c474c472c471c46fc46dc46bc469c467c465c463c461c45fc45dc45cc45ac458c456c454c452c450c44ec44cc44ac449c447c445c443c441c43fc43dc43bc439c437c436c434c432c430c42ec42cc42ac428c426c424c422c421c41fc41dc41bc419c417c415c413c411c40fc40ec40cc40ac408c406c404c402c400c3fec3fcc3fbc3f9c3f7c3f5c3f3c3f1c3efc3edc3ebc3e9c3e8c3e6c3e4c3e2c3e0c3dec3dcc3dac3d8c3d6c3d5c3d3c3d1c3cfc3cdc3cbc3c9c3c7c3c5c3c3c3c2c3c0c3bec3bcc3bac3b8c3b6c3b4c3b2c3b0c3afc3adc3abc3a9c3a7c3a5c3a3c3a1c39fc39dc39cc39ac398c396c394c392c390c38ec38cc38ac389c387c385c383c381c37fc37dc37bc379c377c376c374c372c370c36ec36cc36ac368c366c364c363c361c35fc35dc35bc359c357c355c353c351c350c34ec34cc34ac348c346c344c342c340c33ec33dc33bc339c337c335c333c331c32fc32dc32bc32ac328c326c324c322c320c31ec31cc31ac319c317c315c313c311c30fc30dc30bc309c307c306c304c302c300c2fec2fcc2fac2f8c2f6c2f4c2f3c2f1c2efc2edc2ebc2e9c2e7c2e5c2e3c2e2c2e0c2dec2dcc2dac2d8c2d6c2d4c2d2c2d0c2cfc2cdc2cbc2c9c2c7c2c5c2c3c2c1c2bfc2bec2bcc2bac2b8c2b6c2b4c2b2c2b0c2aec2acc2abc2a9c2a7c2a5c2a3c2a1c29fc29dc29b,
  0xc669c667c665c663c661c65fc65dc65bc659c657c655c654c652c650c64ec64cc64ac648c646c644c642c640c63ec63dc63bc639c637c635c633c631c62fc62dc62bc629c628c626c624c622c620c61ec61cc61ac618c616c614c612c611c60fc60dc60bc609c607c605c603c601c5ffc5fdc5fcc5fac5f8c5f6c5f4c5f2c5f0c5eec5ecc5eac5e8c5e6c5e5c5e3c5e1c5dfc5ddc5dbc5d9c5d7c5d5c5d3c5d1c5d0c5cec5ccc5cac5c8c5c6c5c4c5c2c5c0c5bec5bcc5bbc5b9c5b7c5b5c5b3c5b1c5afc5adc5abc5a9c5a7c5a6c5a4c5a2c5a0c59ec59cc59ac598c596c594c592c590c58fc58dc58bc589c587c585c583c581c57fc57dc57bc57ac578c576c574c572c570c56ec56cc56ac568c566c565c563c561c55fc55dc55bc559c557c555c553c551c550c54ec54cc54ac548c546c544c542c540c53ec53cc53bc539c537c535c533c531c52fc52dc52bc529c527c526c524c522c520c51ec51cc51ac518c516c514c513c511c50fc50dc50bc509c507c505c503c501c4ffc4fec4fcc4fac4f8c4f6c4f4c4f2c4f0c4eec4ecc4eac4e9c4e7c4e5c4e3c4e1c4dfc4ddc4dbc4d9c4d7c4d5c4d4c4d2c4d0c4cec4ccc4cac4c8c4c6c4c4c4c2c4c1c4bfc4bdc4bbc4b9c4b7c4b5c4b3c4b1c4afc4adc4acc4aac4a8c4a6c4a4c4a2c4a0c49ec49cc49ac499c497c495c493c491c48fc48dc48bc489c487c485c484c482,
  0xc854c852c850c84ec84cc84ac848c847c845c843c841c83fc83dc83bc839c837c835c833c831c82fc82dc82cc82ac828c826c824c822c820c81ec81cc81ac818c816c814c813c811c80fc80dc80bc809c807c805c803c801c7ffc7fdc7fbc7fac7f8c7f6c7f4c7f2c7f0c7eec7ecc7eac7e8c7e6c7e4c7e3c7e1c7dfc7ddc7dbc7d9c7d7c7d5c7d3c7d1c7cfc7cdc7cbc7cac7c8c7c6c7c4c7c2c7c0c7bec7bcc7bac7b8c7b6c7b4c7b2c7b1c7afc7adc7abc7a9c7a7c7a5c7a3c7a1c79fc79dc79bc799c798c796c794c792c790c78ec78cc78ac788c786c784c782c781c77fc77dc77bc779c777c775c773c771c76fc76dc76bc769c768c766c764c762c760c75ec75cc75ac758c756c754c752c751c74fc74dc74bc749c747c745c743c741c73fc73dc73bc739c738c736c734c732c730c72ec72cc72ac728c726c724c722c721c71fc71dc71bc719c717c715c713c711c70fc70dc70bc70ac708c706c704c702c700c6fec6fcc6fac6f8c6f6c6f4c6f3c6f1c6efc6edc6ebc6e9c6e7c6e5c6e3c6e1c6dfc6ddc6dcc6dac6d8c6d6c6d4c6d2c6d0c6cec6ccc6cac6c8c6c6c6c5c6c3c6c1c6bfc6bdc6bbc6b9c6b7c6b5c6b3c6b1c6afc6aec6acc6aac6a8c6a6c6a4c6a2c6a0c69ec69cc69ac698c697c695c693c691c68fc68dc68bc689c687c685c683c681c680c67ec67cc67ac678c676c674c672c670c66ec66cc66a,
  0xca42ca40ca3eca3cca3aca38ca36ca34ca32ca31ca2fca2dca2bca29ca27ca25ca23ca21ca1fca1dca1bca19ca17ca15ca14ca12ca10ca0eca0cca0aca08ca06ca04ca02ca00c9fec9fcc9fac9f8c9f7c9f5c9f3c9f1c9efc9edc9ebc9e9c9e7c9e5c9e3c9e1c9dfc9ddc9dbc9dac9d8c9d6c9d4c9d2c9d0c9cec9ccc9cac9c8c9c6c9c4c9c2c9c0c9bfc9bdc9bbc9b9c9b7c9b5c9b3c9b1c9afc9adc9abc9a9c9a7c9a5c9a3c9a2c9a0c99ec99cc99ac998c996c994c992c990c98ec98cc98ac988c986c985c983c981c97fc97dc97bc979c977c975c973c971c96fc96dc96bc96ac968c966c964c962c960c95ec95cc95ac958c956c954c952c950c94fc94dc94bc949c947c945c943c941c93fc93dc93bc939c937c935c933c932c930c92ec92cc92ac928c926c924c922c920c91ec91cc91ac918c917c915c913c911c90fc90dc90bc909c907c905c903c901c8ffc8fdc8fcc8fac8f8c8f6c8f4c8f2c8f0c8eec8ecc8eac8e8c8e6c8e4c8e3c8e1c8dfc8ddc8dbc8d9c8d7c8d5c8d3c8d1c8cfc8cdc8cbc8c9c8c8c8c6c8c4c8c2c8c0c8bec8bcc8bac8b8c8b6c8b4c8b2c8b0c8aec8adc8abc8a9c8a7c8a5c8a3c8a1c89fc89dc89bc899c897c895c894c892c890c88ec88cc88ac888c886c884c882c880c87ec87cc87ac879c877c875c873c871c86fc86dc86bc869c867c865c863c861c860c85ec85cc85ac858c856,
  0xcc33cc31cc2fcc2dcc2bcc29cc27cc25cc23cc21cc1fcc1dcc1bcc19cc17cc15cc13cc11cc10cc0ecc0ccc0acc08cc06cc04cc02cc00cbfecbfccbfacbf8cbf6cbf4cbf2cbf0cbeecbedcbebcbe9cbe7cbe5cbe3cbe1cbdfcbddcbdbcbd9cbd7cbd5cbd3cbd1cbcfcbcdcbcccbcacbc8cbc6cbc4cbc2cbc0cbbecbbccbbacbb8cbb6cbb4cbb2cbb0cbaecbaccbaacba9cba7cba5cba3cba1cb9fcb9dcb9bcb99cb97cb95cb93cb91cb8fcb8dcb8bcb89cb88cb86cb84cb82cb80cb7ecb7ccb7acb78cb76cb74cb72cb70cb6ecb6ccb6acb68cb67cb65cb63cb61cb5fcb5dcb5bcb59cb57cb55cb53cb51cb4fcb4dcb4bcb49cb48cb46cb44cb42cb40cb3ecb3ccb3acb38cb36cb34cb32cb30cb2ecb2ccb2acb28cb27cb25cb23cb21cb1fcb1dcb1bcb19cb17cb15cb13cb11cb0fcb0dcb0bcb09cb08cb06cb04cb02cb00cafecafccafacaf8caf6caf4caf2caf0caeecaeccaeacae8cae7cae5cae3cae1cadfcaddcadbcad9cad7cad5cad3cad1cacfcacdcacbcac9cac8cac6cac4cac2cac0cabecabccabacab8cab6cab4cab2cab0caaecaaccaaacaa9caa7caa5caa3caa1ca9fca9dca9bca99ca97ca95ca93ca91ca8fca8dca8cca8aca88ca86ca84ca82ca80ca7eca7cca7aca78ca76ca74ca72ca70ca6eca6dca6bca69ca67ca65ca63ca61ca5fca5dca5bca59ca57ca55ca53ca51ca50ca4eca4cca4aca48ca46ca44,
  0xce26ce24ce22ce20ce1ece1cce1ace18ce16ce14ce12ce10ce0ece0cce0ace08ce06ce04ce03ce01cdffcdfdcdfbcdf9cdf7cdf5cdf3cdf1cdefcdedcdebcde9cde7cde5cde3cde1cddfcdddcddbcdd9cdd8cdd6cdd4cdd2cdd0cdcecdcccdcacdc8cdc6cdc4cdc2cdc0cdbecdbccdbacdb8cdb6cdb4cdb2cdb0cdafcdadcdabcda9cda7cda5cda3cda1cd9fcd9dcd9bcd99cd97cd95cd93cd91cd8fcd8dcd8bcd89cd87cd86cd84cd82cd80cd7ecd7ccd7acd78cd76cd74cd72cd70cd6ecd6ccd6acd68cd66cd64cd62cd60cd5fcd5dcd5bcd59cd57cd55cd53cd51cd4fcd4dcd4bcd49cd47cd45cd43cd41cd3fcd3dcd3bcd39cd37cd36cd34cd32cd30cd2ecd2ccd2acd28cd26cd24cd22cd20cd1ecd1ccd1acd18cd16cd14cd12cd10cd0fcd0dcd0bcd09cd07cd05cd03cd01ccffccfdccfbccf9ccf7ccf5ccf3ccf1ccefccedccebcceacce8cce6cce4cce2cce0ccdeccdcccdaccd8ccd6ccd4ccd2ccd0cccecccccccaccc8ccc6ccc4ccc3ccc1ccbfccbdccbbccb9ccb7ccb5ccb3ccb1ccafccadccabcca9cca7cca5cca3cca1cca0cc9ecc9ccc9acc98cc96cc94cc92cc90cc8ecc8ccc8acc88cc86cc84cc82cc80cc7ecc7ccc7bcc79cc77cc75cc73cc71cc6fcc6dcc6bcc69cc67cc65cc63cc61cc5fcc5dcc5bcc59cc57cc56cc54cc52cc50cc4ecc4ccc4acc48cc46cc44cc42cc40cc3ecc3ccc3acc38cc36cc34,
  0xd01bd019d018d016d014d012d010d00ed00cd00ad008d006d004d002d000cffecffccffacff8cff6cff4cff2cff0cfeecfeccfeacfe8cfe6cfe4cfe2cfe1cfdfcfddcfdbcfd9cfd7cfd5cfd3cfd1cfcfcfcdcfcbcfc9cfc7cfc5cfc3cfc1cfbfcfbdcfbbcfb9cfb7cfb5cfb3cfb1cfafcfadcfabcfaacfa8cfa6cfa4cfa2cfa0cf9ecf9ccf9acf98cf96cf94cf92cf90cf8ecf8ccf8acf88cf86cf84cf82cf80cf7ecf7ccf7acf78cf77cf75cf73cf71cf6fcf6dcf6bcf69cf67cf65cf63cf61cf5fcf5dcf5bcf59cf57cf55cf53cf51cf4fcf4dcf4bcf49cf47cf45cf44cf42cf40cf3ecf3ccf3acf38cf36cf34cf32cf30cf2ecf2ccf2acf28cf26cf24cf22cf20cf1ecf1ccf1acf18cf16cf14cf13cf11cf0fcf0dcf0bcf09cf07cf05cf03cf01ceffcefdcefbcef9cef7cef5cef3cef1ceefceedceebcee9cee7cee5cee3cee2cee0cedecedccedaced8ced6ced4ced2ced0cecececccecacec8cec6cec4cec2cec0cebecebccebaceb8ceb6ceb4ceb3ceb1ceafceadceabcea9cea7cea5cea3cea1ce9fce9dce9bce99ce97ce95ce93ce91ce8fce8dce8bce89ce87ce86ce84ce82ce80ce7ece7cce7ace78ce76ce74ce72ce70ce6ece6cce6ace68ce66ce64ce62ce60ce5ece5cce5ace59ce57ce55ce53ce51ce4fce4dce4bce49ce47ce45ce43ce41ce3fce3dce3bce39ce37ce35ce33ce31ce2fce2ece2cce2ace28,
  0xd214d212d210d20ed20cd20ad208d206d204d202d200d1fed1fcd1fad1f8d1f6d1f4d1f2d1f0d1eed1ecd1ead1e8d1e6d1e4d1e2d1e0d1ded1dcd1dbd1d9d1d7d1d5d1d3d1d1d1cfd1cdd1cbd1c9d1c7d1c5d1c3d1c1d1bfd1bdd1bbd1b9d1b7d1b5d1b3d1b1d1afd1add1abd1a9d1a7d1a5d1a3d1a1d19fd19dd19bd199d197d195d193d191d190d18ed18cd18ad188d186d184d182d180d17ed17cd17ad178d176d174d172d170d16ed16cd16ad168d166d164d162d160d15ed15cd15ad158d156d154d152d150d14ed14cd14bd149d147d145d143d141d13fd13dd13bd139d137d135d133d131d12fd12dd12bd129d127d125d123d121d11fd11dd11bd119d117d115d113d111d10fd10dd10bd109d108d106d104d102d100d0fed0fcd0fad0f8d0f6d0f4d0f2d0f0d0eed0ecd0ead0e8d0e6d0e4d0e2d0e0d0ded0dcd0dad0d8d0d6d0d4d0d2d0d0d0ced0ccd0cad0c9d0c7d0c5d0c3d0c1d0bfd0bdd0bbd0b9d0b7d0b5d0b3d0b1d0afd0add0abd0a9d0a7d0a5d0a3d0a1d09fd09dd09bd099d097d095d093d091d08fd08dd08bd08ad088d086d084d082d080d07ed07cd07ad078d076d074d072d070d06ed06cd06ad068d066d064d062d060d05ed05cd05ad058d056d054d052d051d04fd04dd04bd049d047d045d043d041d03fd03dd03bd039d037d035d033d031d02fd02dd02bd029d027d025d023d021d01fd01d,
  0xd40fd40dd40bd409d407d405d403d401d3ffd3fdd3fbd3f9d3f7d3f5d3f3d3f1d3efd3edd3ebd3e9d3e7d3e5d3e3d3e1d3dfd3ddd3dbd3d9d3d7d3d5d3d3d3d1d3cfd3cdd3cbd3c9d3c7d3c5d3c3d3c1d3bfd3bdd3bbd3b9d3b7d3b5d3b3d3b1d3afd3add3abd3a9d3a8d3a6d3a4d3a2d3a0d39ed39cd39ad398d396d394d392d390d38ed38cd38ad388d386d384d382d380d37ed37cd37ad378d376d374d372d370d36ed36cd36ad368d366d364d362d360d35ed35cd35ad358d356d354d352d350d34ed34cd34ad348d346d344d342d340d33ed33cd33bd339d337d335d333d331d32fd32dd32bd329d327d325d323d321d31fd31dd31bd319d317d315d313d311d30fd30dd30bd309d307d305d303d301d2ffd2fdd2fbd2f9d2f7d2f5d2f3d2f1d2efd2edd2ebd2e9d2e7d2e5d2e3d2e1d2dfd2ddd2dbd2d9d2d7d2d6d2d4d2d2d2d0d2ced2ccd2cad2c8d2c6d2c4d2c2d2c0d2bed2bcd2bad2b8d2b6d2b4d2b2d2b0d2aed2acd2aad2a8d2a6d2a4d2a2d2a0d29ed29cd29ad298d296d294d292d290d28ed28cd28ad288d286d284d282d280d27ed27dd27bd279d277d275d273d271d26fd26dd26bd269d267d265d263d261d25fd25dd25bd259d257d255d253d251d24fd24dd24bd249d247d245d243d241d23fd23dd23bd239d237d235d233d231d22fd22dd22bd229d228d226d224d222d220d21ed21cd21ad218d216,
  0xd60cd60ad608d606d604d602d600d5fed5fcd5fad5f8d5f6d5f4d5f2d5f0d5eed5ecd5ead5e8d5e6d5e4d5e2d5e0d5ded5dcd5dad5d8d5d6d5d4d5d2d5d0d5ced5ccd5cad5c8d5c6d5c4d5c2d5c0d5bed5bcd5bad5b8d5b6d5b4d5b2d5b0d5aed5acd5aad5a8d5a7d5a5d5a3d5a1d59fd59dd59bd599d597d595d593d591d58fd58dd58bd589d587d585d583d581d57fd57dd57bd579d577d575d573d571d56fd56dd56bd569d567d565d563d561d55fd55dd55bd559d557d555d553d551d54fd54dd54bd549d547d545d543d541d53fd53dd53bd539d537d535d533d531d52fd52dd52bd529d527d525d523d521d51fd51dd51bd519d517d515d513d511d50fd50dd50bd509d507d505d503d501d4ffd4fdd4fbd4f9d4f7d4f5d4f3d4f1d4efd4edd4ebd4e9d4e7d4e5d4e3d4e1d4dfd4ddd4dbd4d9d4d7d4d5d4d3d4d1d4cfd4cdd4cbd4c9d4c7d4c6d4c4d4c2d4c0d4bed4bcd4bad4b8d4b6d4b4d4b2d4b0d4aed4acd4aad4a8d4a6d4a4d4a2d4a0d49ed49cd49ad498d496d494d492d490d48ed48cd48ad488d486d484d482d480d47ed47cd47ad478d476d474d472d470d46ed46cd46ad468d466d464d462d460d45ed45cd45ad458d456d454d452d450d44ed44cd44ad448d446d444d442d440d43ed43cd43ad438d436d434d432d430d42ed42cd42ad429d427d425d423d421d41fd41dd41bd419d417d415d413d411,
  0xd80cd80ad808d806d804d802d800d7fed7fcd7fad7f8d7f6d7f4d7f2d7f0d7eed7ecd7ead7e8d7e6d7e4d7e2d7e0d7ded7dcd7dad7d8d7d6d7d4d7d2d7d0d7ced7ccd7cad7c8d7c6d7c4d7c2d7c0d7bed7bcd7bad7b8d7b6d7b4d7b2d7b0d7aed7acd7aad7a8d7a6d7a4d7a2d7a0d79ed79cd79ad798d796d794d792d790d78ed78cd78ad788d786d784d782d780d77ed77cd77ad778d776d774d772d770d76ed76cd76ad768d766d764d762d760d75ed75cd75ad758d756d754d752d750d74ed74cd74ad748d746d744d742d740d73ed73cd73ad738d736d734d732d730d72ed72cd72ad728d726d724d722d720d71ed71cd71ad718d716d714d712d710d70ed70cd70ad708d706d704d702d700d6fed6fcd6fad6f8d6f6d6f4d6f2d6f0d6eed6ecd6ead6e8d6e6d6e4d6e2d6e0d6ded6dcd6dad6d8d6d6d6d4d6d2d6d0d6ced6ccd6cad6c8d6c6d6c4d6c2d6c0d6bed6bcd6bad6b8d6b6d6b4d6b2d6b0d6aed6acd6aad6a8d6a6d6a4d6a2d6a0d69ed69cd69ad698d696d694d692d690d68ed68cd68ad688d686d684d682d680d67ed67cd67ad678d676d674d672d670d66ed66cd66ad668d666d664d662d660d65ed65cd65ad658d656d654d652d650d64ed64cd64ad648d646d644d642d640d63ed63cd63ad638d636d634d632d630d62ed62cd62ad628d626d624d622d620d61ed61cd61ad618d616d614d612d610d60e,
  0xda0fda0dda0bda09da07da05da03da01d9ffd9fdd9fbd9f9d9f7d9f5d9f3d9f1d9efd9edd9ebd9e9d9e7d9e5d9e3d9e1d9dfd9ddd9dbd9d9d9d7d9d5d9d3d9d1d9cfd9cdd9cbd9c9d9c7d9c5d9c2d9c0d9bed9bcd9bad9b8d9b6d9b4d9b2d9b0d9aed9acd9aad9a8d9a6d9a4d9a2d9a0d99ed99cd99ad998d996d994d992d990d98ed98cd98ad988d986d984d982d980d97ed97cd97ad978d976d974d972d970d96ed96cd96ad968d966d964d962d960d95ed95cd95ad958d956d954d952d950d94ed94cd94ad948d946d944d942d940d93ed93cd93ad938d936d934d932d930d92ed92cd92ad928d926d923d921d91fd91dd91bd919d917d915d913d911d90fd90dd90bd909d907d905d903d901d8ffd8fdd8fbd8f9d8f7d8f5d8f3d8f1d8efd8edd8ebd8e9d8e7d8e5d8e3d8e1d8dfd8ddd8dbd8d9d8d7d8d5d8d3d8d1d8cfd8cdd8cbd8c9d8c7d8c5d8c3d8c1d8bfd8bdd8bbd8b9d8b7d8b5d8b3d8b1d8afd8add8abd8a9d8a7d8a5d8a3d8a1d89fd89dd89bd899d897d895d893d891d88fd88dd88bd889d887d885d883d881d87fd87dd87bd879d877d875d873d871d86fd86dd86bd869d867d865d863d861d85fd85dd85bd859d857d855d853d851d84fd84dd84bd849d847d845d842d840d83ed83cd83ad838d836d834d832d830d82ed82cd82ad828d826d824d822d820d81ed81cd81ad818d816d814d812d810d80e,
  0xdc14dc12dc10dc0edc0cdc0adc08dc06dc04dc02dc00dbfedbfcdbfadbf8dbf6dbf4dbf2dbf0dbeedbecdbeadbe8dbe6dbe4dbe2dbe0dbdedbdcdbdadbd8dbd6dbd4dbd2dbd0dbcddbcbdbc9dbc7dbc5dbc3dbc1dbbfdbbddbbbdbb9dbb7dbb5dbb3dbb1dbafdbaddbabdba9dba7dba5dba3dba1db9fdb9ddb9bdb99db97db95db93db91db8fdb8ddb8bdb89db87db85db83db81db7fdb7ddb7bdb79db76db74db72db70db6edb6cdb6adb68db66db64db62db60db5edb5cdb5adb58db56db54db52db50db4edb4cdb4adb48db46db44db42db40db3edb3cdb3adb38db36db34db32db30db2edb2cdb2adb28db26db24db22db20db1edb1bdb19db17db15db13db11db0fdb0ddb0bdb09db07db05db03db01daffdafddafbdaf9daf7daf5daf3daf1daefdaeddaebdae9dae7dae5dae3dae1dadfdadddadbdad9dad7dad5dad3dad1dacfdacddacbdac9dac7dac5dac3dac1dabfdabddabbdab9dab6dab4dab2dab0daaedaacdaaadaa8daa6daa4daa2daa0da9eda9cda9ada98da96da94da92da90da8eda8cda8ada88da86da84da82da80da7eda7cda7ada78da76da74da72da70da6eda6cda6ada68da66da64da62da60da5eda5cda5ada58da56da54da52da50da4eda4cda4ada48da45da43da41da3fda3dda3bda39da37da35da33da31da2fda2dda2bda29da27da25da23da21da1fda1dda1bda19da17da15da13da11,
  0xde1cde1ade18de16de14de12de10de0ede0cde0ade08de06de04de02de00ddfeddfcddfaddf8ddf6ddf4ddf2ddf0ddedddebdde9dde7dde5dde3dde1dddfdddddddbddd9ddd7ddd5ddd3ddd1ddcfddcdddcbddc9ddc7ddc5ddc3ddc1ddbfddbdddbbddb9ddb7ddb5ddb2ddb0ddaeddacddaadda8dda6dda4dda2dda0dd9edd9cdd9add98dd96dd94dd92dd90dd8edd8cdd8add88dd86dd84dd82dd80dd7edd7cdd7add78dd75dd73dd71dd6fdd6ddd6bdd69dd67dd65dd63dd61dd5fdd5ddd5bdd59dd57dd55dd53dd51dd4fdd4ddd4bdd49dd47dd45dd43dd41dd3fdd3ddd3bdd39dd36dd34dd32dd30dd2edd2cdd2add28dd26dd24dd22dd20dd1edd1cdd1add18dd16dd14dd12dd10dd0edd0cdd0add08dd06dd04dd02dd00dcfedcfcdcfadcf8dcf5dcf3dcf1dcefdceddcebdce9dce7dce5dce3dce1dcdfdcdddcdbdcd9dcd7dcd5dcd3dcd1dccfdccddccbdcc9dcc7dcc5dcc3dcc1dcbfdcbddcbbdcb9dcb7dcb5dcb3dcb0dcaedcacdcaadca8dca6dca4dca2dca0dc9edc9cdc9adc98dc96dc94dc92dc90dc8edc8cdc8adc88dc86dc84dc82dc80dc7edc7cdc7adc78dc76dc74dc72dc70dc6edc6cdc69dc67dc65dc63dc61dc5fdc5ddc5bdc59dc57dc55dc53dc51dc4fdc4ddc4bdc49dc47dc45dc43dc41dc3fdc3ddc3bdc39dc37dc35dc33dc31dc2fdc2ddc2bdc29dc27dc25dc23dc21dc1fdc1cdc1adc18dc16,
  0xe027e025e023e021e01fe01de01be019e016e014e012e010e00ee00ce00ae008e006e004e002e000dffedffcdffadff8dff6dff4dff2dff0dfeedfecdfe9dfe7dfe5dfe3dfe1dfdfdfdddfdbdfd9dfd7dfd5dfd3dfd1dfcfdfcddfcbdfc9dfc7dfc5dfc3dfc1dfbfdfbcdfbadfb8dfb6dfb4dfb2dfb0dfaedfacdfaadfa8dfa6dfa4dfa2dfa0df9edf9cdf9adf98df96df94df92df90df8ddf8bdf89df87df85df83df81df7fdf7ddf7bdf79df77df75df73df71df6fdf6ddf6bdf69df67df65df63df61df5edf5cdf5adf58df56df54df52df50df4edf4cdf4adf48df46df44df42df40df3edf3cdf3adf38df36df34df32df30df2ddf2bdf29df27df25df23df21df1fdf1ddf1bdf19df17df15df13df11df0fdf0ddf0bdf09df07df05df03df01deffdefddefadef8def6def4def2def0deeedeecdeeadee8dee6dee4dee2dee0dedededcdedaded8ded6ded4ded2ded0decedeccdecadec7dec5dec3dec1debfdebddebbdeb9deb7deb5deb3deb1deafdeaddeabdea9dea7dea5dea3dea1de9fde9dde9bde99de97de94de92de90de8ede8cde8ade88de86de84de82de80de7ede7cde7ade78de76de74de72de70de6ede6cde6ade68de66de64de62de60de5dde5bde59de57de55de53de51de4fde4dde4bde49de47de45de43de41de3fde3dde3bde39de37de35de33de31de2fde2dde2bde29de26de24de22de20de1e,
  0xe234e232e230e22ee22ce22ae228e226e224e221e21fe21de21be219e217e215e213e211e20fe20de20be209e207e205e203e201e1ffe1fce1fae1f8e1f6e1f4e1f2e1f0e1eee1ece1eae1e8e1e6e1e4e1e2e1e0e1dee1dce1dae1d7e1d5e1d3e1d1e1cfe1cde1cbe1c9e1c7e1c5e1c3e1c1e1bfe1bde1bbe1b9e1b7e1b5e1b2e1b0e1aee1ace1aae1a8e1a6e1a4e1a2e1a0e19ee19ce19ae198e196e194e192e190e18ee18be189e187e185e183e181e17fe17de17be179e177e175e173e171e16fe16de16be169e167e164e162e160e15ee15ce15ae158e156e154e152e150e14ee14ce14ae148e146e144e142e140e13de13be139e137e135e133e131e12fe12de12be129e127e125e123e121e11fe11de11be119e117e114e112e110e10ee10ce10ae108e106e104e102e100e0fee0fce0fae0f8e0f6e0f4e0f2e0f0e0eee0ebe0e9e0e7e0e5e0e3e0e1e0dfe0dde0dbe0d9e0d7e0d5e0d3e0d1e0cfe0cde0cbe0c9e0c7e0c5e0c2e0c0e0bee0bce0bae0b8e0b6e0b4e0b2e0b0e0aee0ace0aae0a8e0a6e0a4e0a2e0a0e09ee09ce099e097e095e093e091e08fe08de08be089e087e085e083e081e07fe07de07be079e077e075e073e071e06ee06ce06ae068e066e064e062e060e05ee05ce05ae058e056e054e052e050e04ee04ce04ae048e046e043e041e03fe03de03be039e037e035e033e031e02fe02de02be029,
  0xe444e442e440e43ee43be439e437e435e433e431e42fe42de42be429e427e425e423e421e41fe41ce41ae418e416e414e412e410e40ee40ce40ae408e406e404e402e400e3fde3fbe3f9e3f7e3f5e3f3e3f1e3efe3ede3ebe3e9e3e7e3e5e3e3e3e1e3dfe3dce3dae3d8e3d6e3d4e3d2e3d0e3cee3cce3cae3c8e3c6e3c4e3c2e3c0e3bde3bbe3b9e3b7e3b5e3b3e3b1e3afe3ade3abe3a9e3a7e3a5e3a3e3a1e39fe39ce39ae398e396e394e392e390e38ee38ce38ae388e386e384e382e380e37ee37be379e377e375e373e371e36fe36de36be369e367e365e363e361e35fe35de35ae358e356e354e352e350e34ee34ce34ae348e346e344e342e340e33ee33ce339e337e335e333e331e32fe32de32be329e327e325e323e321e31fe31de31be318e316e314e312e310e30ee30ce30ae308e306e304e302e300e2fee2fce2fae2f8e2f5e2f3e2f1e2efe2ede2ebe2e9e2e7e2e5e2e3e2e1e2dfe2dde2dbe2d9e2d7e2d4e2d2e2d0e2cee2cce2cae2c8e2c6e2c4e2c2e2c0e2bee2bce2bae2b8e2b6e2b4e2b1e2afe2ade2abe2a9e2a7e2a5e2a3e2a1e29fe29de29be299e297e295e293e291e28ee28ce28ae288e286e284e282e280e27ee27ce27ae278e276e274e272e270e26ee26ce269e267e265e263e261e25fe25de25be259e257e255e253e251e24fe24de24be249e246e244e242e240e23ee23ce23ae238e236,
  0xe656e654e652e650e64ee64ce64ae648e645e643e641e63fe63de63be639e637e635e633e631e62fe62de62ae628e626e624e622e620e61ee61ce61ae618e616e614e612e60fe60de60be609e607e605e603e601e5ffe5fde5fbe5f9e5f7e5f5e5f2e5f0e5eee5ece5eae5e8e5e6e5e4e5e2e5e0e5dee5dce5dae5d7e5d5e5d3e5d1e5cfe5cde5cbe5c9e5c7e5c5e5c3e5c1e5bfe5bde5bae5b8e5b6e5b4e5b2e5b0e5aee5ace5aae5a8e5a6e5a4e5a2e59fe59de59be599e597e595e593e591e58fe58de58be589e587e585e582e580e57ee57ce57ae578e576e574e572e570e56ee56ce56ae568e565e563e561e55fe55de55be559e557e555e553e551e54fe54de54be548e546e544e542e540e53ee53ce53ae538e536e534e532e530e52ee52be529e527e525e523e521e51fe51de51be519e517e515e513e511e50ee50ce50ae508e506e504e502e500e4fee4fce4fae4f8e4f6e4f4e4f1e4efe4ede4ebe4e9e4e7e4e5e4e3e4e1e4dfe4dde4dbe4d9e4d7e4d4e4d2e4d0e4cee4cce4cae4c8e4c6e4c4e4c2e4c0e4bee4bce4bae4b8e4b5e4b3e4b1e4afe4ade4abe4a9e4a7e4a5e4a3e4a1e49fe49de49be498e496e494e492e490e48ee48ce48ae488e486e484e482e480e47ee47ce479e477e475e473e471e46fe46de46be469e467e465e463e461e45fe45de45ae458e456e454e452e450e44ee44ce44ae448e446,
  0xe86be869e867e865e863e861e85fe85ce85ae858e856e854e852e850e84ee84ce84ae848e846e843e841e83fe83de83be839e837e835e833e831e82fe82ce82ae828e826e824e822e820e81ee81ce81ae818e816e813e811e80fe80de80be809e807e805e803e801e7ffe7fde7fae7f8e7f6e7f4e7f2e7f0e7eee7ece7eae7e8e7e6e7e3e7e1e7dfe7dde7dbe7d9e7d7e7d5e7d3e7d1e7cfe7cde7cae7c8e7c6e7c4e7c2e7c0e7bee7bce7bae7b8e7b6e7b4e7b1e7afe7ade7abe7a9e7a7e7a5e7a3e7a1e79fe79de79be798e796e794e792e790e78ee78ce78ae788e786e784e782e77fe77de77be779e777e775e773e771e76fe76de76be769e766e764e762e760e75ee75ce75ae758e756e754e752e750e74ee74be749e747e745e743e741e73fe73de73be739e737e735e732e730e72ee72ce72ae728e726e724e722e720e71ee71ce719e717e715e713e711e70fe70de70be709e707e705e703e701e6fee6fce6fae6f8e6f6e6f4e6f2e6f0e6eee6ece6eae6e8e6e5e6e3e6e1e6dfe6dde6dbe6d9e6d7e6d5e6d3e6d1e6cfe6cde6cae6c8e6c6e6c4e6c2e6c0e6bee6bce6bae6b8e6b6e6b4e6b2e6afe6ade6abe6a9e6a7e6a5e6a3e6a1e69fe69de69be699e696e694e692e690e68ee68ce68ae688e686e684e682e680e67ee67be679e677e675e673e671e66fe66de66be669e667e665e663e660e65ee65ce65ae658,
  0xea83ea81ea7eea7cea7aea78ea76ea74ea72ea70ea6eea6cea69ea67ea65ea63ea61ea5fea5dea5bea59ea57ea55ea52ea50ea4eea4cea4aea48ea46ea44ea42ea40ea3dea3bea39ea37ea35ea33ea31ea2fea2dea2bea29ea26ea24ea22ea20ea1eea1cea1aea18ea16ea14ea11ea0fea0dea0bea09ea07ea05ea03ea01e9ffe9fde9fae9f8e9f6e9f4e9f2e9f0e9eee9ece9eae9e8e9e5e9e3e9e1e9dfe9dde9dbe9d9e9d7e9d5e9d3e9d1e9cee9cce9cae9c8e9c6e9c4e9c2e9c0e9bee9bce9bae9b7e9b5e9b3e9b1e9afe9ade9abe9a9e9a7e9a5e9a2e9a0e99ee99ce99ae998e996e994e992e990e98ee98be989e987e985e983e981e97fe97de97be979e977e974e972e970e96ee96ce96ae968e966e964e962e960e95de95be959e957e955e953e951e94fe94de94be949e946e944e942e940e93ee93ce93ae938e936e934e932e92fe92de92be929e927e925e923e921e91fe91de91be918e916e914e912e910e90ee90ce90ae908e906e904e901e8ffe8fde8fbe8f9e8f7e8f5e8f3e8f1e8efe8ede8eae8e8e8e6e8e4e8e2e8e0e8dee8dce8dae8d8e8d6e8d3e8d1e8cfe8cde8cbe8c9e8c7e8c5e8c3e8c1e8bfe8bce8bae8b8e8b6e8b4e8b2e8b0e8aee8ace8aae8a8e8a6e8a3e8a1e89fe89de89be899e897e895e893e891e88fe88ce88ae888e886e884e882e880e87ee87ce87ae878e876e873e871e86fe86d,
  0xec9dec9bec99ec97ec94ec92ec90ec8eec8cec8aec88ec86ec84ec81ec7fec7dec7bec79ec77ec75ec73ec71ec6fec6cec6aec68ec66ec64ec62ec60ec5eec5cec59ec57ec55ec53ec51ec4fec4dec4bec49ec46ec44ec42ec40ec3eec3cec3aec38ec36ec34ec31ec2fec2dec2bec29ec27ec25ec23ec21ec1eec1cec1aec18ec16ec14ec12ec10ec0eec0cec09ec07ec05ec03ec01ebffebfdebfbebf9ebf7ebf4ebf2ebf0ebeeebecebeaebe8ebe6ebe4ebe1ebdfebddebdbebd9ebd7ebd5ebd3ebd1ebcfebccebcaebc8ebc6ebc4ebc2ebc0ebbeebbcebb9ebb7ebb5ebb3ebb1ebafebadebabeba9eba7eba4eba2eba0eb9eeb9ceb9aeb98eb96eb94eb92eb8feb8deb8beb89eb87eb85eb83eb81eb7feb7deb7aeb78eb76eb74eb72eb70eb6eeb6ceb6aeb67eb65eb63eb61eb5feb5deb5beb59eb57eb55eb52eb50eb4eeb4ceb4aeb48eb46eb44eb42eb40eb3deb3beb39eb37eb35eb33eb31eb2feb2deb2beb28eb26eb24eb22eb20eb1eeb1ceb1aeb18eb16eb13eb11eb0feb0deb0beb09eb07eb05eb03eb01eafeeafceafaeaf8eaf6eaf4eaf2eaf0eaeeeaeceae9eae7eae5eae3eae1eadfeaddeadbead9ead7ead4ead2ead0eaceeacceacaeac8eac6eac4eac2eabfeabdeabbeab9eab7eab5eab3eab1eaafeaadeaabeaa8eaa6eaa4eaa2eaa0ea9eea9cea9aea98ea96ea93ea91ea8fea8dea8bea89ea87ea85,
  0xeebaeeb8eeb5eeb3eeb1eeafeeadeeabeea9eea7eea5eea2eea0ee9eee9cee9aee98ee96ee94ee91ee8fee8dee8bee89ee87ee85ee83ee81ee7eee7cee7aee78ee76ee74ee72ee70ee6dee6bee69ee67ee65ee63ee61ee5fee5dee5aee58ee56ee54ee52ee50ee4eee4cee4aee47ee45ee43ee41ee3fee3dee3bee39ee36ee34ee32ee30ee2eee2cee2aee28ee26ee23ee21ee1fee1dee1bee19ee17ee15ee13ee10ee0eee0cee0aee08ee06ee04ee02ee00edfdedfbedf9edf7edf5edf3edf1edefedecedeaede8ede6ede4ede2ede0eddeeddcedd9edd7edd5edd3edd1edcfedcdedcbedc9edc6edc4edc2edc0edbeedbcedbaedb8edb6edb3edb1edafedadedabeda9eda7eda5eda3eda0ed9eed9ced9aed98ed96ed94ed92ed8fed8ded8bed89ed87ed85ed83ed81ed7fed7ced7aed78ed76ed74ed72ed70ed6eed6ced69ed67ed65ed63ed61ed5fed5ded5bed59ed56ed54ed52ed50ed4eed4ced4aed48ed46ed43ed41ed3fed3ded3bed39ed37ed35ed33ed30ed2eed2ced2aed28ed26ed24ed22ed20ed1eed1bed19ed17ed15ed13ed11ed0fed0ded0bed08ed06ed04ed02ed00ecfeecfcecfaecf8ecf5ecf3ecf1ecefecedecebece9ece7ece5ece2ece0ecdeecdcecdaecd8ecd6ecd4ecd2eccfeccdeccbecc9ecc7ecc5ecc3ecc1ecbfecbcecbaecb8ecb6ecb4ecb2ecb0ecaeecacecaaeca7eca5eca3eca1ec9f,
  0xf0d9f0d7f0d5f0d3f0d1f0cff0ccf0caf0c8f0c6f0c4f0c2f0c0f0bef0bbf0b9f0b7f0b5f0b3f0b1f0aff0acf0aaf0a8f0a6f0a4f0a2f0a0f09ef09bf099f097f095f093f091f08ff08df08af088f086f084f082f080f07ef07cf079f077f075f073f071f06ff06df06bf068f066f064f062f060f05ef05cf05af057f055f053f051f04ff04df04bf049f046f044f042f040f03ef03cf03af038f035f033f031f02ff02df02bf029f027f024f022f020f01ef01cf01af018f016f013f011f00ff00df00bf009f007f005f002f000effeeffceffaeff8eff6eff4eff1efefefedefebefe9efe7efe5efe3efe0efdeefdcefdaefd8efd6efd4efd2efcfefcdefcbefc9efc7efc5efc3efc1efbeefbcefbaefb8efb6efb4efb2efb0efaeefabefa9efa7efa5efa3efa1ef9fef9def9aef98ef96ef94ef92ef90ef8eef8cef89ef87ef85ef83ef81ef7fef7def7bef78ef76ef74ef72ef70ef6eef6cef6aef67ef65ef63ef61ef5fef5def5bef59ef57ef54ef52ef50ef4eef4cef4aef48ef46ef43ef41ef3fef3def3bef39ef37ef35ef32ef30ef2eef2cef2aef28ef26ef24ef22ef1fef1def1bef19ef17ef15ef13ef11ef0eef0cef0aef08ef06ef04ef02ef00eefdeefbeef9eef7eef5eef3eef1eeefeeedeeeaeee8eee6eee4eee2eee0eedeeedceed9eed7eed5eed3eed1eecfeecdeecbeec9eec6eec4eec2eec0eebeeebc,
  0xf2fbf2f9f2f7f2f5f2f3f2f1f2eef2ecf2eaf2e8f2e6f2e4f2e2f2dff2ddf2dbf2d9f2d7f2d5f2d3f2d0f2cef2ccf2caf2c8f2c6f2c4f2c2f2bff2bdf2bbf2b9f2b7f2b5f2b3f2b0f2aef2acf2aaf2a8f2a6f2a4f2a1f29ff29df29bf299f297f295f293f290f28ef28cf28af288f286f284f281f27ff27df27bf279f277f275f272f270f26ef26cf26af268f266f264f261f25ff25df25bf259f257f255f252f250f24ef24cf24af248f246f244f241f23ff23df23bf239f237f235f232f230f22ef22cf22af228f226f223f221f21ff21df21bf219f217f215f212f210f20ef20cf20af208f206f203f201f1fff1fdf1fbf1f9f1f7f1f5f1f2f1f0f1eef1ecf1eaf1e8f1e6f1e3f1e1f1dff1ddf1dbf1d9f1d7f1d5f1d2f1d0f1cef1ccf1caf1c8f1c6f1c3f1c1f1bff1bdf1bbf1b9f1b7f1b5f1b2f1b0f1aef1acf1aaf1a8f1a6f1a4f1a1f19ff19df19bf199f197f195f192f190f18ef18cf18af188f186f184f181f17ff17df17bf179f177f175f172f170f16ef16cf16af168f166f164f161f15ff15df15bf159f157f155f153f150f14ef14cf14af148f146f144f141f13ff13df13bf139f137f135f133f130f12ef12cf12af128f126f124f122f11ff11df11bf119f117f115f113f111f10ef10cf10af108f106f104f102f0fff0fdf0fbf0f9f0f7f0f5f0f3f0f1f0eef0ecf0eaf0e8f0e6f0e4f0e2f0e0f0ddf0db,
  0xf520f51ef51cf51af517f515f513f511f50ff50df50af508f506f504f502f500f4fef4fbf4f9f4f7f4f5f4f3f4f1f4eff4ecf4eaf4e8f4e6f4e4f4e2f4e0f4ddf4dbf4d9f4d7f4d5f4d3f4d0f4cef4ccf4caf4c8f4c6f4c4f4c1f4bff4bdf4bbf4b9f4b7f4b5f4b2f4b0f4aef4acf4aaf4a8f4a6f4a3f4a1f49ff49df49bf499f497f494f492f490f48ef48cf48af488f485f483f481f47ff47df47bf478f476f474f472f470f46ef46cf469f467f465f463f461f45ff45df45af458f456f454f452f450f44ef44bf449f447f445f443f441f43ff43cf43af438f436f434f432f430f42df42bf429f427f425f423f421f41ef41cf41af418f416f414f412f40ff40df40bf409f407f405f403f400f3fef3fcf3faf3f8f3f6f3f4f3f1f3eff3edf3ebf3e9f3e7f3e5f3e2f3e0f3def3dcf3daf3d8f3d6f3d3f3d1f3cff3cdf3cbf3c9f3c7f3c4f3c2f3c0f3bef3bcf3baf3b8f3b5f3b3f3b1f3aff3adf3abf3a9f3a6f3a4f3a2f3a0f39ef39cf39af397f395f393f391f38ff38df38bf388f386f384f382f380f37ef37cf379f377f375f373f371f36ff36df36af368f366f364f362f360f35ef35cf359f357f355f353f351f34ff34df34af348f346f344f342f340f33ef33bf339f337f335f333f331f32ff32cf32af328f326f324f322f320f31df31bf319f317f315f313f311f30ef30cf30af308f306f304f302f300f2fd,
  0xf747f745f743f741f73ff73df73af738f736f734f732f730f72df72bf729f727f725f723f720f71ef71cf71af718f716f714f711f70ff70df70bf709f707f704f702f700f6fef6fcf6faf6f7f6f5f6f3f6f1f6eff6edf6ebf6e8f6e6f6e4f6e2f6e0f6def6dbf6d9f6d7f6d5f6d3f6d1f6cef6ccf6caf6c8f6c6f6c4f6c2f6bff6bdf6bbf6b9f6b7f6b5f6b2f6b0f6aef6acf6aaf6a8f6a6f6a3f6a1f69ff69df69bf699f696f694f692f690f68ef68cf689f687f685f683f681f67ff67df67af678f676f674f672f670f66df66bf669f667f665f663f661f65ef65cf65af658f656f654f651f64ff64df64bf649f647f645f642f640f63ef63cf63af638f635f633f631f62ff62df62bf629f626f624f622f620f61ef61cf619f617f615f613f611f60ff60df60af608f606f604f602f600f5fdf5fbf5f9f5f7f5f5f5f3f5f1f5eef5ecf5eaf5e8f5e6f5e4f5e1f5dff5ddf5dbf5d9f5d7f5d5f5d2f5d0f5cef5ccf5caf5c8f5c6f5c3f5c1f5bff5bdf5bbf5b9f5b6f5b4f5b2f5b0f5aef5acf5aaf5a7f5a5f5a3f5a1f59ff59df59af598f596f594f592f590f58ef58bf589f587f585f583f581f57ff57cf57af578f576f574f572f56ff56df56bf569f567f565f563f560f55ef55cf55af558f556f554f551f54ff54df54bf549f547f544f542f540f53ef53cf53af538f535f533f531f52ff52df52bf529f526f524f522,
  0xf971f96ff96df96bf969f966f964f962f960f95ef95cf959f957f955f953f951f94ff94cf94af948f946f944f942f93ff93df93bf939f937f935f932f930f92ef92cf92af928f925f923f921f91ff91df91bf918f916f914f912f910f90ef90bf909f907f905f903f901f8fef8fcf8faf8f8f8f6f8f4f8f1f8eff8edf8ebf8e9f8e7f8e4f8e2f8e0f8def8dcf8daf8d7f8d5f8d3f8d1f8cff8cdf8caf8c8f8c6f8c4f8c2f8c0f8bdf8bbf8b9f8b7f8b5f8b3f8b0f8aef8acf8aaf8a8f8a6f8a3f8a1f89ff89df89bf899f896f894f892f890f88ef88cf889f887f885f883f881f87ff87cf87af878f876f874f872f86ff86df86bf869f867f865f862f860f85ef85cf85af858f855f853f851f84ff84df84bf848f846f844f842f840f83ef83bf839f837f835f833f831f82ff82cf82af828f826f824f822f81ff81df81bf819f817f815f812f810f80ef80cf80af808f805f803f801f7fff7fdf7fbf7f8f7f6f7f4f7f2f7f0f7eef7ebf7e9f7e7f7e5f7e3f7e1f7dff7dcf7daf7d8f7d6f7d4f7d2f7cff7cdf7cbf7c9f7c7f7c5f7c2f7c0f7bef7bcf7baf7b8f7b5f7b3f7b1f7aff7adf7abf7a8f7a6f7a4f7a2f7a0f79ef79cf799f797f795f793f791f78ff78cf78af788f786f784f782f77ff77df77bf779f777f775f772f770f76ef76cf76af768f766f763f761f75ff75df75bf759f756f754f752f750f74ef74cf749,
  0xfb9efb9cfb9afb97fb95fb93fb91fb8ffb8cfb8afb88fb86fb84fb82fb7ffb7dfb7bfb79fb77fb74fb72fb70fb6efb6cfb6afb67fb65fb63fb61fb5ffb5dfb5afb58fb56fb54fb52fb4ffb4dfb4bfb49fb47fb45fb42fb40fb3efb3cfb3afb37fb35fb33fb31fb2ffb2dfb2afb28fb26fb24fb22fb20fb1dfb1bfb19fb17fb15fb12fb10fb0efb0cfb0afb08fb05fb03fb01fafffafdfafbfaf8faf6faf4faf2faf0faedfaebfae9fae7fae5fae3fae0fadefadcfadafad8fad6fad3fad1facffacdfacbfac8fac6fac4fac2fac0fabefabbfab9fab7fab5fab3fab1faaefaacfaaafaa8faa6faa4faa1fa9ffa9dfa9bfa99fa96fa94fa92fa90fa8efa8cfa89fa87fa85fa83fa81fa7ffa7cfa7afa78fa76fa74fa72fa6ffa6dfa6bfa69fa67fa64fa62fa60fa5efa5cfa5afa57fa55fa53fa51fa4ffa4dfa4afa48fa46fa44fa42fa40fa3dfa3bfa39fa37fa35fa32fa30fa2efa2cfa2afa28fa25fa23fa21fa1ffa1dfa1bfa18fa16fa14fa12fa10fa0efa0bfa09fa07fa05fa03fa01f9fef9fcf9faf9f8f9f6f9f3f9f1f9eff9edf9ebf9e9f9e6f9e4f9e2f9e0f9def9dcf9d9f9d7f9d5f9d3f9d1f9cff9ccf9caf9c8f9c6f9c4f9c2f9bff9bdf9bbf9b9f9b7f9b5f9b2f9b0f9aef9acf9aaf9a8f9a5f9a3f9a1f99ff99df99af998f996f994f992f990f98df98bf989f987f985f983f980f97ef97cf97af978f976f973,
  0xfdcdfdcbfdc9fdc7fdc4fdc2fdc0fdbefdbcfdb9fdb7fdb5fdb3fdb1fdaefdacfdaafda8fda6fda4fda1fd9ffd9dfd9bfd99fd96fd94fd92fd90fd8efd8bfd89fd87fd85fd83fd81fd7efd7cfd7afd78fd76fd73fd71fd6ffd6dfd6bfd68fd66fd64fd62fd60fd5efd5bfd59fd57fd55fd53fd50fd4efd4cfd4afd48fd45fd43fd41fd3ffd3dfd3bfd38fd36fd34fd32fd30fd2dfd2bfd29fd27fd25fd22fd20fd1efd1cfd1afd18fd15fd13fd11fd0ffd0dfd0afd08fd06fd04fd02fcfffcfdfcfbfcf9fcf7fcf5fcf2fcf0fceefcecfceafce7fce5fce3fce1fcdffcddfcdafcd8fcd6fcd4fcd2fccffccdfccbfcc9fcc7fcc4fcc2fcc0fcbefcbcfcbafcb7fcb5fcb3fcb1fcaffcacfcaafca8fca6fca4fca2fc9ffc9dfc9bfc99fc97fc94fc92fc90fc8efc8cfc89fc87fc85fc83fc81fc7ffc7cfc7afc78fc76fc74fc71fc6ffc6dfc6bfc69fc67fc64fc62fc60fc5efc5cfc59fc57fc55fc53fc51fc4ffc4cfc4afc48fc46fc44fc41fc3ffc3dfc3bfc39fc37fc34fc32fc30fc2efc2cfc29fc27fc25fc23fc21fc1ffc1cfc1afc18fc16fc14fc11fc0ffc0dfc0bfc09fc07fc04fc02fc00fbfefbfcfbf9fbf7fbf5fbf3fbf1fbeffbecfbeafbe8fbe6fbe4fbe1fbdffbddfbdbfbd9fbd7fbd4fbd2fbd0fbcefbccfbc9fbc7fbc5fbc3fbc1fbbffbbcfbbafbb8fbb6fbb4fbb1fbaffbadfbabfba9fba7fba4fba2fba0,
  0xfffffffdfffbfff8fff6fff4fff2fff0ffedffebffe9ffe7ffe5ffe2ffe0ffdeffdcffdaffd7ffd5ffd3ffd1ffcfffccffcaffc8ffc6ffc4ffc1ffbfffbdffbbffb9ffb6ffb4ffb2ffb0ffaeffabffa9ffa7ffa5ffa3ffa0ff9eff9cff9aff98ff95ff93ff91ff8fff8dff8aff88ff86ff84ff82ff7fff7dff7bff79ff77ff74ff72ff70ff6eff6cff69ff67ff65ff63ff61ff5fff5cff5aff58ff56ff54ff51ff4fff4dff4bff49ff46ff44ff42ff40ff3eff3bff39ff37ff35ff33ff30ff2eff2cff2aff28ff25ff23ff21ff1fff1dff1aff18ff16ff14ff12ff0fff0dff0bff09ff07ff04ff02ff00fefefefcfef9fef7fef5fef3fef1feeffeecfeeafee8fee6fee4fee1fedffeddfedbfed9fed6fed4fed2fed0fecefecbfec9fec7fec5fec3fec0febefebcfebafeb8feb5feb3feb1feaffeadfeaafea8fea6fea4fea2fea0fe9dfe9bfe99fe97fe95fe92fe90fe8efe8cfe8afe87fe85fe83fe81fe7ffe7cfe7afe78fe76fe74fe71fe6ffe6dfe6bfe69fe66fe64fe62fe60fe5efe5cfe59fe57fe55fe53fe51fe4efe4cfe4afe48fe46fe43fe41fe3ffe3dfe3bfe38fe36fe34fe32fe30fe2efe2bfe29fe27fe25fe23fe20fe1efe1cfe1afe18fe15fe13fe11fe0ffe0dfe0afe08fe06fe04fe02fdfffdfdfdfbfdf9fdf7fdf5fdf2fdf0fdeefdecfdeafde7fde5fde3fde1fddffddcfddafdd8fdd6fdd4fdd2fdcf]

/-- complete-domain check: end points fixed, every consecutive pair ordered -/
theorem gamma22_fwd_u16_u16_ok : Fir.tableOk 65536 16 gamma22_fwd_u16_u16 = true :=
  Fir.Proofs.tableOk_of_tableAsc (by decide +kernel)

end Fir.Gen.Color
