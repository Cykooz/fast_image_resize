/-
  GENERATED by /verif/tools/extract_tables.py from the tables of the running implementation - do not edit.
-/
import Fir.Proofs.ColorLemmas
namespace Fir.Gen.Color

/-- table `srgb_fwd_u8_u16` (256 entries of 16 bits), packed 256 entries per numeral -/
def srgb_fwd_u8_u16 : List Nat := [
  0xfffffdb8fb74f933f6f5f4baf282f04dee1bebece9c0e797e571e34ee12edf11dcf7dae0d8ccd6bbd4add2a1d099ce94cc91ca92c895c69cc4a5c2b1c0c0bed2bce7baffb919b737b557b37bb1a1afcaadf6ac25aa56a88ba6c2a4fca339a1799fbb9e019c499a9498e29732958693dc923590908eef8d508bb48a1b888486f0855f83d1824680bd7f377db37c327ab4793977c0764a74d7736671f8708d6f246dbe6c5b6afa699c684066e86591643e62ed619e60525f095dc25c7e5b3d59fe58c157875650551b53e952b9518c50614f394e134cf04bcf4ab14995487c47654651453f4430432342184110400a3f073e063d073c0b3b123a1a392538333742365535693480339932b431d230f230152f3a2e612d8a2cb62be32b142a46297b28b227eb2726266425a324e5242a237022b92204215020a01ff11f441e9a1df21d4c1ca71c061b661ac81a2c199318fb186617d3174116b21625159a15101489140413811300128012031188110e109710210fae0f3c0ecc0e5e0df20d880d200cba0c550bf20b910b320ad50a790a2009c80972091d08ca087a082a07dd0791074706fe06b80673062f05ed05ad056f053204f604bc0484044d041803e503b303820353032502f902ce02a5027d02570232020e01eb01ca01ab018c016f015401390120010800f100db00c700b3009f008b007700630050003c002800140000]

/-- complete-domain check: end points fixed, every consecutive pair ordered -/
theorem srgb_fwd_u8_u16_ok : Fir.tableOk 256 16 srgb_fwd_u8_u16 = true :=
  Fir.Proofs.tableOk_of_tableAsc (by decide +kernel)

end Fir.Gen.Color
