/-
  GENERATED by /verif/tools/extract_tables.py from the tables of the running implementation - do not edit.
-/
import Fir.Proofs.ColorLemmas
namespace Fir.Gen.Color

/-- table `srgb_bwd_u16_u16` (65536 entries of 16 bits), packed 256 entries per numeral -/
def srgb_bwd_u16_u16 : List Nat := [
  0xcac0ca10c960c8a0c7f0c740c680c5d0c520c460c3b0c2f0c240c180c0d0c010bf60bea0bde0bd30bc70bbb0baf0ba30b980b8c0b800b740b680b5c0b500b440b380b2c0b200b130b070afb0aef0ae20ad60aca0abd0ab10aa40a980a8b0a7f0a720a650a590a4c0a3f0a320a250a180a0b09fe09f109e409d709ca09be09b109a40997098a097d0970096309560949093c092f09230916090908fc08ef08e208d508c808bb08ae08a108940887087b086e086108540847083a082d08200813080607f907ec07e007d307c607b907ac079f079207850778076b075e075107440738072b071e0711070406f706ea06dd06d006c306b606a9069d0690068306760669065c064f064206350628061b060e060105f505e805db05ce05c105b405a7059a058d058005730566055a054d0540053305260519050c04ff04f204e504d804cb04be04b204a50498048b047e047104640457044a043d043004230417040a03fd03f003e303d603c903bc03af03a203950388037b036f036203550348033b032e03210314030702fa02ed02e002d402c702ba02ad02a0029302860279026c025f025202450238022c021f0212020501f801eb01de01d101c401b701aa019d019101840177016a015d0150014301360129011c010f010200f500e900dc00cf00c200b500a8009b008e008100740067005a004e004100340027001a000d0000,
  0x15a915a1159a1592158b1583157c1574156d1565155d1556154e1547153f153815301528152115191512150a150214fb14f314eb14e414dc14d414cc14c514bd14b514ae14a6149e1496148e1487147f1477146f1467145f14581450144814401438143014281420141814101409140113f913f113e913e113d913d113c813c013b813b013a813a013981390138813801378136f1367135f1357134f1346133e1336132e1325131d1315130d130412fc12f412eb12e312db12d212ca12c112b912b112a812a01297128f1286127e1275126d1264125c1253124b1242123a1231122812201217120e120611fd11f411ec11e311da11d211c911c011b711ae11a6119d1194118b1182117911711168115f1156114d1144113b1132112911201117110e110510fc10f310ea10e010d710ce10c510bc10b310a910a01097108e1084107b10721069105f1056104d1043103a10301027101e1014100b10010ff80fee0fe50fdb0fd10fc80fbe0fb50fab0fa10f980f8e0f840f7b0f710f670f5d0f530f4a0f400f360f2c0f220f180f0e0f040efb0ef10ee70edd0ed30ec80ebe0eb40eaa0ea00e960e8c0e820e770e6d0e630e590e4e0e440e3a0e2f0e250e1b0e100e060dfb0df10de60ddc0dd10dc70dbc0db10da70d9c0d920d870d7c0d710d670d5c0d510d460d3b0d300d260d1b0d100d050cfa0cef0ce40cd80ccd0cc20cb7,
  0x1c3f1c391c341c2e1c281c221c1c1c161c101c0a1c041bfe1bf81bf21bec1be71be11bdb1bd51bcf1bc91bc31bbd1bb71bb11bab1ba51b9f1b991b931b8d1b871b811b7b1b751b6f1b681b621b5c1b561b501b4a1b441b3e1b381b321b2c1b261b1f1b191b131b0d1b071b011afb1af51aee1ae81ae21adc1ad61ad01ac91ac31abd1ab71ab11aaa1aa41a9e1a981a921a8b1a851a7f1a791a721a6c1a661a601a591a531a4d1a461a401a3a1a341a2d1a271a211a1a1a141a0e1a071a0119fa19f419ee19e719e119db19d419ce19c719c119bb19b419ae19a719a1199a1994198e19871981197a1974196d19671960195a1953194d1946194019391933192c1926191f19181912190b190518fe18f818f118ea18e418dd18d718d018c918c318bc18b518af18a818a1189b1894188d1887188018791873186c1865185e18581851184a1843183d1836182f18281822181b1814180d180617ff17f917f217eb17e417dd17d617d017c917c217bb17b417ad17a6179f17981791178a1783177d1776176f17681761175a1753174c1745173e1737173017291721171a1713170c170516fe16f716f016e916e216db16d416cc16c516be16b716b016a916a1169a1693168c1685167d1676166f1668166016591652164b1643163c1635162d1626161f161716101609160115fa15f315eb15e415dd15d515ce15c615bf15b715b0,
  0x21a521a0219b21962191218c21872182217d21782173216e21692164215f215a21552150214b21462141213c21372132212d21282123211e21182113210e2109210420ff20fa20f520f020eb20e620e120dc20d620d120cc20c720c220bd20b820b320ae20a820a3209e20992094208f208a2085207f207a20752070206b20662060205b20562051204c20472041203c20372032202d20272022201d20182013200d200820031ffe1ff81ff31fee1fe91fe41fde1fd91fd41fcf1fc91fc41fbf1fb91fb41faf1faa1fa41f9f1f9a1f941f8f1f8a1f851f7f1f7a1f751f6f1f6a1f651f5f1f5a1f551f4f1f4a1f451f3f1f3a1f351f2f1f2a1f251f1f1f1a1f141f0f1f0a1f041eff1efa1ef41eef1ee91ee41edf1ed91ed41ece1ec91ec31ebe1eb91eb31eae1ea81ea31e9d1e981e921e8d1e871e821e7d1e771e721e6c1e671e611e5c1e561e511e4b1e461e401e3b1e351e2f1e2a1e241e1f1e191e141e0e1e091e031dfe1df81df21ded1de71de21ddc1dd71dd11dcb1dc61dc01dbb1db51daf1daa1da41d9e1d991d931d8e1d881d821d7d1d771d711d6c1d661d601d5b1d551d4f1d4a1d441d3e1d381d331d2d1d271d221d1c1d161d101d0b1d051cff1cf91cf41cee1ce81ce21cdd1cd71cd11ccb1cc61cc01cba1cb41cae1ca91ca31c9d1c971c911c8b1c861c801c7a1c741c6e1c681c631c5d1c571c511c4b1c45,
  0x264c26482644263f263b26372632262e262926252621261c26182613260f260b2606260225fd25f925f525f025ec25e725e325df25da25d625d125cd25c825c425c025bb25b725b225ae25a925a525a1259c25982593258f258a25862581257d25782574256f256b25672562255e255925552550254c25472543253e253a25352531252c25282523251f251a25162511250d2508250424ff24fa24f624f124ed24e824e424df24db24d624d224cd24c924c424bf24bb24b624b224ad24a924a424a0249b24962492248d24892484247f247b24762472246d24682464245f245b24562451244d24482444243f243a24362431242c24282423241f241a24152411240c2407240323fe23f923f523f023eb23e723e223dd23d923d423cf23cb23c623c123bd23b823b323af23aa23a523a1239c23972392238e238923842380237b23762371236d23682363235f235a23552350234c23472342233d23392334232f232a23262321231c23172312230e2309230422ff22fb22f622f122ec22e722e322de22d922d422cf22cb22c622c122bc22b722b222ae22a922a4229f229a22952291228c22872282227d22782273226f226a22652260225b22562251224c22482243223e22392234222f222a22252220221c22172212220d2208220321fe21f921f421ef21ea21e521e021db21d721d221cd21c821c321be21b921b421af21aa,
  0x2a702a6c2a682a642a602a5c2a582a542a502a4c2a482a442a402a3c2a382a342a302a2d2a292a252a212a1d2a192a152a112a0d2a092a052a0129fd29f929f529f129ed29e929e529e129dd29d929d529d129cd29c929c529c129bd29b929b529b129ad29a929a529a1299d299929952991298d298929852981297d297929752971296d296929652961295d295929552951294d294929452941293d293929342930292c292829242920291c291829142910290c29082904290028fc28f828f328ef28eb28e728e328df28db28d728d328cf28cb28c728c228be28ba28b628b228ae28aa28a628a2289e289928952891288d288928852881287d287828742870286c286828642860285c28572853284f284b28472843283e283a28362832282e282a28262821281d281928152811280d28082804280027fc27f827f327ef27eb27e727e327df27da27d627d227ce27ca27c527c127bd27b927b527b027ac27a827a4279f279b27972793278f278a27862782277e277927752771276d276827642760275c27582753274f274b27472742273e273a27352731272d272927242720271c27182713270f270b2706270226fe26fa26f526f126ed26e826e426e026dc26d726d326cf26ca26c626c226bd26b926b526b026ac26a826a3269f269b26962692268e268926852681267c26782674266f266b26672662265e265a26552651,
  0x2e302e2c2e292e252e222e1e2e1a2e172e132e102e0c2e082e052e012dfe2dfa2df62df32def2deb2de82de42de12ddd2dd92dd62dd22dcf2dcb2dc72dc42dc02dbc2db92db52db22dae2daa2da72da32d9f2d9c2d982d942d912d8d2d8a2d862d822d7f2d7b2d772d742d702d6c2d692d652d612d5e2d5a2d562d532d4f2d4b2d482d442d402d3d2d392d352d322d2e2d2a2d272d232d1f2d1c2d182d142d112d0d2d092d062d022cfe2cfa2cf72cf32cef2cec2ce82ce42ce12cdd2cd92cd52cd22cce2cca2cc72cc32cbf2cbc2cb82cb42cb02cad2ca92ca52ca12c9e2c9a2c962c932c8f2c8b2c872c842c802c7c2c782c752c712c6d2c692c662c622c5e2c5a2c572c532c4f2c4b2c482c442c402c3c2c392c352c312c2d2c2a2c262c222c1e2c1b2c172c132c0f2c0b2c082c042c002bfc2bf92bf52bf12bed2be92be62be22bde2bda2bd72bd32bcf2bcb2bc72bc42bc02bbc2bb82bb42bb02bad2ba92ba52ba12b9d2b9a2b962b922b8e2b8a2b872b832b7f2b7b2b772b732b702b6c2b682b642b602b5c2b592b552b512b4d2b492b452b412b3e2b3a2b362b322b2e2b2a2b262b232b1f2b1b2b172b132b0f2b0b2b082b042b002afc2af82af42af02aec2ae92ae52ae12add2ad92ad52ad12acd2ac92ac62ac22abe2aba2ab62ab22aae2aaa2aa62aa22a9f2a9b2a972a932a8f2a8b2a872a832a7f2a7b2a772a73,
  0x31a331a0319c319931963192318f318c318831853182317f317b317831753171316e316b316731643160315d315a315631533150314c314931463142313f313c313831353132312e312b312831243121311e311a311731133110310d31093106310330ff30fc30f930f530f230ee30eb30e830e430e130de30da30d730d330d030cd30c930c630c230bf30bc30b830b530b230ae30ab30a730a430a1309d309a309630933090308c308930853082307f307b307830743071306e306a306730633060305c305930563052304f304b304830453041303e303a303730333030302d302930263022301f301b301830153011300e300a3007300330002ffc2ff92ff62ff22fef2feb2fe82fe42fe12fdd2fda2fd62fd32fd02fcc2fc92fc52fc22fbe2fbb2fb72fb42fb02fad2fa92fa62fa32f9f2f9c2f982f952f912f8e2f8a2f872f832f802f7c2f792f752f722f6e2f6b2f672f642f602f5d2f592f562f522f4f2f4b2f482f442f412f3d2f3a2f362f332f2f2f2c2f282f252f212f1e2f1a2f172f132f102f0c2f092f052f022efe2efb2ef72ef42ef02eed2ee92ee52ee22ede2edb2ed72ed42ed02ecd2ec92ec62ec22ebf2ebb2eb72eb42eb02ead2ea92ea62ea22e9f2e9b2e972e942e902e8d2e892e862e822e7f2e7b2e772e742e702e6d2e692e662e622e5e2e5b2e572e542e502e4d2e492e452e422e3e2e3b2e372e33,
  0x34d834d534d234cf34cc34c834c534c234bf34bc34b934b634b334b034ac34a934a634a334a0349d349a349734943490348d348a348734843481347e347b347734743471346e346b346834653462345e345b345834553452344f344c344934453442343f343c343934363433342f342c3429342634233420341d3419341634133410340d340a34063403340033fd33fa33f733f433f033ed33ea33e733e433e133dd33da33d733d433d133ce33ca33c733c433c133be33bb33b733b433b133ae33ab33a833a433a1339e339b339833943391338e338b338833843381337e337b337833753371336e336b336833653361335e335b335833553351334e334b334833453341333e333b333833353331332e332b332833243321331e331b331833143311330e330b33083304330132fe32fb32f732f432f132ee32ea32e732e432e132de32da32d732d432d132cd32ca32c732c432c032bd32ba32b732b332b032ad32aa32a632a332a0329d3299329632933290328c328932863283327f327c327932763272326f326c326932653262325f325c325832553252324e324b324832453241323e323b323832343231322e322a322732243221321d321a321732133210320d320a32063203320031fc31f931f631f331ef31ec31e931e531e231df31db31d831d531d131ce31cb31c831c431c131be31ba31b731b431b031ad31aa31a6,
  0x37d937d637d337d037cd37cb37c837c537c237bf37bc37b937b637b337b037ad37aa37a737a537a2379f379c3799379637933790378d378a378737843781377e377c3779377637733770376d376a376737643761375e375b375837553752374f374c374a374737443741373e373b373837353732372f372c3729372637233720371d371a371737143711370e370b370837063703370036fd36fa36f736f436f136ee36eb36e836e536e236df36dc36d936d636d336d036cd36ca36c736c436c136be36bb36b836b536b236af36ac36a936a636a336a0369d369a369736943691368e368b368836853682367f367c3679367636733670366d366a366736643661365e365b365836553652364f364c3649364636433640363d363a363736343631362e362b362836253622361f361c3619361636133610360d360a36073604360135fe35fb35f835f535f235ef35ec35e935e635e335e035dd35da35d735d435d035cd35ca35c735c435c135be35bb35b835b535b235af35ac35a935a635a335a0359d359a359735943591358d358a358735843581357e357b357835753572356f356c3569356635633560355d3559355635533550354d354a354735443541353e353b353835353532352e352b352835253522351f351c3519351635133510350d350935063503350034fd34fa34f734f434f134ee34eb34e734e434e134de34db,
  0x3aaf3aac3aa93aa63aa43aa13a9e3a9b3a993a963a933a903a8e3a8b3a883a853a823a803a7d3a7a3a773a753a723a6f3a6c3a6a3a673a643a613a5e3a5c3a593a563a533a513a4e3a4b3a483a453a433a403a3d3a3a3a383a353a323a2f3a2c3a2a3a273a243a213a1e3a1c3a193a163a133a113a0e3a0b3a083a053a033a0039fd39fa39f739f539f239ef39ec39e939e739e439e139de39db39d939d639d339d039cd39cb39c839c539c239bf39bd39ba39b739b439b139af39ac39a939a639a339a0399e399b3998399539923990398d398a398739843981397f397c3979397639733971396e396b3968396539623960395d395a395739543951394f394c3949394639433940393e393b393839353932392f392d392a392739243921391e391c3919391639133910390d390a39083905390238ff38fc38f938f738f438f138ee38eb38e838e538e338e038dd38da38d738d438d138cf38cc38c938c638c338c038bd38bb38b838b538b238af38ac38a938a638a438a1389e389b389838953892388f388d388a388738843881387e387b3878387638733870386d386a386738643861385f385c3859385638533850384d384a384738453842383f383c3839383638333830382d382b382838253822381f381c3819381638133810380e380b38083805380237ff37fc37f937f637f337f037ee37eb37e837e537e237df37dc,
  0x3d5f3d5c3d593d573d543d513d4f3d4c3d4a3d473d443d423d3f3d3c3d3a3d373d353d323d2f3d2d3d2a3d273d253d223d203d1d3d1a3d183d153d123d103d0d3d0a3d083d053d033d003cfd3cfb3cf83cf53cf33cf03ced3ceb3ce83ce63ce33ce03cde3cdb3cd83cd63cd33cd03cce3ccb3cc83cc63cc33cc03cbe3cbb3cb83cb63cb33cb13cae3cab3ca93ca63ca33ca13c9e3c9b3c993c963c933c913c8e3c8b3c893c863c833c813c7e3c7b3c793c763c733c713c6e3c6b3c693c663c633c613c5e3c5b3c593c563c533c513c4e3c4b3c493c463c433c413c3e3c3b3c393c363c333c313c2e3c2b3c293c263c233c203c1e3c1b3c183c163c133c103c0e3c0b3c083c063c033c003bfe3bfb3bf83bf53bf33bf03bed3beb3be83be53be33be03bdd3bdb3bd83bd53bd23bd03bcd3bca3bc83bc53bc23bc03bbd3bba3bb73bb53bb23baf3bad3baa3ba73ba53ba23b9f3b9c3b9a3b973b943b923b8f3b8c3b893b873b843b813b7f3b7c3b793b763b743b713b6e3b6c3b693b663b633b613b5e3b5b3b593b563b533b503b4e3b4b3b483b453b433b403b3d3b3b3b383b353b323b303b2d3b2a3b273b253b223b1f3b1c3b1a3b173b143b123b0f3b0c3b093b073b043b013afe3afc3af93af63af33af13aee3aeb3ae83ae63ae33ae03add3adb3ad83ad53ad23ad03acd3aca3ac73ac53ac23abf3abc3aba3ab73ab43ab1,
  0x3fee3feb3fe93fe63fe43fe13fdf3fdc3fda3fd73fd53fd23fd03fcd3fcb3fc83fc63fc33fc13fbe3fbc3fb93fb73fb43fb23faf3fad3faa3fa83fa53fa33fa03f9e3f9b3f993f963f943f913f8e3f8c3f893f873f843f823f7f3f7d3f7a3f783f753f733f703f6e3f6b3f693f663f643f613f5f3f5c3f5a3f573f543f523f4f3f4d3f4a3f483f453f433f403f3e3f3b3f393f363f343f313f2e3f2c3f293f273f243f223f1f3f1d3f1a3f183f153f133f103f0d3f0b3f083f063f033f013efe3efc3ef93ef73ef43ef23eef3eec3eea3ee73ee53ee23ee03edd3edb3ed83ed53ed33ed03ece3ecb3ec93ec63ec43ec13ebe3ebc3eb93eb73eb43eb23eaf3ead3eaa3ea73ea53ea23ea03e9d3e9b3e983e963e933e903e8e3e8b3e893e863e843e813e7e3e7c3e793e773e743e723e6f3e6c3e6a3e673e653e623e603e5d3e5a3e583e553e533e503e4e3e4b3e483e463e433e413e3e3e3c3e393e363e343e313e2f3e2c3e2a3e273e243e223e1f3e1d3e1a3e173e153e123e103e0d3e0a3e083e053e033e003dfe3dfb3df83df63df33df13dee3deb3de93de63de43de13dde3ddc3dd93dd73dd43dd13dcf3dcc3dca3dc73dc43dc23dbf3dbd3dba3db73db53db23db03dad3daa3da83da53da33da03d9d3d9b3d983d963d933d903d8e3d8b3d883d863d833d813d7e3d7b3d793d763d743d713d6e3d6c3d693d663d643d61,
  0x4260425e425c42594257425442524250424d424b4248424642444241423f423c423a4238423542334230422e422c4229422742244222421f421d421b4218421642134211420f420c420a420742054203420041fe41fb41f941f741f441f241ef41ed41ea41e841e641e341e141de41dc41da41d741d541d241d041cd41cb41c941c641c441c141bf41bd41ba41b841b541b341b041ae41ac41a941a741a441a2419f419d419b4198419641934191418e418c418a4187418541824180417d417b4179417641744171416f416c416a4167416541634160415e415b4159415641544152414f414d414a4148414541434140413e413c4139413741344132412f412d412a4128412641234121411e411c41194117411441124110410d410b410841064103410140fe40fc40f940f740f540f240f040ed40eb40e840e640e340e140de40dc40d940d740d540d240d040cd40cb40c840c640c340c140be40bc40b940b740b540b240b040ad40ab40a840a640a340a1409e409c4099409740944092408f408d408b4088408640834081407e407c4079407740744072406f406d406a4068406540634060405e405b4059405740544052404f404d404a4048404540434040403e403b4039403640344031402f402c402a4027402540224020401d401b4018401640134011400e400c40094007400440023fff3ffd3ffa3ff83ff53ff33ff0,
  0x44b944b744b544b244b044ae44ab44a944a744a444a244a0449e449b44994497449444924490448d448b44894486448444824480447d447b4479447644744472446f446d446b4468446644644461445f445d445b4458445644544451444f444d444a4448444644434441443f443c443a4438443544334431442e442c442a4428442544234421441e441c441a4417441544134410440e440c4409440744054402440043fe43fb43f943f743f443f243f043ed43eb43e943e643e443e243df43dd43db43d843d643d443d143cf43cd43ca43c843c643c343c143bf43bc43ba43b843b543b343b143ae43ac43aa43a743a543a343a0439e439b43994397439443924390438d438b4389438643844382437f437d437b4378437643744371436f436d436a4368436543634361435e435c435a4357435543534350434e434c43494347434443424340433d433b4339433643344332432f432d432a4328432643234321431f431c431a4318431543134310430e430c4309430743054302430042fe42fb42f942f642f442f242ef42ed42eb42e842e642e342e142df42dc42da42d842d542d342d042ce42cc42c942c742c542c242c042bd42bb42b942b642b442b242af42ad42aa42a842a642a342a1429e429c429a4297429542934290428e428b4289428742844282427f427d427b4278427642734271426f426c426a426742654263,
  0x46fb46f946f746f446f246f046ee46ec46e946e746e546e346e046de46dc46da46d846d546d346d146cf46cc46ca46c846c646c446c146bf46bd46bb46b846b646b446b246b046ad46ab46a946a746a446a246a0469e469b46994697469546934690468e468c468a4687468546834681467e467c467a4678467646734671466f466d466a4668466646644661465f465d465b46584656465446524650464d464b46494647464446424640463e463b46394637463546324630462e462c46294627462546234620461e461c461a4617461546134611460e460c460a460846054603460145ff45fc45fa45f845f645f345f145ef45ed45ea45e845e645e445e145df45dd45db45d845d645d445d245cf45cd45cb45c845c645c445c245bf45bd45bb45b945b645b445b245b045ad45ab45a945a745a445a245a0459d459b45994597459445924590458e458b45894587458545824580457e457b45794577457545724570456e456c45694567456545624560455e455c45594557455545534550454e454c45494547454545434540453e453c45394537453545334530452e452c45294527452545234520451e451c45194517451545134510450e450c4509450745054503450044fe44fc44f944f744f544f344f044ee44ec44e944e744e544e344e044de44dc44d944d744d544d244d044ce44cc44c944c744c544c244c044be44bb,
  0x49284926492449224920491e491b49194917491549134911490f490c490a4908490649044902490048fd48fb48f948f748f548f348f148ee48ec48ea48e848e648e448e248df48dd48db48d948d748d548d248d048ce48cc48ca48c848c648c348c148bf48bd48bb48b948b648b448b248b048ae48ac48aa48a748a548a348a1489f489d489a48984896489448924890488e488b48894887488548834881487e487c487a4878487648744871486f486d486b48694867486448624860485e485c485a4857485548534851484f484d484a48484846484448424840483d483b48394837483548334830482e482c482a4828482648234821481f481d481b48184816481448124810480e480b4809480748054803480147fe47fc47fa47f847f647f347f147ef47ed47eb47e947e647e447e247e047de47db47d947d747d547d347d147ce47cc47ca47c847c647c347c147bf47bd47bb47b847b647b447b247b047ad47ab47a947a747a547a347a0479e479c479a4798479547934791478f478d478a4788478647844782477f477d477b47794777477447724770476e476c47694767476547634761475e475c475a4758475647534751474f474d474b47484746474447424740473d473b47394737473547324730472e472c472a4727472547234721471e471c471a4718471647134711470f470d470b470847064704470246ff46fd,
  0x4b434b414b3e4b3c4b3a4b384b364b344b324b304b2e4b2c4b2a4b284b264b244b214b1f4b1d4b1b4b194b174b154b134b114b0f4b0d4b0b4b094b074b044b024b004afe4afc4afa4af84af64af44af24af04aee4aec4ae94ae74ae54ae34ae14adf4add4adb4ad94ad74ad54ad34ad04ace4acc4aca4ac84ac64ac44ac24ac04abe4abc4aba4ab74ab54ab34ab14aaf4aad4aab4aa94aa74aa54aa34aa04a9e4a9c4a9a4a984a964a944a924a904a8e4a8c4a894a874a854a834a814a7f4a7d4a7b4a794a774a754a724a704a6e4a6c4a6a4a684a664a644a624a604a5d4a5b4a594a574a554a534a514a4f4a4d4a4b4a484a464a444a424a404a3e4a3c4a3a4a384a364a334a314a2f4a2d4a2b4a294a274a254a234a214a1e4a1c4a1a4a184a164a144a124a104a0e4a0b4a094a074a054a034a0149ff49fd49fb49f849f649f449f249f049ee49ec49ea49e849e549e349e149df49dd49db49d949d749d549d249d049ce49cc49ca49c849c649c449c149bf49bd49bb49b949b749b549b349b149ae49ac49aa49a849a649a449a249a0499d499b49994997499549934991498f498c498a49884986498449824980497e497b49794977497549734971496f496d496a49684966496449624960495e495b49594957495549534951494f494d494a49484946494449424940493e493b49394937493549334931492f492d492a,
  0x4d4c4d4a4d484d464d444d424d404d3e4d3c4d3a4d384d364d344d324d304d2e4d2c4d2a4d284d264d244d224d204d1e4d1c4d1a4d184d164d144d124d104d0e4d0c4d0a4d084d064d044d024cff4cfd4cfb4cf94cf74cf54cf34cf14cef4ced4ceb4ce94ce74ce54ce34ce14cdf4cdd4cdb4cd94cd74cd54cd34cd14ccf4ccd4ccb4cc94cc74cc54cc34cc14cbf4cbd4cbb4cb94cb74cb54cb34cb14caf4cad4cab4ca94ca74ca54ca34ca14c9f4c9d4c9b4c984c964c944c924c904c8e4c8c4c8a4c884c864c844c824c804c7e4c7c4c7a4c784c764c744c724c704c6e4c6c4c6a4c684c664c644c624c604c5e4c5c4c5a4c584c554c534c514c4f4c4d4c4b4c494c474c454c434c414c3f4c3d4c3b4c394c374c354c334c314c2f4c2d4c2b4c294c274c254c234c214c1e4c1c4c1a4c184c164c144c124c104c0e4c0c4c0a4c084c064c044c024c004bfe4bfc4bfa4bf84bf64bf44bf24bef4bed4beb4be94be74be54be34be14bdf4bdd4bdb4bd94bd74bd54bd34bd14bcf4bcd4bcb4bc94bc64bc44bc24bc04bbe4bbc4bba4bb84bb64bb44bb24bb04bae4bac4baa4ba84ba64ba44ba24b9f4b9d4b9b4b994b974b954b934b914b8f4b8d4b8b4b894b874b854b834b814b7f4b7c4b7a4b784b764b744b724b704b6e4b6c4b6a4b684b664b644b624b604b5d4b5b4b594b574b554b534b514b4f4b4d4b4b4b494b474b45,
  0x4f454f434f414f3f4f3d4f3c4f3a4f384f364f344f324f304f2e4f2c4f2a4f284f264f244f224f204f1e4f1c4f1a4f184f174f154f134f114f0f4f0d4f0b4f094f074f054f034f014eff4efd4efb4ef94ef74ef54ef34ef14eef4eed4eec4eea4ee84ee64ee44ee24ee04ede4edc4eda4ed84ed64ed44ed24ed04ece4ecc4eca4ec84ec64ec44ec24ec04ebf4ebd4ebb4eb94eb74eb54eb34eb14eaf4ead4eab4ea94ea74ea54ea34ea14e9f4e9d4e9b4e994e974e954e934e914e8f4e8d4e8b4e894e884e864e844e824e804e7e4e7c4e7a4e784e764e744e724e704e6e4e6c4e6a4e684e664e644e624e604e5e4e5c4e5a4e584e564e544e524e504e4e4e4c4e4a4e484e464e454e434e414e3f4e3d4e3b4e394e374e354e334e314e2f4e2d4e2b4e294e274e254e234e214e1f4e1d4e1b4e194e174e154e134e114e0f4e0d4e0b4e094e074e054e034e014dff4dfd4dfb4df94df74df54df34df14def4ded4deb4de94de74de54de34de14ddf4dde4ddc4dda4dd84dd64dd44dd24dd04dce4dcc4dca4dc84dc64dc44dc24dc04dbe4dbc4dba4db84db64db44db24db04dae4dac4daa4da84da64da44da24da04d9e4d9c4d9a4d984d964d944d924d904d8e4d8c4d8a4d884d864d844d824d804d7e4d7c4d7a4d784d764d744d724d704d6e4d6c4d6a4d684d664d644d624d604d5e4d5c4d5a4d584d564d544d524d504d4e,
  0x5130512e512c512a51295127512551235121511f511d511b511951185116511451125110510e510c510a5108510651055103510150ff50fd50fb50f950f750f550f450f250f050ee50ec50ea50e850e650e450e250e150df50dd50db50d950d750d550d350d150cf50ce50cc50ca50c850c650c450c250c050be50bc50bb50b950b750b550b350b150af50ad50ab50a950a750a650a450a250a0509e509c509a50985096509450935091508f508d508b50895087508550835081507f507e507c507a50785076507450725070506e506c506a50685067506550635061505f505d505b505950575055505350525050504e504c504a50485046504450425040503e503c503b50395037503550335031502f502d502b502950275025502450225020501e501c501a50185016501450125010500e500c500b500950075005500350014fff4ffd4ffb4ff94ff74ff54ff34ff24ff04fee4fec4fea4fe84fe64fe44fe24fe04fde4fdc4fda4fd84fd74fd54fd34fd14fcf4fcd4fcb4fc94fc74fc54fc34fc14fbf4fbd4fbb4fba4fb84fb64fb44fb24fb04fae4fac4faa4fa84fa64fa44fa24fa04f9e4f9d4f9b4f994f974f954f934f914f8f4f8d4f8b4f894f874f854f834f814f804f7e4f7c4f7a4f784f764f744f724f704f6e4f6c4f6a4f684f664f644f624f604f5f4f5d4f5b4f594f574f554f534f514f4f4f4d4f4b4f494f47,
  0x530e530c530a5308530653045303530152ff52fd52fb52f952f752f652f452f252f052ee52ec52eb52e952e752e552e352e152e052de52dc52da52d852d652d452d352d152cf52cd52cb52c952c852c652c452c252c052be52bc52bb52b952b752b552b352b152af52ae52ac52aa52a852a652a452a352a1529f529d529b529952975296529452925290528e528c528a52895287528552835281527f527d527c527a52785276527452725270526f526d526b526952675265526352625260525e525c525a52585256525552535251524f524d524b524952485246524452425240523e523c523b52395237523552335231522f522e522c522a52285226522452225220521f521d521b521952175215521352125210520e520c520a5208520652045203520151ff51fd51fb51f951f751f651f451f251f051ee51ec51ea51e851e751e551e351e151df51dd51db51d951d851d651d451d251d051ce51cc51ca51c951c751c551c351c151bf51bd51bb51ba51b851b651b451b251b051ae51ac51ab51a951a751a551a351a1519f519d519c519a51985196519451925190518e518d518b51895187518551835181517f517d517c517a51785176517451725170516e516d516b51695167516551635161515f515d515c515a51585156515451525150514e514c514b51495147514551435141513f513d513b513a5138513651345132,
  0x54de54dd54db54d954d754d654d454d254d054ce54cd54cb54c954c754c554c454c254c054be54bc54bb54b954b754b554b354b254b054ae54ac54aa54a954a754a554a354a154a0549e549c549a54985497549554935491548f548e548c548a54885486548554835481547f547d547c547a54785476547454735471546f546d546b546a54685466546454625461545f545d545b545954585456545454525450544e544d544b544954475445544454425440543e543c543b543954375435543354325430542e542c542a54295427542554235421541f541e541c541a54185416541554135411540f540d540c540a5408540654045402540153ff53fd53fb53f953f853f653f453f253f053ee53ed53eb53e953e753e553e453e253e053de53dc53da53d953d753d553d353d153d053ce53cc53ca53c853c653c553c353c153bf53bd53bc53ba53b853b653b453b253b153af53ad53ab53a953a753a653a453a253a0539e539d539b539953975395539353925390538e538c538a53885387538553835381537f537d537c537a53785376537453725371536f536d536b536953685366536453625360535e535d535b535953575355535353525350534e534c534a53485347534553435341533f533d533c533a53385336533453325330532f532d532b532953275325532453225320531e531c531a53195317531553135311530f,
  0x56a456a256a0569f569d569b569956985696569456925691568f568d568b568a56885686568456835681567f567d567c567a56785676567456735671566f566d566c566a56685666566556635661565f565e565c565a565856575655565356515650564e564c564a564956475645564356425640563e563c563b563956375635563456325630562e562c562b562956275625562456225620561e561d561b561956175616561456125610560f560d560b56095607560656045602560055ff55fd55fb55f955f855f655f455f255f155ef55ed55eb55e955e855e655e455e255e155df55dd55db55da55d855d655d455d255d155cf55cd55cb55ca55c855c655c455c355c155bf55bd55bb55ba55b855b655b455b355b155af55ad55ac55aa55a855a655a455a355a1559f559d559c559a55985596559455935591558f558d558c558a55885586558455835581557f557d557c557a55785576557455735571556f556d556c556a55685566556455635561555f555d555c555a55585556555455535551554f554d554c554a55485546554455435541553f553d553b553a55385536553455335531552f552d552b552a55285526552455235521551f551d551b551a55185516551455125511550f550d550b55095508550655045502550154ff54fd54fb54f954f854f654f454f254f054ef54ed54eb54e954e754e654e454e254e0,
  0x585e585c585b585958575856585458525851584f584d584b584a58485846584558435841583f583e583c583a583958375835583358325830582e582d582b582958275826582458225821581f581d581b581a58185816581558135811580f580e580c580a58095807580558035802580057fe57fd57fb57f957f757f657f457f257f157ef57ed57eb57ea57e857e657e557e357e157df57de57dc57da57d857d757d557d357d257d057ce57cc57cb57c957c757c657c457c257c057bf57bd57bb57ba57b857b657b457b357b157af57ad57ac57aa57a857a757a557a357a157a0579e579c579a579957975795579457925790578e578d578b578957875786578457825781577f577d577b577a57785776577457735771576f576e576c576a576857675765576357615760575e575c575b575957575755575457525750574e574d574b574957475746574457425741573f573d573b573a57385736573457335731572f572d572c572a572857265725572357215720571e571c571a571957175715571357125710570e570c570b57095707570557045702570056ff56fd56fb56f956f856f656f456f256f156ef56ed56eb56ea56e856e656e456e356e156df56dd56dc56da56d856d656d556d356d156cf56ce56cc56ca56c856c756c556c356c156c056be56bc56bb56b956b756b556b456b256b056ae56ad56ab56a956a756a6,
  0x5a0e5a0d5a0b5a095a085a065a045a035a0159ff59fe59fc59fa59f959f759f559f459f259f059ef59ed59eb59ea59e859e659e559e359e159e059de59dc59db59d959d759d659d459d259d059cf59cd59cb59ca59c859c659c559c359c159c059be59bc59bb59b959b759b659b459b259b159af59ad59ac59aa59a859a759a559a359a259a0599e599d599b599959975996599459925991598f598d598c598a598859875985598359825980597e597d597b597959785976597459725971596f596d596c596a596859675965596359625960595e595d595b595959585956595459525951594f594d594c594a594859475945594359425940593e593d593b593959375936593459325931592f592d592c592a592859275925592359225920591e591c591b591959175916591459125911590f590d590c590a59085906590559035901590058fe58fc58fb58f958f758f658f458f258f058ef58ed58eb58ea58e858e658e558e358e158e058de58dc58da58d958d758d558d458d258d058cf58cd58cb58c958c858c658c458c358c158bf58be58bc58ba58b858b758b558b358b258b058ae58ad58ab58a958a758a658a458a258a1589f589d589c589a589858965895589358915890588e588c588b588958875885588458825880587f587d587b587958785876587458735871586f586e586c586a586858675865586358625860,
  0x5bb55bb35bb25bb05bae5bad5bab5baa5ba85ba65ba55ba35ba15ba05b9e5b9c5b9b5b995b985b965b945b935b915b8f5b8e5b8c5b8a5b895b875b865b845b825b815b7f5b7d5b7c5b7a5b785b775b755b745b725b705b6f5b6d5b6b5b6a5b685b665b655b635b615b605b5e5b5d5b5b5b595b585b565b545b535b515b4f5b4e5b4c5b4b5b495b475b465b445b425b415b3f5b3d5b3c5b3a5b385b375b355b345b325b305b2f5b2d5b2b5b2a5b285b265b255b235b215b205b1e5b1c5b1b5b195b185b165b145b135b115b0f5b0e5b0c5b0a5b095b075b055b045b025b005aff5afd5afc5afa5af85af75af55af35af25af05aee5aed5aeb5ae95ae85ae65ae45ae35ae15ae05ade5adc5adb5ad95ad75ad65ad45ad25ad15acf5acd5acc5aca5ac85ac75ac55ac35ac25ac05abe5abd5abb5aba5ab85ab65ab55ab35ab15ab05aae5aac5aab5aa95aa75aa65aa45aa25aa15a9f5a9d5a9c5a9a5a985a975a955a935a925a905a8e5a8d5a8b5a895a885a865a845a835a815a805a7e5a7c5a7b5a795a775a765a745a725a715a6f5a6d5a6c5a6a5a685a675a655a635a625a605a5e5a5d5a5b5a595a585a565a545a535a515a4f5a4e5a4c5a4a5a495a475a455a445a425a405a3f5a3d5a3b5a3a5a385a365a355a335a315a305a2e5a2c5a2b5a295a275a265a245a225a215a1f5a1d5a1c5a1a5a185a175a155a135a125a10,
  0x5d525d515d4f5d4e5d4c5d4b5d495d475d465d445d435d415d3f5d3e5d3c5d3b5d395d375d365d345d325d315d2f5d2e5d2c5d2a5d295d275d265d245d225d215d1f5d1e5d1c5d1a5d195d175d165d145d125d115d0f5d0e5d0c5d0a5d095d075d065d045d025d015cff5cfe5cfc5cfa5cf95cf75cf65cf45cf25cf15cef5cee5cec5cea5ce95ce75ce55ce45ce25ce15cdf5cdd5cdc5cda5cd95cd75cd55cd45cd25cd15ccf5ccd5ccc5cca5cc95cc75cc55cc45cc25cc05cbf5cbd5cbc5cba5cb85cb75cb55cb45cb25cb05caf5cad5cac5caa5ca85ca75ca55ca35ca25ca05c9f5c9d5c9b5c9a5c985c975c955c935c925c905c8f5c8d5c8b5c8a5c885c865c855c835c825c805c7e5c7d5c7b5c7a5c785c765c755c735c715c705c6e5c6d5c6b5c695c685c665c645c635c615c605c5e5c5c5c5b5c595c585c565c545c535c515c4f5c4e5c4c5c4b5c495c475c465c445c425c415c3f5c3e5c3c5c3a5c395c375c365c345c325c315c2f5c2d5c2c5c2a5c295c275c255c245c225c205c1f5c1d5c1c5c1a5c185c175c155c135c125c105c0f5c0d5c0b5c0a5c085c065c055c035c025c005bfe5bfd5bfb5bf95bf85bf65bf55bf35bf15bf05bee5bec5beb5be95be75be65be45be35be15bdf5bde5bdc5bda5bd95bd75bd65bd45bd25bd15bcf5bcd5bcc5bca5bc95bc75bc55bc45bc25bc05bbf5bbd5bbb5bba5bb85bb7,
  0x5ee85ee65ee45ee35ee15ee05ede5edd5edb5ed95ed85ed65ed55ed35ed25ed05ece5ecd5ecb5eca5ec85ec75ec55ec35ec25ec05ebf5ebd5ebc5eba5eb85eb75eb55eb45eb25eb15eaf5ead5eac5eaa5ea95ea75ea65ea45ea25ea15e9f5e9e5e9c5e9b5e995e975e965e945e935e915e905e8e5e8c5e8b5e895e885e865e855e835e815e805e7e5e7d5e7b5e7a5e785e765e755e735e725e705e6f5e6d5e6b5e6a5e685e675e655e645e625e605e5f5e5d5e5c5e5a5e585e575e555e545e525e515e4f5e4d5e4c5e4a5e495e475e465e445e425e415e3f5e3e5e3c5e3b5e395e375e365e345e335e315e2f5e2e5e2c5e2b5e295e285e265e245e235e215e205e1e5e1c5e1b5e195e185e165e155e135e115e105e0e5e0d5e0b5e095e085e065e055e035e025e005dfe5dfd5dfb5dfa5df85df65df55df35df25df05def5ded5deb5dea5de85de75de55de35de25de05ddf5ddd5ddb5dda5dd85dd75dd55dd45dd25dd05dcf5dcd5dcc5dca5dc85dc75dc55dc45dc25dc05dbf5dbd5dbc5dba5db95db75db55db45db25db15daf5dad5dac5daa5da95da75da55da45da25da15d9f5d9d5d9c5d9a5d995d975d965d945d925d915d8f5d8e5d8c5d8a5d895d875d865d845d825d815d7f5d7e5d7c5d7a5d795d775d765d745d725d715d6f5d6e5d6c5d6a5d695d675d665d645d625d615d5f5d5e5d5c5d5a5d595d575d565d54,
  0x6074607360716070606e606d606b606a606860676065606460626061605f605d605c605a6059605760566054605360516050604e604d604b6049604860466045604360426040603f603d603c603a603960376035603460326031602f602e602c602b6029602860266024602360216020601e601d601b601a601860176015601460126010600f600d600c600a6009600760066004600360015fff5ffe5ffc5ffb5ff95ff85ff65ff55ff35ff25ff05fee5fed5feb5fea5fe85fe75fe55fe45fe25fe15fdf5fdd5fdc5fda5fd95fd75fd65fd45fd35fd15fd05fce5fcc5fcb5fc95fc85fc65fc55fc35fc25fc05fbe5fbd5fbb5fba5fb85fb75fb55fb45fb25fb15faf5fad5fac5faa5fa95fa75fa65fa45fa35fa15f9f5f9e5f9c5f9b5f995f985f965f955f935f915f905f8e5f8d5f8b5f8a5f885f875f855f845f825f805f7f5f7d5f7c5f7a5f795f775f765f745f725f715f6f5f6e5f6c5f6b5f695f685f665f645f635f615f605f5e5f5d5f5b5f5a5f585f565f555f535f525f505f4f5f4d5f4b5f4a5f485f475f455f445f425f415f3f5f3d5f3c5f3a5f395f375f365f345f335f315f2f5f2e5f2c5f2b5f295f285f265f255f235f215f205f1e5f1d5f1b5f1a5f185f165f155f135f125f105f0f5f0d5f0c5f0a5f085f075f055f045f025f015eff5efd5efc5efa5ef95ef75ef65ef45ef25ef15eef5eee5eec5eeb5ee9,
  0x61fa61f861f761f561f461f261f161ef61ee61ec61eb61e961e861e661e561e361e261e061df61dd61dc61da61d961d761d661d461d361d161d061ce61cd61cb61ca61c861c761c561c361c261c061bf61bd61bc61ba61b961b761b661b461b361b161b061ae61ad61ab61aa61a861a761a561a461a261a1619f619e619c619b6199619861966195619361926190618f618d618c618a618861876185618461826181617f617e617c617b6179617861766175617361726170616f616d616c616a6169616761666164616361616160615e615d615b6159615861566155615361526150614f614d614c614a6149614761466144614361416140613e613d613b613a613861376135613361326130612f612d612c612a6129612761266124612361216120611e611d611b611a611861176115611461126110610f610d610c610a610961076106610461036101610060fe60fd60fb60fa60f860f760f560f460f260f060ef60ed60ec60ea60e960e760e660e460e360e160e060de60dd60db60da60d860d760d560d360d260d060cf60cd60cc60ca60c960c760c660c460c360c160c060be60bd60bb60b960b860b660b560b360b260b060af60ad60ac60aa60a960a760a660a460a260a1609f609e609c609b6099609860966095609360926090608f608d608b608a608860876085608460826081607f607e607c607b607960786076,
  0x637863766375637363726370636f636d636c636b6369636863666365636363626360635f635d635c635a6359635763566354635363516350634e634d634b634a6348634763456344634363416340633e633d633b633a633863376335633463326331632f632e632c632b6329632863266325632363226320631f631d631c631a6319631763166315631363126310630f630d630c630a630963076306630463036301630062fe62fd62fb62fa62f862f762f562f462f262f162ef62ee62ec62eb62e962e862e662e562e362e262e062df62dd62dc62da62d962d862d662d562d362d262d062cf62cd62cc62ca62c962c762c662c462c362c162c062be62bd62bb62ba62b862b762b562b462b262b162af62ae62ac62ab62a962a862a662a562a362a262a0629f629d629c629a6299629762966294629362916290628e628d628b628a628862876285628462826281627f627e627c627b6279627862766275627362726270626f626d626c626a6269626762666264626362616260625e625d625b625a625862576255625462526251624f624e624c624b6249624862466245624362426240623f623d623c623a6239623762366234623362316230622e622d622b622a622862276225622462226221621f621e621c621b6219621862166215621362126210620f620d620c620a620962076206620462036201620061fe61fd61fb,
  0x64ef64ee64ec64eb64e964e864e664e564e364e264e064df64de64dc64db64d964d864d664d564d364d264d064cf64ce64cc64cb64c964c864c664c564c364c264c064bf64be64bc64bb64b964b864b664b564b364b264b064af64ae64ac64ab64a964a864a664a564a364a264a0649f649d649c649b6499649864966495649364926490648f648d648c648b6489648864866485648364826480647f647d647c647a6479647864766475647364726470646f646d646c646a6469646764666465646364626460645f645d645c645a6459645764566454645364526450644f644d644c644a6449644764466444644364416440643e643d643c643a6439643764366434643364316430642e642d642b642a6429642764266424642364216420641e641d641b641a6418641764156414641364116410640e640d640b640a64086407640564046402640163ff63fe63fc63fb63fa63f863f763f563f463f263f163ef63ee63ec63eb63e963e863e663e563e363e263e163df63de63dc63db63d963d863d663d563d363d263d063cf63cd63cc63ca63c963c863c663c563c363c263c063bf63bd63bc63ba63b963b763b663b463b363b163b063ae63ad63ac63aa63a963a763a663a463a363a163a0639e639d639b639a639863976395639463926391638f638e638d638b638a638863876385638463826381637f637e637c637b6379,
  0x6660665e665d665b665a6658665766566654665366516650664e664d664c664a6649664766466644664366426640663f663d663c663a6639663866366635663366326630662f662e662c662b6629662866266625662466226621661f661e661c661b6619661866176615661466126611660f660e660d660b660a660866076605660466036601660065fe65fd65fb65fa65f965f765f665f465f365f165f065ee65ed65ec65ea65e965e765e665e465e365e265e065df65dd65dc65da65d965d865d665d565d365d265d065cf65cd65cc65cb65c965c865c665c565c365c265c165bf65be65bc65bb65b965b865b665b565b465b265b165af65ae65ac65ab65aa65a865a765a565a465a265a1659f659e659d659b659a6598659765956594659265916590658e658d658b658a6588658765856584658365816580657e657d657b657a6578657765766574657365716570656e656d656c656a6569656765666564656365616560655f655d655c655a6559655765566554655365526550654f654d654c654a6549654765466544654365426540653f653d653c653a6539653765366535653365326530652f652d652c652a6529652865266525652365226520651f651d651c651a6519651865166515651365126510650f650d650c650b650965086506650565036502650064ff64fd64fc64fb64f964f864f664f564f364f264f0,
  0x67ca67c867c767c667c467c367c167c067bf67bd67bc67ba67b967b867b667b567b367b267b167af67ae67ac67ab67aa67a867a767a567a467a367a167a0679e679d679b679a6799679767966794679367926790678f678d678c678b6789678867866785678467826781677f677e677d677b677a6778677767756774677367716770676e676d676c676a6769676767666765676367626760675f675e675c675b6759675867566755675467526751674f674e674d674b674a6748674767466744674367416740673e673d673c673a6739673767366735673367326730672f672e672c672b6729672867266725672467226721671f671e671d671b671a6718671767156714671367116710670e670d670c670a670967076706670467036702670066ff66fd66fc66fb66f966f866f666f566f366f266f166ef66ee66ec66eb66ea66e866e766e566e466e266e166e066de66dd66db66da66d966d766d666d466d366d166d066cf66cd66cc66ca66c966c766c666c566c366c266c066bf66be66bc66bb66b966b866b666b566b466b266b166af66ae66ac66ab66aa66a866a766a566a466a366a166a0669e669d669b669a6699669766966694669366916690668f668d668c668a6689668766866685668366826680667f667d667c667b6679667866766675667466726671666f666e666c666b666a666866676665666466626661,
  0x692e692d692b692a6929692769266924692369226920691f691e691c691b69196918691769156914691369116910690e690d690c690a690969076906690569036902690168ff68fe68fc68fb68fa68f868f768f568f468f368f168f068ef68ed68ec68ea68e968e868e668e568e368e268e168df68de68dd68db68da68d868d768d668d468d368d168d068cf68cd68cc68cb68c968c868c668c568c468c268c168bf68be68bd68bb68ba68b868b768b668b468b368b268b068af68ad68ac68ab68a968a868a668a568a468a268a1689f689e689d689b689a6899689768966894689368926890688f688d688c688b68896888688668856884688268816880687e687d687b687a6879687768766874687368726870686f686d686c686b6869686868666865686468626861685f685e685d685b685a6859685768566854685368526850684f684d684c684b6849684868466845684468426841683f683e683d683b683a6838683768366834683368316830682f682d682c682a6829682868266825682368226821681f681e681c681b681a6818681768156814681368116810680e680d680c680a680968076806680568036802680167ff67fe67fc67fb67f967f867f767f567f467f267f167f067ee67ed67eb67ea67e967e767e667e467e367e267e067df67dd67dc67db67d967d867d667d567d467d267d167cf67ce67cd67cb,
  0x6a8d6a8b6a8a6a896a876a866a856a836a826a806a7f6a7e6a7c6a7b6a7a6a786a776a766a746a736a726a706a6f6a6d6a6c6a6b6a696a686a676a656a646a636a616a606a5e6a5d6a5c6a5a6a596a586a566a556a546a526a516a506a4e6a4d6a4b6a4a6a496a476a466a456a436a426a416a3f6a3e6a3c6a3b6a3a6a386a376a366a346a336a326a306a2f6a2d6a2c6a2b6a296a286a276a256a246a236a216a206a1e6a1d6a1c6a1a6a196a186a166a156a136a126a116a0f6a0e6a0d6a0b6a0a6a096a076a066a046a036a026a0069ff69fe69fc69fb69fa69f869f769f569f469f369f169f069ef69ed69ec69ea69e969e869e669e569e469e269e169e069de69dd69db69da69d969d769d669d569d369d269d069cf69ce69cc69cb69ca69c869c769c569c469c369c169c069bf69bd69bc69bb69b969b869b669b569b469b269b169b069ae69ad69ab69aa69a969a769a669a569a369a269a0699f699e699c699b699a6998699769956994699369916990698f698d698c698a6989698869866985698469826981697f697e697d697b697a6979697769766974697369726970696f696e696c696b69696968696769656964696369616960695e695d695c695a6959695869566955695369526951694f694e694c694b694a6948694769466944694369416940693f693d693c693b69396938693669356934693269316930,
  0x6be66be46be36be26be06bdf6bde6bdc6bdb6bda6bd86bd76bd66bd46bd36bd26bd06bcf6bce6bcc6bcb6bca6bc86bc76bc66bc46bc36bc26bc06bbf6bbe6bbc6bbb6bba6bb86bb76bb66bb46bb36bb26bb06baf6bae6bac6bab6baa6ba86ba76ba66ba46ba36ba16ba06b9f6b9d6b9c6b9b6b996b986b976b956b946b936b916b906b8f6b8d6b8c6b8b6b896b886b876b856b846b836b816b806b7f6b7d6b7c6b7b6b796b786b776b756b746b726b716b706b6e6b6d6b6c6b6a6b696b686b666b656b646b626b616b606b5e6b5d6b5c6b5a6b596b586b566b556b546b526b516b506b4e6b4d6b4b6b4a6b496b476b466b456b436b426b416b3f6b3e6b3d6b3b6b3a6b396b376b366b356b336b326b316b2f6b2e6b2c6b2b6b2a6b286b276b266b246b236b226b206b1f6b1e6b1c6b1b6b1a6b186b176b166b146b136b116b106b0f6b0d6b0c6b0b6b096b086b076b056b046b036b016b006aff6afd6afc6afa6af96af86af66af56af46af26af16af06aee6aed6aec6aea6ae96ae86ae66ae56ae46ae26ae16adf6ade6add6adb6ada6ad96ad76ad66ad56ad36ad26ad16acf6ace6acc6acb6aca6ac86ac76ac66ac46ac36ac26ac06abf6abe6abc6abb6aba6ab86ab76ab56ab46ab36ab16ab06aaf6aad6aac6aab6aa96aa86aa76aa56aa46aa26aa16aa06a9e6a9d6a9c6a9a6a996a986a966a956a946a926a916a8f6a8e,
  0x6d3a6d386d376d366d346d336d326d306d2f6d2e6d2c6d2b6d2a6d296d276d266d256d236d226d216d1f6d1e6d1d6d1b6d1a6d196d176d166d156d136d126d116d0f6d0e6d0d6d0b6d0a6d096d086d066d056d046d026d016d006cfe6cfd6cfc6cfa6cf96cf86cf66cf56cf46cf26cf16cf06cee6ced6cec6cea6ce96ce86ce76ce56ce46ce36ce16ce06cdf6cdd6cdc6cdb6cd96cd86cd76cd56cd46cd36cd16cd06ccf6ccd6ccc6ccb6cc96cc86cc76cc56cc46cc36cc16cc06cbf6cbd6cbc6cbb6cb96cb86cb76cb66cb46cb36cb26cb06caf6cae6cac6cab6caa6ca86ca76ca66ca46ca36ca26ca06c9f6c9e6c9c6c9b6c9a6c986c976c966c946c936c926c906c8f6c8e6c8c6c8b6c8a6c886c876c866c846c836c826c806c7f6c7e6c7c6c7b6c7a6c786c776c766c746c736c726c716c6f6c6e6c6d6c6b6c6a6c696c676c666c656c636c626c616c5f6c5e6c5d6c5b6c5a6c596c576c566c556c536c526c516c4f6c4e6c4d6c4b6c4a6c496c476c466c456c436c426c416c3f6c3e6c3d6c3b6c3a6c396c376c366c356c336c326c316c2f6c2e6c2d6c2b6c2a6c296c276c266c256c236c226c216c1f6c1e6c1d6c1b6c1a6c196c176c166c156c136c126c116c0f6c0e6c0d6c0b6c0a6c096c076c066c056c036c026c016bff6bfe6bfd6bfb6bfa6bf96bf76bf66bf56bf36bf26bf16bef6bee6bed6beb6bea6be86be7,
  0x6e886e876e866e856e836e826e816e7f6e7e6e7d6e7b6e7a6e796e786e766e756e746e726e716e706e6e6e6d6e6c6e6b6e696e686e676e656e646e636e616e606e5f6e5e6e5c6e5b6e5a6e586e576e566e546e536e526e516e4f6e4e6e4d6e4b6e4a6e496e476e466e456e446e426e416e406e3e6e3d6e3c6e3a6e396e386e376e356e346e336e316e306e2f6e2d6e2c6e2b6e296e286e276e266e246e236e226e206e1f6e1e6e1c6e1b6e1a6e196e176e166e156e136e126e116e0f6e0e6e0d6e0b6e0a6e096e086e066e056e046e026e016e006dfe6dfd6dfc6dfb6df96df86df76df56df46df36df16df06def6ded6dec6deb6dea6de86de76de66de46de36de26de06ddf6dde6ddc6ddb6dda6dd96dd76dd66dd56dd36dd26dd16dcf6dce6dcd6dcb6dca6dc96dc76dc66dc56dc46dc26dc16dc06dbe6dbd6dbc6dba6db96db86db66db56db46db36db16db06daf6dad6dac6dab6da96da86da76da56da46da36da16da06d9f6d9e6d9c6d9b6d9a6d986d976d966d946d936d926d906d8f6d8e6d8d6d8b6d8a6d896d876d866d856d836d826d816d7f6d7e6d7d6d7b6d7a6d796d776d766d756d746d726d716d706d6e6d6d6d6c6d6a6d696d686d666d656d646d626d616d606d5f6d5d6d5c6d5b6d596d586d576d556d546d536d516d506d4f6d4d6d4c6d4b6d496d486d476d466d446d436d426d406d3f6d3e6d3c6d3b,
  0x6fd26fd16fd06fcf6fcd6fcc6fcb6fc96fc86fc76fc66fc46fc36fc26fc06fbf6fbe6fbd6fbb6fba6fb96fb86fb66fb56fb46fb26fb16fb06faf6fad6fac6fab6fa96fa86fa76fa66fa46fa36fa26fa06f9f6f9e6f9d6f9b6f9a6f996f976f966f956f946f926f916f906f8e6f8d6f8c6f8b6f896f886f876f856f846f836f826f806f7f6f7e6f7c6f7b6f7a6f796f776f766f756f746f726f716f706f6e6f6d6f6c6f6b6f696f686f676f656f646f636f626f606f5f6f5e6f5c6f5b6f5a6f596f576f566f556f536f526f516f4f6f4e6f4d6f4c6f4a6f496f486f466f456f446f436f416f406f3f6f3d6f3c6f3b6f3a6f386f376f366f346f336f326f316f2f6f2e6f2d6f2b6f2a6f296f286f266f256f246f226f216f206f1f6f1d6f1c6f1b6f196f186f176f166f146f136f126f106f0f6f0e6f0c6f0b6f0a6f096f076f066f056f036f026f016f006efe6efd6efc6efa6ef96ef86ef76ef56ef46ef36ef16ef06eef6eed6eec6eeb6eea6ee86ee76ee66ee46ee36ee26ee16edf6ede6edd6edb6eda6ed96ed76ed66ed56ed46ed26ed16ed06ece6ecd6ecc6ecb6ec96ec86ec76ec56ec46ec36ec16ec06ebf6ebe6ebc6ebb6eba6eb86eb76eb66eb56eb36eb26eb16eaf6eae6ead6eab6eaa6ea96ea86ea66ea56ea46ea26ea16ea06e9f6e9d6e9c6e9b6e996e986e976e956e946e936e926e906e8f6e8e6e8c6e8b6e8a,
  0x7118711671157114711371117110710f710e710c710b710a7109710771067105710371027101710070fe70fd70fc70fb70f970f870f770f670f470f370f270f170ef70ee70ed70eb70ea70e970e870e670e570e470e370e170e070df70de70dc70db70da70d870d770d670d570d370d270d170d070ce70cd70cc70cb70c970c870c770c670c470c370c270c070bf70be70bd70bb70ba70b970b870b670b570b470b370b170b070af70ad70ac70ab70aa70a870a770a670a570a370a270a1709f709e709d709c709a70997098709770957094709370927090708f708e708c708b708a70897087708670857084708270817080707e707d707c707b70797078707770767074707370727071706f706e706d706b706a70697068706670657064706370617060705f705d705c705b705a7058705770567055705370527051704f704e704d704c704a70497048704770457044704370417040703f703e703c703b703a70397037703670357033703270317030702e702d702c702b70297028702770257024702370227020701f701e701c701b701a70197017701670157014701270117010700e700d700c700b700970087007700670047003700270006fff6ffe6ffd6ffb6ffa6ff96ff76ff66ff56ff46ff26ff16ff06fef6fed6fec6feb6fe96fe86fe76fe66fe46fe36fe26fe06fdf6fde6fdd6fdb6fda6fd96fd86fd66fd56fd4,
  0x72587257725672557253725272517250724e724d724c724b724a72487247724672457243724272417240723e723d723c723b72397238723772367234723372327231722f722e722d722c722a72297228722772257224722372227220721f721e721d721b721a72197218721672157214721372117210720f720e720c720b720a7209720772067205720472027201720071ff71fd71fc71fb71fa71f871f771f671f571f371f271f171f071ee71ed71ec71eb71e971e871e771e671e471e371e271e171df71de71dd71dc71da71d971d871d771d571d471d371d271d071cf71ce71cd71cb71ca71c971c871c671c571c471c371c171c071bf71be71bc71bb71ba71b971b771b671b571b471b271b171b071af71ad71ac71ab71aa71a871a771a671a571a371a271a171a0719e719d719c719b71997198719771967194719371927190718f718e718d718b718a71897188718671857184718371817180717f717e717c717b717a71797177717671757174717271717170716f716d716c716b716a7168716771667165716371627161715f715e715d715c715a71597158715771557154715371527150714f714e714d714b714a71497148714671457144714371417140713f713d713c713b713a71387137713671357133713271317130712e712d712c712b71297128712771267124712371227120711f711e711d711b711a7119,
  0x73957394739273917390738f738e738c738b738a73897387738673857384738273817380737f737e737c737b737a73797377737673757374737373717370736f736e736c736b736a73697367736673657364736373617360735f735e735c735b735a73597357735673557354735373517350734f734e734c734b734a73497347734673457344734373417340733f733e733c733b733a73397337733673357334733273317330732f732e732c732b732a73297327732673257324732273217320731f731e731c731b731a73197317731673157314731273117310730f730d730c730b730a7309730773067305730473027301730072ff72fd72fc72fb72fa72f872f772f672f572f472f272f172f072ef72ed72ec72eb72ea72e872e772e672e572e372e272e172e072de72dd72dc72db72da72d872d772d672d572d372d272d172d072ce72cd72cc72cb72c972c872c772c672c472c372c272c172c072be72bd72bc72bb72b972b872b772b672b472b372b272b172af72ae72ad72ac72aa72a972a872a772a572a472a372a272a1729f729e729d729c729a72997298729772957294729372927290728f728e728d728b728a72897288728672857284728372817280727f727e727d727b727a72797278727672757274727372717270726f726e726c726b726a72697267726672657264726272617260725f725d725c725b725a,
  0x74cd74cc74cb74ca74c874c774c674c574c474c274c174c074bf74bd74bc74bb74ba74b974b774b674b574b474b374b174b074af74ae74ac74ab74aa74a974a874a674a574a474a374a274a0749f749e749d749b749a74997498749774957494749374927491748f748e748d748c748a748974887487748674847483748274817480747e747d747c747b747974787477747674757473747274717470746f746d746c746b746a74687467746674657464746274617460745f745d745c745b745a74597457745674557454745274517450744f744e744c744b744a74497448744674457444744374417440743f743e743d743b743a74397438743674357434743374327430742f742e742d742b742a74297428742774257424742374227421741f741e741d741c741a74197418741774167414741374127411740f740e740d740c740b74097408740774067404740374027401740073fe73fd73fc73fb73f973f873f773f673f573f373f273f173f073ee73ed73ec73eb73ea73e873e773e673e573e373e273e173e073de73dd73dc73db73da73d873d773d673d573d373d273d173d073cf73cd73cc73cb73ca73c873c773c673c573c473c273c173c073bf73bd73bc73bb73ba73b973b773b673b573b473b273b173b073af73ad73ac73ab73aa73a973a773a673a573a473a273a173a0739f739e739c739b739a739973977396,
  0x7602760075ff75fe75fd75fc75fa75f975f875f775f675f475f375f275f175f075ee75ed75ec75eb75ea75e875e775e675e575e475e275e175e075df75de75dc75db75da75d975d875d675d575d475d375d275d075cf75ce75cd75cc75ca75c975c875c775c675c475c375c275c175c075be75bd75bc75bb75ba75b875b775b675b575b475b275b175b075af75ae75ac75ab75aa75a975a875a675a575a475a375a275a0759f759e759d759c759a759975987597759675947593759275917590758e758d758c758b758a75887587758675857584758275817580757f757e757c757b757a75797578757675757574757375717570756f756e756d756b756a75697568756775657564756375627561755f755e755d755c755b755975587557755675557553755275517550754f754d754c754b754a75497547754675457544754275417540753f753e753c753b753a75397538753675357534753375327530752f752e752d752c752a75297528752775267524752375227521751f751e751d751c751b751975187517751675157513751275117510750f750d750c750b750a7509750775067505750475027501750074ff74fe74fc74fb74fa74f974f874f674f574f474f374f274f074ef74ee74ed74ec74ea74e974e874e774e574e474e374e274e174df74de74dd74dc74db74d974d874d774d674d474d374d274d174d074ce,
  0x773277317730772e772d772c772b772a77287727772677257724772377217720771f771e771d771b771a771977187717771677147713771277117710770e770d770c770b770a7709770777067705770477037701770076ff76fe76fd76fb76fa76f976f876f776f676f476f376f276f176f076ee76ed76ec76eb76ea76e976e776e676e576e476e376e176e076df76de76dd76db76da76d976d876d776d676d476d376d276d176d076ce76cd76cc76cb76ca76c976c776c676c576c476c376c176c076bf76be76bd76bb76ba76b976b876b776b676b476b376b276b176b076ae76ad76ac76ab76aa76a876a776a676a576a476a276a176a0769f769e769d769b769a76997698769776957694769376927691768f768e768d768c768b768a76887687768676857684768276817680767f767e767c767b767a76797678767676757674767376727671766f766e766d766c766b766976687667766676657663766276617660765f765d765c765b765a76597657765676557654765376527650764f764e764d764c764a764976487647764676447643764276417640763e763d763c763b763a76387637763676357634763376317630762f762e762d762b762a76297628762776257624762376227621761f761e761d761c761b761976187617761676157613761276117610760f760d760c760b760a760976077606760576047603,
  0x785f785d785c785b785a78597858785678557854785378527851784f784e784d784c784b784a78487847784678457844784278417840783f783e783d783b783a783978387837783678347833783278317830782f782d782c782b782a78297828782678257824782378227821781f781e781d781c781b781a78187817781678157814781378117810780f780e780d780c780a78097808780778067804780378027801780077ff77fd77fc77fb77fa77f977f877f677f577f477f377f277f177ef77ee77ed77ec77eb77ea77e877e777e677e577e477e277e177e077df77de77dd77db77da77d977d877d777d677d477d377d277d177d077cf77cd77cc77cb77ca77c977c777c677c577c477c377c277c077bf77be77bd77bc77bb77b977b877b777b677b577b477b277b177b077af77ae77ac77ab77aa77a977a877a777a577a477a377a277a177a0779e779d779c779b779a77987797779677957794779377917790778f778e778d778c778a778977887787778677847783778277817780777f777d777c777b777a77797778777677757774777377727770776f776e776d776c776b776977687767776677657763776277617760775f775e775c775b775a77597758775677557754775377527751774f774e774d774c774b774a77487747774677457744774277417740773f773e773d773b773a773977387737773577347733,
  0x7988798679857984798379827981797f797e797d797c797b797a79797977797679757974797379727970796f796e796d796c796b796a79687967796679657964796379617960795f795e795d795c795b795979587957795679557954795279517950794f794e794d794b794a794979487947794679457943794279417940793f793e793c793b793a793979387937793679347933793279317930792f792d792c792b792a792979287926792579247923792279217920791e791d791c791b791a79197917791679157914791379127910790f790e790d790c790b790a7908790779067905790479037901790078ff78fe78fd78fc78fa78f978f878f778f678f578f378f278f178f078ef78ee78ed78eb78ea78e978e878e778e678e478e378e278e178e078df78dd78dc78db78da78d978d878d678d578d478d378d278d178cf78ce78cd78cc78cb78ca78c978c778c678c578c478c378c278c078bf78be78bd78bc78bb78b978b878b778b678b578b478b278b178b078af78ae78ad78ab78aa78a978a878a778a678a478a378a278a178a0789f789d789c789b789a789978987896789578947893789278917890788e788d788c788b788a78897887788678857884788378827880787f787e787d787c787b787978787877787678757874787278717870786f786e786d786b786a786978687867786678647863786278617860,
  0x7aad7aac7aab7aaa7aa87aa77aa67aa57aa47aa37aa27aa07a9f7a9e7a9d7a9c7a9b7a9a7a987a977a967a957a947a937a927a917a8f7a8e7a8d7a8c7a8b7a8a7a897a877a867a857a847a837a827a817a7f7a7e7a7d7a7c7a7b7a7a7a797a777a767a757a747a737a727a717a6f7a6e7a6d7a6c7a6b7a6a7a697a677a667a657a647a637a627a617a5f7a5e7a5d7a5c7a5b7a5a7a597a577a567a557a547a537a527a517a4f7a4e7a4d7a4c7a4b7a4a7a497a477a467a457a447a437a427a417a3f7a3e7a3d7a3c7a3b7a3a7a397a377a367a357a347a337a327a307a2f7a2e7a2d7a2c7a2b7a2a7a287a277a267a257a247a237a227a207a1f7a1e7a1d7a1c7a1b7a1a7a187a177a167a157a147a137a127a107a0f7a0e7a0d7a0c7a0b7a0a7a087a077a067a057a047a037a017a0079ff79fe79fd79fc79fb79f979f879f779f679f579f479f379f179f079ef79ee79ed79ec79eb79e979e879e779e679e579e479e279e179e079df79de79dd79dc79da79d979d879d779d679d579d479d279d179d079cf79ce79cd79cb79ca79c979c879c779c679c579c379c279c179c079bf79be79bd79bb79ba79b979b879b779b679b479b379b279b179b079af79ae79ac79ab79aa79a979a879a779a579a479a379a279a179a0799f799d799c799b799a799979987997799579947993799279917990798e798d798c798b798a7989,
  0x7bcf7bce7bcd7bcc7bcb7bc97bc87bc77bc67bc57bc47bc37bc27bc07bbf7bbe7bbd7bbc7bbb7bba7bb97bb77bb67bb57bb47bb37bb27bb17bb07bae7bad7bac7bab7baa7ba97ba87ba77ba57ba47ba37ba27ba17ba07b9f7b9d7b9c7b9b7b9a7b997b987b977b967b947b937b927b917b907b8f7b8e7b8d7b8b7b8a7b897b887b877b867b857b847b827b817b807b7f7b7e7b7d7b7c7b7a7b797b787b777b767b757b747b737b717b707b6f7b6e7b6d7b6c7b6b7b6a7b687b677b667b657b647b637b627b607b5f7b5e7b5d7b5c7b5b7b5a7b597b577b567b557b547b537b527b517b4f7b4e7b4d7b4c7b4b7b4a7b497b487b467b457b447b437b427b417b407b3e7b3d7b3c7b3b7b3a7b397b387b377b357b347b337b327b317b307b2f7b2d7b2c7b2b7b2a7b297b287b277b267b247b237b227b217b207b1f7b1e7b1c7b1b7b1a7b197b187b177b167b157b137b127b117b107b0f7b0e7b0d7b0b7b0a7b097b087b077b067b057b037b027b017b007aff7afe7afd7afc7afa7af97af87af77af67af57af47af27af17af07aef7aee7aed7aec7aea7ae97ae87ae77ae67ae57ae47ae37ae17ae07adf7ade7add7adc7adb7ad97ad87ad77ad67ad57ad47ad37ad17ad07acf7ace7acd7acc7acb7ac97ac87ac77ac67ac57ac47ac37ac27ac07abf7abe7abd7abc7abb7aba7ab87ab77ab67ab57ab47ab37ab27ab07aaf7aae,
  0x7cee7ced7cec7ceb7ce97ce87ce77ce67ce57ce47ce37ce27ce17cdf7cde7cdd7cdc7cdb7cda7cd97cd87cd67cd57cd47cd37cd27cd17cd07ccf7cce7ccc7ccb7cca7cc97cc87cc77cc67cc57cc47cc27cc17cc07cbf7cbe7cbd7cbc7cbb7cb97cb87cb77cb67cb57cb47cb37cb27cb17caf7cae7cad7cac7cab7caa7ca97ca87ca67ca57ca47ca37ca27ca17ca07c9f7c9e7c9c7c9b7c9a7c997c987c977c967c957c937c927c917c907c8f7c8e7c8d7c8c7c8b7c897c887c877c867c857c847c837c827c807c7f7c7e7c7d7c7c7c7b7c7a7c797c787c767c757c747c737c727c717c707c6f7c6d7c6c7c6b7c6a7c697c687c677c667c657c637c627c617c607c5f7c5e7c5d7c5c7c5a7c597c587c577c567c557c547c537c517c507c4f7c4e7c4d7c4c7c4b7c4a7c487c477c467c457c447c437c427c417c407c3e7c3d7c3c7c3b7c3a7c397c387c377c357c347c337c327c317c307c2f7c2e7c2c7c2b7c2a7c297c287c277c267c257c237c227c217c207c1f7c1e7c1d7c1c7c1a7c197c187c177c167c157c147c137c117c107c0f7c0e7c0d7c0c7c0b7c0a7c087c077c067c057c047c037c027c017c007bfe7bfd7bfc7bfb7bfa7bf97bf87bf77bf57bf47bf37bf27bf17bf07bef7bee7bec7beb7bea7be97be87be77be67be57be37be27be17be07bdf7bde7bdd7bdb7bda7bd97bd87bd77bd67bd57bd47bd27bd17bd0,
  0x7e097e087e077e067e057e047e037e027e017e007dfe7dfd7dfc7dfb7dfa7df97df87df77df67df57df37df27df17df07def7dee7ded7dec7deb7dea7de87de77de67de57de47de37de27de17de07dde7ddd7ddc7ddb7dda7dd97dd87dd77dd67dd57dd37dd27dd17dd07dcf7dce7dcd7dcc7dcb7dc97dc87dc77dc67dc57dc47dc37dc27dc17dc07dbe7dbd7dbc7dbb7dba7db97db87db77db67db57db37db27db17db07daf7dae7dad7dac7dab7da97da87da77da67da57da47da37da27da17d9f7d9e7d9d7d9c7d9b7d9a7d997d987d977d967d947d937d927d917d907d8f7d8e7d8d7d8c7d8a7d897d887d877d867d857d847d837d827d817d7f7d7e7d7d7d7c7d7b7d7a7d797d787d777d757d747d737d727d717d707d6f7d6e7d6d7d6b7d6a7d697d687d677d667d657d647d637d617d607d5f7d5e7d5d7d5c7d5b7d5a7d597d577d567d557d547d537d527d517d507d4f7d4e7d4c7d4b7d4a7d497d487d477d467d457d447d427d417d407d3f7d3e7d3d7d3c7d3b7d3a7d387d377d367d357d347d337d327d317d307d2e7d2d7d2c7d2b7d2a7d297d287d277d267d247d237d227d217d207d1f7d1e7d1d7d1c7d1a7d197d187d177d167d157d147d137d127d107d0f7d0e7d0d7d0c7d0b7d0a7d097d077d067d057d047d037d027d017d007cff7cfd7cfc7cfb7cfa7cf97cf87cf77cf67cf57cf37cf27cf17cf07cef,
  0x7f227f217f207f1f7f1e7f1d7f1b7f1a7f197f187f177f167f157f147f137f127f117f0f7f0e7f0d7f0c7f0b7f0a7f097f087f077f067f057f037f027f017f007eff7efe7efd7efc7efb7efa7ef97ef77ef67ef57ef47ef37ef27ef17ef07eef7eee7eed7eeb7eea7ee97ee87ee77ee67ee57ee47ee37ee27ee07edf7ede7edd7edc7edb7eda7ed97ed87ed77ed67ed47ed37ed27ed17ed07ecf7ece7ecd7ecc7ecb7eca7ec87ec77ec67ec57ec47ec37ec27ec17ec07ebf7ebe7ebc7ebb7eba7eb97eb87eb77eb67eb57eb47eb37eb17eb07eaf7eae7ead7eac7eab7eaa7ea97ea87ea77ea57ea47ea37ea27ea17ea07e9f7e9e7e9d7e9c7e9a7e997e987e977e967e957e947e937e927e917e907e8e7e8d7e8c7e8b7e8a7e897e887e877e867e857e837e827e817e807e7f7e7e7e7d7e7c7e7b7e7a7e787e777e767e757e747e737e727e717e707e6f7e6e7e6c7e6b7e6a7e697e687e677e667e657e647e637e617e607e5f7e5e7e5d7e5c7e5b7e5a7e597e587e567e557e547e537e527e517e507e4f7e4e7e4d7e4b7e4a7e497e487e477e467e457e447e437e427e407e3f7e3e7e3d7e3c7e3b7e3a7e397e387e377e367e347e337e327e317e307e2f7e2e7e2d7e2c7e2b7e297e287e277e267e257e247e237e227e217e1f7e1e7e1d7e1c7e1b7e1a7e197e187e177e167e147e137e127e117e107e0f7e0e7e0d7e0c7e0b,
  0x80378036803580348033803280318030802f802e802d802c802a8029802880278026802580248023802280218020801f801e801c801b801a801980188017801680158014801380128011800f800e800d800c800b800a8009800880078006800580048003800180007fff7ffe7ffd7ffc7ffb7ffa7ff97ff87ff77ff67ff47ff37ff27ff17ff07fef7fee7fed7fec7feb7fea7fe97fe87fe67fe57fe47fe37fe27fe17fe07fdf7fde7fdd7fdc7fdb7fd97fd87fd77fd67fd57fd47fd37fd27fd17fd07fcf7fce7fcc7fcb7fca7fc97fc87fc77fc67fc57fc47fc37fc27fc17fbf7fbe7fbd7fbc7fbb7fba7fb97fb87fb77fb67fb57fb47fb27fb17fb07faf7fae7fad7fac7fab7faa7fa97fa87fa77fa57fa47fa37fa27fa17fa07f9f7f9e7f9d7f9c7f9b7f9a7f987f977f967f957f947f937f927f917f907f8f7f8e7f8d7f8b7f8a7f897f887f877f867f857f847f837f827f817f7f7f7e7f7d7f7c7f7b7f7a7f797f787f777f767f757f747f727f717f707f6f7f6e7f6d7f6c7f6b7f6a7f697f687f677f657f647f637f627f617f607f5f7f5e7f5d7f5c7f5b7f597f587f577f567f557f547f537f527f517f507f4f7f4e7f4c7f4b7f4a7f497f487f477f467f457f447f437f427f407f3f7f3e7f3d7f3c7f3b7f3a7f397f387f377f367f347f337f327f317f307f2f7f2e7f2d7f2c7f2b7f2a7f287f277f267f257f247f23,
  0x814a814981488147814681458144814281418140813f813e813d813c813b813a813981388137813681358134813281318130812f812e812d812c812b812a812981288127812681258124812281218120811f811e811d811c811b811a811981188117811681158113811281118110810f810e810d810c810b810a81098108810781068105810381028101810080ff80fe80fd80fc80fb80fa80f980f880f780f680f480f380f280f180f080ef80ee80ed80ec80eb80ea80e980e880e780e580e480e380e280e180e080df80de80dd80dc80db80da80d980d880d680d580d480d380d280d180d080cf80ce80cd80cc80cb80ca80c980c780c680c580c480c380c280c180c080bf80be80bd80bc80bb80ba80b880b780b680b580b480b380b280b180b080af80ae80ad80ac80ab80a980a880a780a680a580a480a380a280a180a0809f809e809d809b809a8099809880978096809580948093809280918090808f808e808c808b808a8089808880878086808580848083808280818080807e807d807c807b807a807980788077807680758074807380728070806f806e806d806c806b806a806980688067806680658064806380618060805f805e805d805c805b805a805980588057805680558053805280518050804f804e804d804c804b804a804980488047804580448043804280418040803f803e803d803c803b803a8038,
  0x825a825982588256825582548253825282518250824f824e824d824c824b824a824982488247824682458243824282418240823f823e823d823c823b823a823982388237823682358234823382318230822f822e822d822c822b822a8229822882278226822582248223822282218220821e821d821c821b821a8219821882178216821582148213821282118210820f820e820c820b820a820982088207820682058204820382028201820081ff81fe81fd81fc81fa81f981f881f781f681f581f481f381f281f181f081ef81ee81ed81ec81eb81e981e881e781e681e581e481e381e281e181e081df81de81dd81dc81db81da81d981d781d681d581d481d381d281d181d081cf81ce81cd81cc81cb81ca81c981c881c681c581c481c381c281c181c081bf81be81bd81bc81bb81ba81b981b881b781b581b481b381b281b181b081af81ae81ad81ac81ab81aa81a981a881a781a681a481a381a281a181a0819f819e819d819c819b819a819981988197819681958193819281918190818f818e818d818c818b818a818981888187818681858184818281818180817f817e817d817c817b817a817981788177817681758174817281718170816f816e816d816c816b816a816981688167816681658164816281618160815f815e815d815c815b815a815981588157815681558154815281518150814f814e814d814c814b,
  0x8367836683648363836283618360835f835e835d835c835b835a8359835883578356835583548353835283518350834f834d834c834b834a8349834883478346834583448343834283418340833f833e833d833c833b833a833983388336833583348333833283318330832f832e832d832c832b832a832983288327832683258324832383228320831f831e831d831c831b831a8319831883178316831583148313831283118310830f830e830d830b830a830983088307830683058304830383028301830082ff82fe82fd82fc82fb82fa82f982f882f782f582f482f382f282f182f082ef82ee82ed82ec82eb82ea82e982e882e782e682e582e482e382e282e082df82de82dd82dc82db82da82d982d882d782d682d582d482d382d282d182d082cf82ce82cc82cb82ca82c982c882c782c682c582c482c382c282c182c082bf82be82bd82bc82bb82ba82b982b782b682b582b482b382b282b182b082af82ae82ad82ac82ab82aa82a982a882a782a682a582a382a282a182a0829f829e829d829c829b829a829982988297829682958294829382928290828f828e828d828c828b828a8289828882878286828582848283828282818280827f827e827c827b827a8279827882778276827582748273827282718270826f826e826d826c826b8269826882678266826582648263826282618260825f825e825d825c825b,
  0x84718470846f846e846d846c846b846a846984678466846584648463846284618460845f845e845d845c845b845a8459845884578456845584548453845284518450844f844e844d844c844a8449844884478446844584448443844284418440843f843e843d843c843b843a8439843884378436843584348433843284318430842f842d842c842b842a8429842884278426842584248423842284218420841f841e841d841c841b841a841984188417841684158414841284118410840f840e840d840c840b840a840984088407840684058404840384028401840083ff83fe83fd83fc83fb83fa83f983f783f683f583f483f383f283f183f083ef83ee83ed83ec83eb83ea83e983e883e783e683e583e483e383e283e183e083df83dd83dc83db83da83d983d883d783d683d583d483d383d283d183d083cf83ce83cd83cc83cb83ca83c983c883c783c683c483c383c283c183c083bf83be83bd83bc83bb83ba83b983b883b783b683b583b483b383b283b183b083af83ae83ad83ab83aa83a983a883a783a683a583a483a383a283a183a0839f839e839d839c839b839a839983988397839683958393839283918390838f838e838d838c838b838a8389838883878386838583848383838283818380837f837e837d837b837a8379837883778376837583748373837283718370836f836e836d836c836b836a83698368,
  0x857885778576857585748573857285718570856f856e856d856c856b856a8569856885678566856585648563856285618560855f855e855d855c855b855a855985588557855685558554855285518550854f854e854d854c854b854a8549854885478546854585448543854285418540853f853e853d853c853b853a8539853885378536853585348533853285318530852f852e852c852b852a8529852885278526852585248523852285218520851f851e851d851c851b851a8519851885178516851585148513851285118510850f850e850d850c850b850a85098507850685058504850385028501850084ff84fe84fd84fc84fb84fa84f984f884f784f684f584f484f384f284f184f084ef84ee84ed84ec84eb84ea84e984e884e784e584e484e384e284e184e084df84de84dd84dc84db84da84d984d884d784d684d584d484d384d284d184d084cf84ce84cd84cc84cb84ca84c984c884c784c684c484c384c284c184c084bf84be84bd84bc84bb84ba84b984b884b784b684b584b484b384b284b184b084af84ae84ad84ac84ab84aa84a984a884a784a684a584a384a284a184a0849f849e849d849c849b849a8499849884978496849584948493849284918490848f848e848d848c848b848a848984888487848684848483848284818480847f847e847d847c847b847a84798478847784768475847484738472,
  0x867d867c867b867a8679867886778676867586748673867286718670866f866e866d866c866b866a8669866886678666866586648663866286618660865f865e865d865c865b865a8659865886578656865586548653865286518650864f864e864d864c864b864a8649864886478646864586448643864286418640863e863d863c863b863a8639863886378636863586348633863286318630862f862e862d862c862b862a8629862886278626862586248623862286218620861f861e861d861c861b861a8619861886178616861586148613861286118610860f860e860d860c860b860a86098608860686058604860386028601860085ff85fe85fd85fc85fb85fa85f985f885f785f685f585f485f385f285f185f085ef85ee85ed85ec85eb85ea85e985e885e785e685e585e485e385e285e185e085df85de85dd85dc85db85da85d985d885d785d685d485d385d285d185d085cf85ce85cd85cc85cb85ca85c985c885c785c685c585c485c385c285c185c085bf85be85bd85bc85bb85ba85b985b885b785b685b585b485b385b285b185b085af85ae85ad85ac85ab85aa85a985a885a785a585a485a385a285a185a0859f859e859d859c859b859a8599859885978596859585948593859285918590858f858e858d858c858b858a8589858885878586858585848583858285818580857f857e857d857c857a8579,
  0x8780877f877e877d877c877b877a8779877887778776877587748773877287718770876f876e876d876c876b876a8769876887678766876587648763876287618760875f875e875d875c875b875a8759875887578756875587548753875287518750874f874e874d874c874b874a8749874887478746874587448743874287418740873f873e873d873c873b873a8739873887378736873587348733873287318730872f872e872d872b872a8729872887278726872587248723872287218720871f871e871d871c871b871a8719871887178716871587148713871287118710870f870e870d870c870b870a870987088707870687058704870387028701870086ff86fe86fd86fc86fb86fa86f986f886f786f686f586f486f386f286f186f086ef86ee86ed86ec86eb86ea86e986e886e786e686e586e486e386e286e186e086df86de86dd86dc86db86da86d986d886d786d686d586d486d386d286d186d086cf86ce86cd86cc86cb86c986c886c786c686c586c486c386c286c186c086bf86be86bd86bc86bb86ba86b986b886b786b686b586b486b386b286b186b086af86ae86ad86ac86ab86aa86a986a886a786a686a586a486a386a286a186a0869f869e869d869c869b869a8699869886978696869586948693869286918690868f868e868d868c868b868a8689868886878686868586848683868286818680867f,
  0x8880887f887e887d887c887b887a8879887888778876887588748873887288718870886f886e886d886c886b886a8869886888678866886588648863886288618860885f885e885d885c885b885a8859885888578856885588548853885288518850884f884e884d884c884b884a8849884888478846884588448843884288418840883f883e883d883c883b883a8839883888378836883588348833883288318830882f882e882d882c882b882a8829882888278826882588248823882288218820881f881e881d881c881b881a8819881888178816881588148813881288118810880f880e880d880c880b880a880988088807880688058804880388028801880087ff87fe87fd87fc87fb87fa87f987f887f787f687f587f487f387f287f187f087ef87ee87ed87ec87eb87ea87e987e887e787e687e587e487e387e287e187e087df87de87dd87dc87db87da87d987d887d787d687d587d487d387d287d187d087cf87ce87cd87cc87cb87ca87c987c887c787c687c587c487c387c287c187c087bf87be87bd87bc87bb87ba87b987b887b787b687b587b487b387b287b187b087af87ae87ad87ac87ab87aa87a987a887a787a687a587a487a387a287a187a0879f879e879d879c879b879a8799879887978796879587948793879287918790878f878e878d878c878b878a878987888787878687858784878387828781,
  0x897e897d897c897b897a8979897889778976897589748973897289718970896f896e896d896c896b896a8969896889678966896589648963896289618960895f895e895d895c895b895a89598959895889578956895589548953895289518950894f894e894d894c894b894a8949894889478946894589448943894289418940893f893e893d893c893b893a8939893889378936893589348933893289318930892f892e892d892c892b892a8929892889278926892589248923892289218920891f891e891d891c891b891a8919891889178916891589148913891289118910890f890e890d890c890b890a890989088907890689058904890389028901890088ff88fe88fd88fc88fb88fa88f988f888f788f688f688f588f488f388f288f188f088ef88ee88ed88ec88eb88ea88e988e888e788e688e588e488e388e288e188e088df88de88dd88dc88db88da88d988d888d788d688d588d488d388d288d188d088cf88ce88cd88cc88cb88ca88c988c888c788c688c588c488c388c288c188c088bf88be88bd88bc88bb88ba88b988b888b788b688b588b488b388b288b188b088af88ae88ad88ac88ab88aa88a988a888a788a688a588a488a388a288a188a0889f889e889d889c889b889a8899889888978896889588948893889288918890888f888e888d888c888b888a888988888887888688858884888388828881,
  0x8a7a8a798a788a778a768a758a748a738a728a718a708a6f8a6e8a6d8a6c8a6b8a6a8a698a688a678a668a658a648a638a628a618a608a5f8a5e8a5d8a5c8a5b8a5a8a598a588a578a568a558a548a538a528a518a508a4f8a4e8a4d8a4c8a4c8a4b8a4a8a498a488a478a468a458a448a438a428a418a408a3f8a3e8a3d8a3c8a3b8a3a8a398a388a378a368a358a348a338a328a318a308a2f8a2e8a2d8a2c8a2b8a2a8a298a288a278a268a258a248a238a228a218a208a1f8a1e8a1d8a1c8a1b8a1a8a1a8a198a188a178a168a158a148a138a128a118a108a0f8a0e8a0d8a0c8a0b8a0a8a098a088a078a068a058a048a038a028a018a0089ff89fe89fd89fc89fb89fa89f989f889f789f689f589f489f389f289f189f089ef89ee89ed89ec89eb89ea89e989e889e789e689e589e489e389e389e289e189e089df89de89dd89dc89db89da89d989d889d789d689d589d489d389d289d189d089cf89ce89cd89cc89cb89ca89c989c889c789c689c589c489c389c289c189c089bf89be89bd89bc89bb89ba89b989b889b789b689b589b489b389b289b189b089af89ae89ad89ac89ab89aa89a989a889a789a689a589a489a389a389a289a189a0899f899e899d899c899b899a8999899889978996899589948993899289918990898f898e898d898c898b898a8989898889878986898589848983898289818980897f,
  0x8b738b728b718b708b6f8b6e8b6d8b6c8b6b8b6a8b698b688b678b668b658b648b638b628b618b608b5f8b5e8b5d8b5c8b5b8b5b8b5a8b598b588b578b568b558b548b538b528b518b508b4f8b4e8b4d8b4c8b4b8b4a8b498b488b478b468b458b448b438b428b418b408b3f8b3e8b3d8b3c8b3b8b3a8b3a8b398b388b378b368b358b348b338b328b318b308b2f8b2e8b2d8b2c8b2b8b2a8b298b288b278b268b258b248b238b228b218b208b1f8b1e8b1d8b1c8b1b8b1a8b198b188b188b178b168b158b148b138b128b118b108b0f8b0e8b0d8b0c8b0b8b0a8b098b088b078b068b058b048b038b028b018b008aff8afe8afd8afc8afb8afa8af98af88af78af68af58af48af38af38af28af18af08aef8aee8aed8aec8aeb8aea8ae98ae88ae78ae68ae58ae48ae38ae28ae18ae08adf8ade8add8adc8adb8ada8ad98ad88ad78ad68ad58ad48ad38ad28ad18ad08acf8ace8acd8acd8acc8acb8aca8ac98ac88ac78ac68ac58ac48ac38ac28ac18ac08abf8abe8abd8abc8abb8aba8ab98ab88ab78ab68ab58ab48ab38ab28ab18ab08aaf8aae8aad8aac8aab8aaa8aa98aa88aa78aa68aa58aa58aa48aa38aa28aa18aa08a9f8a9e8a9d8a9c8a9b8a9a8a998a988a978a968a958a948a938a928a918a908a8f8a8e8a8d8a8c8a8b8a8a8a898a888a878a868a858a848a838a828a818a808a7f8a7e8a7d8a7c8a7b8a7a,
  0x8c6a8c698c688c678c668c658c648c638c628c618c608c5f8c5e8c5d8c5c8c5b8c5a8c598c598c588c578c568c558c548c538c528c518c508c4f8c4e8c4d8c4c8c4b8c4a8c498c488c478c468c458c448c438c428c418c408c408c3f8c3e8c3d8c3c8c3b8c3a8c398c388c378c368c358c348c338c328c318c308c2f8c2e8c2d8c2c8c2b8c2a8c298c288c278c268c268c258c248c238c228c218c208c1f8c1e8c1d8c1c8c1b8c1a8c198c188c178c168c158c148c138c128c118c108c0f8c0e8c0d8c0c8c0b8c0b8c0a8c098c088c078c068c058c048c038c028c018c008bff8bfe8bfd8bfc8bfb8bfa8bf98bf88bf78bf68bf58bf48bf38bf28bf18bf08bf08bef8bee8bed8bec8beb8bea8be98be88be78be68be58be48be38be28be18be08bdf8bde8bdd8bdc8bdb8bda8bd98bd88bd78bd68bd58bd48bd48bd38bd28bd18bd08bcf8bce8bcd8bcc8bcb8bca8bc98bc88bc78bc68bc58bc48bc38bc28bc18bc08bbf8bbe8bbd8bbc8bbb8bba8bb98bb88bb88bb78bb68bb58bb48bb38bb28bb18bb08baf8bae8bad8bac8bab8baa8ba98ba88ba78ba68ba58ba48ba38ba28ba18ba08b9f8b9e8b9d8b9c8b9b8b9a8b9a8b998b988b978b968b958b948b938b928b918b908b8f8b8e8b8d8b8c8b8b8b8a8b898b888b878b868b858b848b838b828b818b808b7f8b7e8b7d8b7c8b7b8b7b8b7a8b798b788b778b768b758b74,
  0x8d5f8d5e8d5d8d5c8d5b8d5a8d598d588d578d568d558d548d538d528d518d508d4f8d4f8d4e8d4d8d4c8d4b8d4a8d498d488d478d468d458d448d438d428d418d408d3f8d3e8d3d8d3c8d3b8d3b8d3a8d398d388d378d368d358d348d338d328d318d308d2f8d2e8d2d8d2c8d2b8d2a8d298d288d278d268d268d258d248d238d228d218d208d1f8d1e8d1d8d1c8d1b8d1a8d198d188d178d168d158d148d138d128d118d118d108d0f8d0e8d0d8d0c8d0b8d0a8d098d088d078d068d058d048d038d028d018d008cff8cfe8cfd8cfc8cfb8cfb8cfa8cf98cf88cf78cf68cf58cf48cf38cf28cf18cf08cef8cee8ced8cec8ceb8cea8ce98ce88ce78ce68ce58ce58ce48ce38ce28ce18ce08cdf8cde8cdd8cdc8cdb8cda8cd98cd88cd78cd68cd58cd48cd38cd28cd18cd08ccf8ccf8cce8ccd8ccc8ccb8cca8cc98cc88cc78cc68cc58cc48cc38cc28cc18cc08cbf8cbe8cbd8cbc8cbb8cba8cb98cb88cb88cb78cb68cb58cb48cb38cb28cb18cb08caf8cae8cad8cac8cab8caa8ca98ca88ca78ca68ca58ca48ca38ca28ca18ca18ca08c9f8c9e8c9d8c9c8c9b8c9a8c998c988c978c968c958c948c938c928c918c908c8f8c8e8c8d8c8c8c8b8c8a8c8a8c898c888c878c868c858c848c838c828c818c808c7f8c7e8c7d8c7c8c7b8c7a8c798c788c778c768c758c748c738c728c728c718c708c6f8c6e8c6d8c6c8c6b,
  0x8e528e518e508e4f8e4e8e4d8e4c8e4b8e4a8e498e488e478e468e458e448e438e428e418e418e408e3f8e3e8e3d8e3c8e3b8e3a8e398e388e378e368e358e348e338e328e318e308e308e2f8e2e8e2d8e2c8e2b8e2a8e298e288e278e268e258e248e238e228e218e208e1f8e1f8e1e8e1d8e1c8e1b8e1a8e198e188e178e168e158e148e138e128e118e108e0f8e0e8e0d8e0d8e0c8e0b8e0a8e098e088e078e068e058e048e038e028e018e008dff8dfe8dfd8dfc8dfb8dfb8dfa8df98df88df78df68df58df48df38df28df18df08def8dee8ded8dec8deb8dea8de98de98de88de78de68de58de48de38de28de18de08ddf8dde8ddd8ddc8ddb8dda8dd98dd88dd78dd68dd68dd58dd48dd38dd28dd18dd08dcf8dce8dcd8dcc8dcb8dca8dc98dc88dc78dc68dc58dc48dc48dc38dc28dc18dc08dbf8dbe8dbd8dbc8dbb8dba8db98db88db78db68db58db48db38db28db18db18db08daf8dae8dad8dac8dab8daa8da98da88da78da68da58da48da38da28da18da08d9f8d9e8d9e8d9d8d9c8d9b8d9a8d998d988d978d968d958d948d938d928d918d908d8f8d8e8d8d8d8c8d8b8d8b8d8a8d898d888d878d868d858d848d838d828d818d808d7f8d7e8d7d8d7c8d7b8d7a8d798d788d778d778d768d758d748d738d728d718d708d6f8d6e8d6d8d6c8d6b8d6a8d698d688d678d668d658d648d638d638d628d618d60,
  0x8f428f418f408f408f3f8f3e8f3d8f3c8f3b8f3a8f398f388f378f368f358f348f338f328f318f318f308f2f8f2e8f2d8f2c8f2b8f2a8f298f288f278f268f258f248f238f228f228f218f208f1f8f1e8f1d8f1c8f1b8f1a8f198f188f178f168f158f148f138f138f128f118f108f0f8f0e8f0d8f0c8f0b8f0a8f098f088f078f068f058f048f048f038f028f018f008eff8efe8efd8efc8efb8efa8ef98ef88ef78ef68ef58ef48ef48ef38ef28ef18ef08eef8eee8eed8eec8eeb8eea8ee98ee88ee78ee68ee58ee58ee48ee38ee28ee18ee08edf8ede8edd8edc8edb8eda8ed98ed88ed78ed68ed58ed58ed48ed38ed28ed18ed08ecf8ece8ecd8ecc8ecb8eca8ec98ec88ec78ec68ec58ec58ec48ec38ec28ec18ec08ebf8ebe8ebd8ebc8ebb8eba8eb98eb88eb78eb68eb58eb58eb48eb38eb28eb18eb08eaf8eae8ead8eac8eab8eaa8ea98ea88ea78ea68ea58ea58ea48ea38ea28ea18ea08e9f8e9e8e9d8e9c8e9b8e9a8e998e988e978e968e958e958e948e938e928e918e908e8f8e8e8e8d8e8c8e8b8e8a8e898e888e878e868e858e858e848e838e828e818e808e7f8e7e8e7d8e7c8e7b8e7a8e798e788e778e768e758e748e748e738e728e718e708e6f8e6e8e6d8e6c8e6b8e6a8e698e688e678e668e658e648e638e638e628e618e608e5f8e5e8e5d8e5c8e5b8e5a8e598e588e578e568e558e548e538e52,
  0x90319030902f902e902d902c902c902b902a9029902890279026902590249023902290219020901f901f901e901d901c901b901a90199018901790169015901490139012901290119010900f900e900d900c900b900a900990089007900690059004900490039002900190008fff8ffe8ffd8ffc8ffb8ffa8ff98ff88ff78ff78ff68ff58ff48ff38ff28ff18ff08fef8fee8fed8fec8feb8fea8fe98fe98fe88fe78fe68fe58fe48fe38fe28fe18fe08fdf8fde8fdd8fdc8fdc8fdb8fda8fd98fd88fd78fd68fd58fd48fd38fd28fd18fd08fcf8fce8fce8fcd8fcc8fcb8fca8fc98fc88fc78fc68fc58fc48fc38fc28fc18fc08fc08fbf8fbe8fbd8fbc8fbb8fba8fb98fb88fb78fb68fb58fb48fb38fb28fb28fb18fb08faf8fae8fad8fac8fab8faa8fa98fa88fa78fa68fa58fa48fa48fa38fa28fa18fa08f9f8f9e8f9d8f9c8f9b8f9a8f998f988f978f968f968f958f948f938f928f918f908f8f8f8e8f8d8f8c8f8b8f8a8f898f888f888f878f868f858f848f838f828f818f808f7f8f7e8f7d8f7c8f7b8f7a8f7a8f798f788f778f768f758f748f738f728f718f708f6f8f6e8f6d8f6c8f6c8f6b8f6a8f698f688f678f668f658f648f638f628f618f608f5f8f5e8f5d8f5d8f5c8f5b8f5a8f598f588f578f568f558f548f538f528f518f508f4f8f4e8f4e8f4d8f4c8f4b8f4a8f498f488f478f468f458f448f43,
  0x911e911d911c911b911a91199118911791179116911591149113911291119110910f910e910d910c910b910b910a9109910891079106910591049103910291019100910090ff90fe90fd90fc90fb90fa90f990f890f790f690f590f490f490f390f290f190f090ef90ee90ed90ec90eb90ea90e990e890e890e790e690e590e490e390e290e190e090df90de90dd90dc90dc90db90da90d990d890d790d690d590d490d390d290d190d090d090cf90ce90cd90cc90cb90ca90c990c890c790c690c590c490c390c390c290c190c090bf90be90bd90bc90bb90ba90b990b890b790b790b690b590b490b390b290b190b090af90ae90ad90ac90ab90ab90aa90a990a890a790a690a590a490a390a290a190a0909f909e909e909d909c909b909a90999098909790969095909490939092909290919090908f908e908d908c908b908a90899088908790869086908590849083908290819080907f907e907d907c907b907a90799079907890779076907590749073907290719070906f906e906d906c906c906b906a90699068906790669065906490639062906190609060905f905e905d905c905b905a90599058905790569055905490539053905290519050904f904e904d904c904b904a90499048904790469046904590449043904290419040903f903e903d903c903b903a903990399038903790369035903490339032,
  0x9209920892079206920592049203920292029201920091ff91fe91fd91fc91fb91fa91f991f891f791f791f691f591f491f391f291f191f091ef91ee91ed91ec91ec91eb91ea91e991e891e791e691e591e491e391e291e291e191e091df91de91dd91dc91db91da91d991d891d791d791d691d591d491d391d291d191d091cf91ce91cd91cc91cc91cb91ca91c991c891c791c691c591c491c391c291c191c191c091bf91be91bd91bc91bb91ba91b991b891b791b691b691b591b491b391b291b191b091af91ae91ad91ac91ab91ab91aa91a991a891a791a691a591a491a391a291a191a091a0919f919e919d919c919b919a91999198919791969195919591949193919291919190918f918e918d918c918b918a918a9189918891879186918591849183918291819180917f917f917e917d917c917b917a91799178917791769175917491739173917291719170916f916e916d916c916b916a91699168916891679166916591649163916291619160915f915e915d915d915c915b915a91599158915791569155915491539152915191519150914f914e914d914c914b914a91499148914791469146914591449143914291419140913f913e913d913c913b913a913a9139913891379136913591349133913291319130912f912e912e912d912c912b912a91299128912791269125912491239123912291219120911f,
  0x92f292f192f092ef92ee92ed92ec92ec92eb92ea92e992e892e792e692e592e492e392e292e292e192e092df92de92dd92dc92db92da92d992d892d892d792d692d592d492d392d292d192d092cf92ce92ce92cd92cc92cb92ca92c992c892c792c692c592c592c492c392c292c192c092bf92be92bd92bc92bb92bb92ba92b992b892b792b692b592b492b392b292b192b192b092af92ae92ad92ac92ab92aa92a992a892a792a792a692a592a492a392a292a192a0929f929e929d929d929c929b929a92999298929792969295929492939293929292919290928f928e928d928c928b928a92899289928892879286928592849283928292819280927f927e927e927d927c927b927a92799278927792769275927492749273927292719270926f926e926d926c926b926a926a92699268926792669265926492639262926192609260925f925e925d925c925b925a92599258925792569256925592549253925292519250924f924e924d924c924b924b924a92499248924792469245924492439242924192419240923f923e923d923c923b923a92399238923792369236923592349233923292319230922f922e922d922c922c922b922a92299228922792269225922492239222922292219220921f921e921d921c921b921a92199218921792179216921592149213921292119210920f920e920d920c920c920b920a,
  0x93d993d893d793d693d593d593d493d393d293d193d093cf93ce93cd93cc93cc93cb93ca93c993c893c793c693c593c493c393c393c293c193c093bf93be93bd93bc93bb93ba93ba93b993b893b793b693b593b493b393b293b193b193b093af93ae93ad93ac93ab93aa93a993a893a893a793a693a593a493a393a293a193a0939f939f939e939d939c939b939a93999398939793969396939593949393939293919390938f938e938d938d938c938b938a93899388938793869385938493839383938293819380937f937e937d937c937b937a937a93799378937793769375937493739372937193719370936f936e936d936c936b936a93699368936893679366936593649363936293619360935f935e935e935d935c935b935a93599358935793569355935593549353935293519350934f934e934d934c934c934b934a93499348934793469345934493439342934293419340933f933e933d933c933b933a93399339933893379336933593349333933293319330932f932f932e932d932c932b932a93299328932793269326932593249323932293219320931f931e931d931c931c931b931a93199318931793169315931493139312931293119310930f930e930d930c930b930a9309930993089307930693059304930393029301930092ff92ff92fe92fd92fc92fb92fa92f992f892f792f692f692f592f492f3,
  0x94bf94be94bd94bc94bb94ba94b994b894b794b694b694b594b494b394b294b194b094af94ae94ae94ad94ac94ab94aa94a994a894a794a694a594a594a494a394a294a194a0949f949e949d949d949c949b949a94999498949794969495949594949493949294919490948f948e948d948c948c948b948a94899488948794869485948494849483948294819480947f947e947d947c947b947b947a94799478947794769475947494739473947294719470946f946e946d946c946b946a946a94699468946794669465946494639462946294619460945f945e945d945c945b945a945994599458945794569455945494539452945194509450944f944e944d944c944b944a94499448944894479446944594449443944294419440943f943f943e943d943c943b943a94399438943794379436943594349433943294319430942f942e942e942d942c942b942a94299428942794269425942594249423942294219420941f941e941d941c941c941b941a94199418941794169415941494149413941294119410940f940e940d940c940b940b940a9409940894079406940594049403940294029401940093ff93fe93fd93fc93fb93fa93f993f993f893f793f693f593f493f393f293f193f093f093ef93ee93ed93ec93eb93ea93e993e893e793e793e693e593e493e393e293e193e093df93de93de93dd93dc93db93da,
  0x95a295a195a095a0959f959e959d959c959b959a959995989598959795969595959495939592959195909590958f958e958d958c958b958a958995889588958795869585958495839582958195809580957f957e957d957c957b957a957995799578957795769575957495739572957195719570956f956e956d956c956b956a956995699568956795669565956495639562956195619560955f955e955d955c955b955a955995599558955795569555955495539552955195519550954f954e954d954c954b954a954995499548954795469545954495439542954195419540953f953e953d953c953b953a953995399538953795369535953495339532953195319530952f952e952d952c952b952a952995299528952795269525952495239522952195219520951f951e951d951c951b951a951995199518951795169515951495139512951195119510950f950e950d950c950b950a95099509950895079506950595049503950295019500950094ff94fe94fd94fc94fb94fa94f994f894f894f794f694f594f494f394f294f194f094f094ef94ee94ed94ec94eb94ea94e994e894e894e794e694e594e494e394e294e194e094e094df94de94dd94dc94db94da94d994d894d794d794d694d594d494d394d294d194d094cf94cf94ce94cd94cc94cb94ca94c994c894c794c794c694c594c494c394c294c194c094bf,
  0x968496839682968196819680967f967e967d967c967b967a967a96799678967796769675967496739673967296719670966f966e966d966c966b966b966a96699668966796669665966496649663966296619660965f965e965d965d965c965b965a96599658965796569655965596549653965296519650964f964e964e964d964c964b964a96499648964796479646964596449643964296419640963f963f963e963d963c963b963a963996389638963796369635963496339632963196309630962f962e962d962c962b962a962996299628962796269625962496239622962196219620961f961e961d961c961b961a961a96199618961796169615961496139612961296119610960f960e960d960c960b960b960a9609960896079606960596049603960396029601960095ff95fe95fd95fc95fc95fb95fa95f995f895f795f695f595f495f495f395f295f195f095ef95ee95ed95ec95ec95eb95ea95e995e895e795e695e595e595e495e395e295e195e095df95de95dd95dd95dc95db95da95d995d895d795d695d695d595d495d395d295d195d095cf95ce95ce95cd95cc95cb95ca95c995c895c795c695c695c595c495c395c295c195c095bf95bf95be95bd95bc95bb95ba95b995b895b795b795b695b595b495b395b295b195b095af95af95ae95ad95ac95ab95aa95a995a895a795a795a695a595a495a3,
  0x976497649763976297619760975f975e975d975d975c975b975a97599758975797569756975597549753975297519750974f974f974e974d974c974b974a974997489748974797469745974497439742974197419740973f973e973d973c973b973a973a97399738973797369735973497339733973297319730972f972e972d972c972c972b972a97299728972797269725972597249723972297219720971f971e971e971d971c971b971a971997189717971797169715971497139712971197109710970f970e970d970c970b970a97099709970897079706970597049703970297029701970096ff96fe96fd96fc96fb96fb96fa96f996f896f796f696f596f496f496f396f296f196f096ef96ee96ed96ed96ec96eb96ea96e996e896e796e696e696e596e496e396e296e196e096df96df96de96dd96dc96db96da96d996d896d896d796d696d596d496d396d296d196d196d096cf96ce96cd96cc96cb96ca96ca96c996c896c796c696c596c496c396c296c296c196c096bf96be96bd96bc96bb96bb96ba96b996b896b796b696b596b496b496b396b296b196b096af96ae96ad96ad96ac96ab96aa96a996a896a796a696a696a596a496a396a296a196a0969f969e969e969d969c969b969a969996989697969796969695969496939692969196909690968f968e968d968c968b968a968996899688968796869685,
  0x98439842984198409840983f983e983d983c983b983a983998399838983798369835983498339833983298319830982f982e982d982c982c982b982a98299828982798269826982598249823982298219820981f981f981e981d981c981b981a981998199818981798169815981498139812981298119810980f980e980d980c980b980b980a9809980898079806980598059804980398029801980097ff97fe97fe97fd97fc97fb97fa97f997f897f897f797f697f597f497f397f297f197f197f097ef97ee97ed97ec97eb97ea97ea97e997e897e797e697e597e497e497e397e297e197e097df97de97dd97dd97dc97db97da97d997d897d797d697d697d597d497d397d297d197d097d097cf97ce97cd97cc97cb97ca97c997c997c897c797c697c597c497c397c297c297c197c097bf97be97bd97bc97bc97bb97ba97b997b897b797b697b597b597b497b397b297b197b097af97ae97ae97ad97ac97ab97aa97a997a897a897a797a697a597a497a397a297a197a197a0979f979e979d979c979b979a979a97999798979797969795979497939793979297919790978f978e978d978d978c978b978a97899788978797869786978597849783978297819780977f977f977e977d977c977b977a977997789778977797769775977497739772977197719770976f976e976d976c976b976a976a97699768976797669765,
  0x9920991f991e991d991d991c991b991a991999189917991799169915991499139912991199119910990f990e990d990c990b990a990a9909990899079906990599049904990399029901990098ff98fe98fe98fd98fc98fb98fa98f998f898f898f798f698f598f498f398f298f298f198f098ef98ee98ed98ec98eb98eb98ea98e998e898e798e698e598e598e498e398e298e198e098df98df98de98dd98dc98db98da98d998d998d898d798d698d598d498d398d298d298d198d098cf98ce98cd98cc98cc98cb98ca98c998c898c798c698c698c598c498c398c298c198c098c098bf98be98bd98bc98bb98ba98b998b998b898b798b698b598b498b398b398b298b198b098af98ae98ad98ad98ac98ab98aa98a998a898a798a698a698a598a498a398a298a198a098a0989f989e989d989c989b989a989a98999898989798969895989498939893989298919890988f988e988d988d988c988b988a988998889887988698869885988498839882988198809880987f987e987d987c987b987a987a98799878987798769875987498739873987298719870986f986e986d986d986c986b986a986998689867986698669865986498639862986198609860985f985e985d985c985b985a985a98599858985798569855985498539853985298519850984f984e984d984d984c984b984a9849984898479846984698459844,
  0x99fb99fb99fa99f999f899f799f699f599f599f499f399f299f199f099ef99ef99ee99ed99ec99eb99ea99e999e999e899e799e699e599e499e399e399e299e199e099df99de99dd99dd99dc99db99da99d999d899d899d799d699d599d499d399d299d299d199d099cf99ce99cd99cc99cc99cb99ca99c999c899c799c699c699c599c499c399c299c199c099c099bf99be99bd99bc99bb99ba99ba99b999b899b799b699b599b499b499b399b299b199b099af99ae99ae99ad99ac99ab99aa99a999a899a899a799a699a599a499a399a299a299a199a0999f999e999d999c999c999b999a999999989997999699969995999499939992999199909990998f998e998d998c998b998a998a99899988998799869985998499849983998299819980997f997e997e997d997c997b997a997999789978997799769975997499739972997299719970996f996e996d996c996c996b996a996999689967996699669965996499639962996199609960995f995e995d995c995b995a995a99599958995799569955995499549953995299519950994f994e994e994d994c994b994a994999489948994799469945994499439942994299419940993f993e993d993c993c993b993a99399938993799369935993599349933993299319930992f992f992e992d992c992b992a99299929992899279926992599249923992399229921,
  0x9ad59ad49ad49ad39ad29ad19ad09acf9ace9ace9acd9acc9acb9aca9ac99ac99ac89ac79ac69ac59ac49ac39ac39ac29ac19ac09abf9abe9abd9abd9abc9abb9aba9ab99ab89ab89ab79ab69ab59ab49ab39ab29ab29ab19ab09aaf9aae9aad9aad9aac9aab9aaa9aa99aa89aa79aa79aa69aa59aa49aa39aa29aa19aa19aa09a9f9a9e9a9d9a9c9a9c9a9b9a9a9a999a989a979a969a969a959a949a939a929a919a909a909a8f9a8e9a8d9a8c9a8b9a8b9a8a9a899a889a879a869a859a859a849a839a829a819a809a7f9a7f9a7e9a7d9a7c9a7b9a7a9a7a9a799a789a779a769a759a749a749a739a729a719a709a6f9a6e9a6e9a6d9a6c9a6b9a6a9a699a699a689a679a669a659a649a639a639a629a619a609a5f9a5e9a5d9a5d9a5c9a5b9a5a9a599a589a579a579a569a559a549a539a529a529a519a509a4f9a4e9a4d9a4c9a4c9a4b9a4a9a499a489a479a469a469a459a449a439a429a419a409a409a3f9a3e9a3d9a3c9a3b9a3b9a3a9a399a389a379a369a359a359a349a339a329a319a309a2f9a2f9a2e9a2d9a2c9a2b9a2a9a299a299a289a279a269a259a249a249a239a229a219a209a1f9a1e9a1e9a1d9a1c9a1b9a1a9a199a189a189a179a169a159a149a139a129a129a119a109a0f9a0e9a0d9a0c9a0c9a0b9a0a9a099a089a079a079a069a059a049a039a029a019a019a0099ff99fe99fd99fc,
  0x9bae9bad9bac9bab9baa9ba99ba99ba89ba79ba69ba59ba49ba39ba39ba29ba19ba09b9f9b9e9b9e9b9d9b9c9b9b9b9a9b999b999b989b979b969b959b949b939b939b929b919b909b8f9b8e9b8e9b8d9b8c9b8b9b8a9b899b899b889b879b869b859b849b839b839b829b819b809b7f9b7e9b7e9b7d9b7c9b7b9b7a9b799b789b789b779b769b759b749b739b739b729b719b709b6f9b6e9b6e9b6d9b6c9b6b9b6a9b699b689b689b679b669b659b649b639b639b629b619b609b5f9b5e9b5d9b5d9b5c9b5b9b5a9b599b589b589b579b569b559b549b539b539b529b519b509b4f9b4e9b4d9b4d9b4c9b4b9b4a9b499b489b489b479b469b459b449b439b429b429b419b409b3f9b3e9b3d9b3d9b3c9b3b9b3a9b399b389b379b379b369b359b349b339b329b329b319b309b2f9b2e9b2d9b2c9b2c9b2b9b2a9b299b289b279b279b269b259b249b239b229b219b219b209b1f9b1e9b1d9b1c9b1c9b1b9b1a9b199b189b179b169b169b159b149b139b129b119b119b109b0f9b0e9b0d9b0c9b0b9b0b9b0a9b099b089b079b069b069b059b049b039b029b019b009b009aff9afe9afd9afc9afb9afb9afa9af99af89af79af69af59af59af49af39af29af19af09af09aef9aee9aed9aec9aeb9aea9aea9ae99ae89ae79ae69ae59ae59ae49ae39ae29ae19ae09adf9adf9ade9add9adc9adb9ada9ad99ad99ad89ad79ad6,
  0x9c849c849c839c829c819c809c7f9c7f9c7e9c7d9c7c9c7b9c7a9c7a9c799c789c779c769c759c759c749c739c729c719c709c709c6f9c6e9c6d9c6c9c6b9c6a9c6a9c699c689c679c669c659c659c649c639c629c619c609c609c5f9c5e9c5d9c5c9c5b9c5b9c5a9c599c589c579c569c569c559c549c539c529c519c519c509c4f9c4e9c4d9c4c9c4b9c4b9c4a9c499c489c479c469c469c459c449c439c429c419c419c409c3f9c3e9c3d9c3c9c3c9c3b9c3a9c399c389c379c379c369c359c349c339c329c329c319c309c2f9c2e9c2d9c2c9c2c9c2b9c2a9c299c289c279c279c269c259c249c239c229c229c219c209c1f9c1e9c1d9c1d9c1c9c1b9c1a9c199c189c189c179c169c159c149c139c129c129c119c109c0f9c0e9c0d9c0d9c0c9c0b9c0a9c099c089c089c079c069c059c049c039c039c029c019c009bff9bfe9bfd9bfd9bfc9bfb9bfa9bf99bf89bf89bf79bf69bf59bf49bf39bf39bf29bf19bf09bef9bee9bee9bed9bec9beb9bea9be99be89be89be79be69be59be49be39be39be29be19be09bdf9bde9bde9bdd9bdc9bdb9bda9bd99bd89bd89bd79bd69bd59bd49bd39bd39bd29bd19bd09bcf9bce9bce9bcd9bcc9bcb9bca9bc99bc99bc89bc79bc69bc59bc49bc39bc39bc29bc19bc09bbf9bbe9bbe9bbd9bbc9bbb9bba9bb99bb99bb89bb79bb69bb59bb49bb39bb39bb29bb19bb09baf9bae,
  0x9d5a9d599d589d579d569d569d559d549d539d529d519d519d509d4f9d4e9d4d9d4c9d4c9d4b9d4a9d499d489d479d479d469d459d449d439d439d429d419d409d3f9d3e9d3e9d3d9d3c9d3b9d3a9d399d399d389d379d369d359d349d349d339d329d319d309d2f9d2f9d2e9d2d9d2c9d2b9d2a9d2a9d299d289d279d269d259d259d249d239d229d219d209d209d1f9d1e9d1d9d1c9d1b9d1b9d1a9d199d189d179d169d169d159d149d139d129d119d119d109d0f9d0e9d0d9d0c9d0c9d0b9d0a9d099d089d079d079d069d059d049d039d029d029d019d009cff9cfe9cfd9cfd9cfc9cfb9cfa9cf99cf89cf89cf79cf69cf59cf49cf39cf39cf29cf19cf09cef9cee9cee9ced9cec9ceb9cea9ce99ce99ce89ce79ce69ce59ce49ce49ce39ce29ce19ce09cdf9cdf9cde9cdd9cdc9cdb9cda9cda9cd99cd89cd79cd69cd59cd59cd49cd39cd29cd19cd09cd09ccf9cce9ccd9ccc9ccb9ccb9cca9cc99cc89cc79cc69cc69cc59cc49cc39cc29cc19cc19cc09cbf9cbe9cbd9cbc9cbc9cbb9cba9cb99cb89cb79cb79cb69cb59cb49cb39cb29cb29cb19cb09caf9cae9cad9cad9cac9cab9caa9ca99ca89ca89ca79ca69ca59ca49ca39ca39ca29ca19ca09c9f9c9e9c9d9c9d9c9c9c9b9c9a9c999c989c989c979c969c959c949c939c939c929c919c909c8f9c8e9c8e9c8d9c8c9c8b9c8a9c899c899c889c879c869c85,
  0x9e2e9e2d9e2c9e2b9e2a9e2a9e299e289e279e269e259e259e249e239e229e219e209e209e1f9e1e9e1d9e1c9e1c9e1b9e1a9e199e189e179e179e169e159e149e139e129e129e119e109e0f9e0e9e0e9e0d9e0c9e0b9e0a9e099e099e089e079e069e059e049e049e039e029e019e009dff9dff9dfe9dfd9dfc9dfb9dfb9dfa9df99df89df79df69df69df59df49df39df29df19df19df09def9dee9ded9dec9dec9deb9dea9de99de89de79de79de69de59de49de39de39de29de19de09ddf9dde9dde9ddd9ddc9ddb9dda9dd99dd99dd89dd79dd69dd59dd49dd49dd39dd29dd19dd09dd09dcf9dce9dcd9dcc9dcb9dcb9dca9dc99dc89dc79dc69dc69dc59dc49dc39dc29dc19dc19dc09dbf9dbe9dbd9dbc9dbc9dbb9dba9db99db89db79db79db69db59db49db39db39db29db19db09daf9dae9dae9dad9dac9dab9daa9da99da99da89da79da69da59da49da49da39da29da19da09d9f9d9f9d9e9d9d9d9c9d9b9d9a9d9a9d999d989d979d969d969d959d949d939d929d919d919d909d8f9d8e9d8d9d8c9d8c9d8b9d8a9d899d889d879d879d869d859d849d839d829d829d819d809d7f9d7e9d7d9d7d9d7c9d7b9d7a9d799d789d789d779d769d759d749d749d739d729d719d709d6f9d6f9d6e9d6d9d6c9d6b9d6a9d6a9d699d689d679d669d659d659d649d639d629d619d609d609d5f9d5e9d5d9d5c9d5b9d5b,
  0x9f009eff9eff9efe9efd9efc9efb9efa9efa9ef99ef89ef79ef69ef69ef59ef49ef39ef29ef19ef19ef09eef9eee9eed9eed9eec9eeb9eea9ee99ee89ee89ee79ee69ee59ee49ee49ee39ee29ee19ee09edf9edf9ede9edd9edc9edb9eda9eda9ed99ed89ed79ed69ed69ed59ed49ed39ed29ed19ed19ed09ecf9ece9ecd9ecd9ecc9ecb9eca9ec99ec89ec89ec79ec69ec59ec49ec39ec39ec29ec19ec09ebf9ebf9ebe9ebd9ebc9ebb9eba9eba9eb99eb89eb79eb69eb69eb59eb49eb39eb29eb19eb19eb09eaf9eae9ead9eac9eac9eab9eaa9ea99ea89ea89ea79ea69ea59ea49ea39ea39ea29ea19ea09e9f9e9f9e9e9e9d9e9c9e9b9e9a9e9a9e999e989e979e969e959e959e949e939e929e919e919e909e8f9e8e9e8d9e8c9e8c9e8b9e8a9e899e889e879e879e869e859e849e839e839e829e819e809e7f9e7e9e7e9e7d9e7c9e7b9e7a9e7a9e799e789e779e769e759e759e749e739e729e719e709e709e6f9e6e9e6d9e6c9e6c9e6b9e6a9e699e689e679e679e669e659e649e639e629e629e619e609e5f9e5e9e5e9e5d9e5c9e5b9e5a9e599e599e589e579e569e559e549e549e539e529e519e509e509e4f9e4e9e4d9e4c9e4b9e4b9e4a9e499e489e479e469e469e459e449e439e429e419e419e409e3f9e3e9e3d9e3d9e3c9e3b9e3a9e399e389e389e379e369e359e349e339e339e329e319e309e2f9e2f,
  0x9fd19fd09fd09fcf9fce9fcd9fcc9fcc9fcb9fca9fc99fc89fc89fc79fc69fc59fc49fc39fc39fc29fc19fc09fbf9fbf9fbe9fbd9fbc9fbb9fbb9fba9fb99fb89fb79fb69fb69fb59fb49fb39fb29fb29fb19fb09faf9fae9fad9fad9fac9fab9faa9fa99fa99fa89fa79fa69fa59fa59fa49fa39fa29fa19fa09fa09f9f9f9e9f9d9f9c9f9c9f9b9f9a9f999f989f979f979f969f959f949f939f939f929f919f909f8f9f8e9f8e9f8d9f8c9f8b9f8a9f8a9f899f889f879f869f869f859f849f839f829f819f819f809f7f9f7e9f7d9f7d9f7c9f7b9f7a9f799f789f789f779f769f759f749f749f739f729f719f709f6f9f6f9f6e9f6d9f6c9f6b9f6b9f6a9f699f689f679f669f669f659f649f639f629f629f619f609f5f9f5e9f5d9f5d9f5c9f5b9f5a9f599f599f589f579f569f559f559f549f539f529f519f509f509f4f9f4e9f4d9f4c9f4c9f4b9f4a9f499f489f479f479f469f459f449f439f439f429f419f409f3f9f3e9f3e9f3d9f3c9f3b9f3a9f3a9f399f389f379f369f359f359f349f339f329f319f319f309f2f9f2e9f2d9f2c9f2c9f2b9f2a9f299f289f289f279f269f259f249f239f239f229f219f209f1f9f1f9f1e9f1d9f1c9f1b9f1a9f1a9f199f189f179f169f169f159f149f139f129f119f119f109f0f9f0e9f0d9f0c9f0c9f0b9f0a9f099f089f089f079f069f059f049f039f039f029f01,
  0xa0a1a0a0a09fa09fa09ea09da09ca09ba09ba09aa099a098a097a097a096a095a094a093a092a092a091a090a08fa08ea08ea08da08ca08ba08aa08aa089a088a087a086a086a085a084a083a082a081a081a080a07fa07ea07da07da07ca07ba07aa079a079a078a077a076a075a075a074a073a072a071a070a070a06fa06ea06da06ca06ca06ba06aa069a068a068a067a066a065a064a064a063a062a061a060a05fa05fa05ea05da05ca05ba05ba05aa059a058a057a057a056a055a054a053a053a052a051a050a04fa04ea04ea04da04ca04ba04aa04aa049a048a047a046a046a045a044a043a042a041a041a040a03fa03ea03da03da03ca03ba03aa039a039a038a037a036a035a034a034a033a032a031a030a030a02fa02ea02da02ca02ca02ba02aa029a028a027a027a026a025a024a023a023a022a021a020a01fa01fa01ea01da01ca01ba01ba01aa019a018a017a016a016a015a014a013a012a012a011a010a00fa00ea00ea00da00ca00ba00aa009a009a008a007a006a005a005a004a003a002a001a001a0009fff9ffe9ffd9ffc9ffc9ffb9ffa9ff99ff89ff89ff79ff69ff59ff49ff39ff39ff29ff19ff09fef9fef9fee9fed9fec9feb9feb9fea9fe99fe89fe79fe69fe69fe59fe49fe39fe29fe29fe19fe09fdf9fde9fde9fdd9fdc9fdb9fda9fd99fd99fd89fd79fd69fd59fd59fd49fd39fd2,
  0xa16fa16fa16ea16da16ca16ba16ba16aa169a168a167a167a166a165a164a163a163a162a161a160a15fa15fa15ea15da15ca15ba15ba15aa159a158a157a157a156a155a154a153a153a152a151a150a14fa14ea14ea14da14ca14ba14aa14aa149a148a147a146a146a145a144a143a142a142a141a140a13fa13ea13ea13da13ca13ba13aa13aa139a138a137a136a136a135a134a133a132a132a131a130a12fa12ea12da12da12ca12ba12aa129a129a128a127a126a125a125a124a123a122a121a121a120a11fa11ea11da11da11ca11ba11aa119a119a118a117a116a115a115a114a113a112a111a110a110a10fa10ea10da10ca10ca10ba10aa109a108a108a107a106a105a104a104a103a102a101a100a100a0ffa0fea0fda0fca0fca0fba0faa0f9a0f8a0f7a0f7a0f6a0f5a0f4a0f3a0f3a0f2a0f1a0f0a0efa0efa0eea0eda0eca0eba0eba0eaa0e9a0e8a0e7a0e7a0e6a0e5a0e4a0e3a0e3a0e2a0e1a0e0a0dfa0dea0dea0dda0dca0dba0daa0daa0d9a0d8a0d7a0d6a0d6a0d5a0d4a0d3a0d2a0d2a0d1a0d0a0cfa0cea0cea0cda0cca0cba0caa0c9a0c9a0c8a0c7a0c6a0c5a0c5a0c4a0c3a0c2a0c1a0c1a0c0a0bfa0bea0bda0bda0bca0bba0baa0b9a0b9a0b8a0b7a0b6a0b5a0b4a0b4a0b3a0b2a0b1a0b0a0b0a0afa0aea0ada0aca0aca0aba0aaa0a9a0a8a0a8a0a7a0a6a0a5a0a4a0a3a0a3a0a2,
  0xa23da23ca23ba23aa239a239a238a237a236a235a235a234a233a232a231a231a230a22fa22ea22da22da22ca22ba22aa229a229a228a227a226a225a225a224a223a222a221a221a220a21fa21ea21da21da21ca21ba21aa219a219a218a217a216a215a215a214a213a212a211a211a210a20fa20ea20da20da20ca20ba20aa209a209a208a207a206a205a205a204a203a202a201a201a200a1ffa1fea1fda1fda1fca1fba1faa1f9a1f9a1f8a1f7a1f6a1f5a1f5a1f4a1f3a1f2a1f1a1f1a1f0a1efa1eea1eda1eda1eca1eba1eaa1e9a1e9a1e8a1e7a1e6a1e5a1e5a1e4a1e3a1e2a1e1a1e1a1e0a1dfa1dea1dda1dda1dca1dba1daa1d9a1d9a1d8a1d7a1d6a1d5a1d5a1d4a1d3a1d2a1d1a1d1a1d0a1cfa1cea1cda1cda1cca1cba1caa1c9a1c9a1c8a1c7a1c6a1c5a1c5a1c4a1c3a1c2a1c1a1c1a1c0a1bfa1bea1bda1bda1bca1bba1baa1b9a1b9a1b8a1b7a1b6a1b5a1b5a1b4a1b3a1b2a1b1a1b0a1b0a1afa1aea1ada1aca1aca1aba1aaa1a9a1a8a1a8a1a7a1a6a1a5a1a4a1a4a1a3a1a2a1a1a1a0a1a0a19fa19ea19da19ca19ca19ba19aa199a198a198a197a196a195a194a194a193a192a191a190a190a18fa18ea18da18ca18ca18ba18aa189a188a188a187a186a185a184a184a183a182a181a180a180a17fa17ea17da17ca17ca17ba17aa179a178a178a177a176a175a174a173a173a172a171a170,
  0xa308a308a307a306a305a304a304a303a302a301a300a300a2ffa2fea2fda2fca2fca2fba2faa2f9a2f8a2f8a2f7a2f6a2f5a2f4a2f4a2f3a2f2a2f1a2f1a2f0a2efa2eea2eda2eda2eca2eba2eaa2e9a2e9a2e8a2e7a2e6a2e5a2e5a2e4a2e3a2e2a2e1a2e1a2e0a2dfa2dea2dda2dda2dca2dba2daa2d9a2d9a2d8a2d7a2d6a2d6a2d5a2d4a2d3a2d2a2d2a2d1a2d0a2cfa2cea2cea2cda2cca2cba2caa2caa2c9a2c8a2c7a2c6a2c6a2c5a2c4a2c3a2c2a2c2a2c1a2c0a2bfa2bea2bea2bda2bca2bba2baa2baa2b9a2b8a2b7a2b6a2b6a2b5a2b4a2b3a2b3a2b2a2b1a2b0a2afa2afa2aea2ada2aca2aba2aba2aaa2a9a2a8a2a7a2a7a2a6a2a5a2a4a2a3a2a3a2a2a2a1a2a0a29fa29fa29ea29da29ca29ba29ba29aa299a298a297a297a296a295a294a293a293a292a291a290a28fa28fa28ea28da28ca28ca28ba28aa289a288a288a287a286a285a284a284a283a282a281a280a280a27fa27ea27da27ca27ca27ba27aa279a278a278a277a276a275a274a274a273a272a271a270a270a26fa26ea26da26ca26ca26ba26aa269a268a268a267a266a265a264a264a263a262a261a260a260a25fa25ea25da25ca25ca25ba25aa259a258a258a257a256a255a254a254a253a252a251a251a250a24fa24ea24da24da24ca24ba24aa249a249a248a247a246a245a245a244a243a242a241a241a240a23fa23ea23d,
  0xa3d3a3d2a3d1a3d0a3d0a3cfa3cea3cda3cda3cca3cba3caa3c9a3c9a3c8a3c7a3c6a3c5a3c5a3c4a3c3a3c2a3c1a3c1a3c0a3bfa3bea3bea3bda3bca3bba3baa3baa3b9a3b8a3b7a3b6a3b6a3b5a3b4a3b3a3b3a3b2a3b1a3b0a3afa3afa3aea3ada3aca3aba3aba3aaa3a9a3a8a3a7a3a7a3a6a3a5a3a4a3a4a3a3a3a2a3a1a3a0a3a0a39fa39ea39da39ca39ca39ba39aa399a398a398a397a396a395a394a394a393a392a391a391a390a38fa38ea38da38da38ca38ba38aa389a389a388a387a386a385a385a384a383a382a382a381a380a37fa37ea37ea37da37ca37ba37aa37aa379a378a377a376a376a375a374a373a373a372a371a370a36fa36fa36ea36da36ca36ba36ba36aa369a368a367a367a366a365a364a363a363a362a361a360a360a35fa35ea35da35ca35ca35ba35aa359a358a358a357a356a355a354a354a353a352a351a350a350a34fa34ea34da34da34ca34ba34aa349a349a348a347a346a345a345a344a343a342a341a341a340a33fa33ea33da33da33ca33ba33aa33aa339a338a337a336a336a335a334a333a332a332a331a330a32fa32ea32ea32da32ca32ba32aa32aa329a328a327a326a326a325a324a323a323a322a321a320a31fa31fa31ea31da31ca31ba31ba31aa319a318a317a317a316a315a314a313a313a312a311a310a30fa30fa30ea30da30ca30ca30ba30aa309,
  0xa49ca49ba49ba49aa499a498a497a497a496a495a494a493a493a492a491a490a490a48fa48ea48da48ca48ca48ba48aa489a489a488a487a486a485a485a484a483a482a481a481a480a47fa47ea47ea47da47ca47ba47aa47aa479a478a477a476a476a475a474a473a473a472a471a470a46fa46fa46ea46da46ca46ba46ba46aa469a468a468a467a466a465a464a464a463a462a461a460a460a45fa45ea45da45da45ca45ba45aa459a459a458a457a456a456a455a454a453a452a452a451a450a44fa44ea44ea44da44ca44ba44ba44aa449a448a447a447a446a445a444a443a443a442a441a440a440a43fa43ea43da43ca43ca43ba43aa439a438a438a437a436a435a434a434a433a432a431a431a430a42fa42ea42da42da42ca42ba42aa429a429a428a427a426a426a425a424a423a422a422a421a420a41fa41ea41ea41da41ca41ba41ba41aa419a418a417a417a416a415a414a413a413a412a411a410a410a40fa40ea40da40ca40ca40ba40aa409a408a408a407a406a405a404a404a403a402a401a401a400a3ffa3fea3fda3fda3fca3fba3faa3f9a3f9a3f8a3f7a3f6a3f6a3f5a3f4a3f3a3f2a3f2a3f1a3f0a3efa3eea3eea3eda3eca3eba3eba3eaa3e9a3e8a3e7a3e7a3e6a3e5a3e4a3e3a3e3a3e2a3e1a3e0a3dfa3dfa3dea3dda3dca3dca3dba3daa3d9a3d8a3d8a3d7a3d6a3d5a3d4a3d4,
  0xa564a563a563a562a561a560a55fa55fa55ea55da55ca55ca55ba55aa559a558a558a557a556a555a555a554a553a552a551a551a550a54fa54ea54ea54da54ca54ba54aa54aa549a548a547a547a546a545a544a543a543a542a541a540a540a53fa53ea53da53ca53ca53ba53aa539a538a538a537a536a535a535a534a533a532a531a531a530a52fa52ea52ea52da52ca52ba52aa52aa529a528a527a527a526a525a524a523a523a522a521a520a520a51fa51ea51da51ca51ca51ba51aa519a518a518a517a516a515a515a514a513a512a511a511a510a50fa50ea50ea50da50ca50ba50aa50aa509a508a507a507a506a505a504a503a503a502a501a500a4ffa4ffa4fea4fda4fca4fca4fba4faa4f9a4f8a4f8a4f7a4f6a4f5a4f5a4f4a4f3a4f2a4f1a4f1a4f0a4efa4eea4eea4eda4eca4eba4eaa4eaa4e9a4e8a4e7a4e6a4e6a4e5a4e4a4e3a4e3a4e2a4e1a4e0a4dfa4dfa4dea4dda4dca4dca4dba4daa4d9a4d8a4d8a4d7a4d6a4d5a4d4a4d4a4d3a4d2a4d1a4d1a4d0a4cfa4cea4cda4cda4cca4cba4caa4caa4c9a4c8a4c7a4c6a4c6a4c5a4c4a4c3a4c2a4c2a4c1a4c0a4bfa4bfa4bea4bda4bca4bba4bba4baa4b9a4b8a4b8a4b7a4b6a4b5a4b4a4b4a4b3a4b2a4b1a4b0a4b0a4afa4aea4ada4ada4aca4aba4aaa4a9a4a9a4a8a4a7a4a6a4a6a4a5a4a4a4a3a4a2a4a2a4a1a4a0a49fa49ea49ea49d,
  0xa62ba62aa629a629a628a627a626a626a625a624a623a622a622a621a620a61fa61fa61ea61da61ca61ba61ba61aa619a618a618a617a616a615a614a614a613a612a611a611a610a60fa60ea60ea60da60ca60ba60aa60aa609a608a607a607a606a605a604a603a603a602a601a600a600a5ffa5fea5fda5fca5fca5fba5faa5f9a5f9a5f8a5f7a5f6a5f5a5f5a5f4a5f3a5f2a5f2a5f1a5f0a5efa5efa5eea5eda5eca5eba5eba5eaa5e9a5e8a5e8a5e7a5e6a5e5a5e4a5e4a5e3a5e2a5e1a5e1a5e0a5dfa5dea5dda5dda5dca5dba5daa5daa5d9a5d8a5d7a5d6a5d6a5d5a5d4a5d3a5d3a5d2a5d1a5d0a5cfa5cfa5cea5cda5cca5cca5cba5caa5c9a5c8a5c8a5c7a5c6a5c5a5c5a5c4a5c3a5c2a5c1a5c1a5c0a5bfa5bea5bea5bda5bca5bba5baa5baa5b9a5b8a5b7a5b7a5b6a5b5a5b4a5b4a5b3a5b2a5b1a5b0a5b0a5afa5aea5ada5ada5aca5aba5aaa5a9a5a9a5a8a5a7a5a6a5a6a5a5a5a4a5a3a5a2a5a2a5a1a5a0a59fa59fa59ea59da59ca59ba59ba59aa599a598a598a597a596a595a594a594a593a592a591a591a590a58fa58ea58da58da58ca58ba58aa58aa589a588a587a586a586a585a584a583a583a582a581a580a57fa57fa57ea57da57ca57ca57ba57aa579a578a578a577a576a575a575a574a573a572a571a571a570a56fa56ea56da56da56ca56ba56aa56aa569a568a567a566a566a565,
  0xa6f1a6f0a6efa6eea6eea6eda6eca6eba6eaa6eaa6e9a6e8a6e7a6e7a6e6a6e5a6e4a6e4a6e3a6e2a6e1a6e0a6e0a6dfa6dea6dda6dda6dca6dba6daa6d9a6d9a6d8a6d7a6d6a6d6a6d5a6d4a6d3a6d3a6d2a6d1a6d0a6cfa6cfa6cea6cda6cca6cca6cba6caa6c9a6c9a6c8a6c7a6c6a6c5a6c5a6c4a6c3a6c2a6c2a6c1a6c0a6bfa6bfa6bea6bda6bca6bba6bba6baa6b9a6b8a6b8a6b7a6b6a6b5a6b4a6b4a6b3a6b2a6b1a6b1a6b0a6afa6aea6aea6ada6aca6aba6aaa6aaa6a9a6a8a6a7a6a7a6a6a6a5a6a4a6a4a6a3a6a2a6a1a6a0a6a0a69fa69ea69da69da69ca69ba69aa699a699a698a697a696a696a695a694a693a693a692a691a690a68fa68fa68ea68da68ca68ca68ba68aa689a689a688a687a686a685a685a684a683a682a682a681a680a67fa67ea67ea67da67ca67ba67ba67aa679a678a678a677a676a675a674a674a673a672a671a671a670a66fa66ea66da66da66ca66ba66aa66aa669a668a667a667a666a665a664a663a663a662a661a660a660a65fa65ea65da65ca65ca65ba65aa659a659a658a657a656a656a655a654a653a652a652a651a650a64fa64fa64ea64da64ca64ba64ba64aa649a648a648a647a646a645a645a644a643a642a641a641a640a63fa63ea63ea63da63ca63ba63aa63aa639a638a637a637a636a635a634a633a633a632a631a630a630a62fa62ea62da62da62c,
  0xa7b5a7b4a7b4a7b3a7b2a7b1a7b0a7b0a7afa7aea7ada7ada7aca7aba7aaa7aaa7a9a7a8a7a7a7a7a7a6a7a5a7a4a7a3a7a3a7a2a7a1a7a0a7a0a79fa79ea79da79da79ca79ba79aa799a799a798a797a796a796a795a794a793a793a792a791a790a790a78fa78ea78da78ca78ca78ba78aa789a789a788a787a786a786a785a784a783a783a782a781a780a77fa77fa77ea77da77ca77ca77ba77aa779a779a778a777a776a775a775a774a773a772a772a771a770a76fa76fa76ea76da76ca76ca76ba76aa769a768a768a767a766a765a765a764a763a762a762a761a760a75fa75ea75ea75da75ca75ba75ba75aa759a758a758a757a756a755a754a754a753a752a751a751a750a74fa74ea74ea74da74ca74ba74ba74aa749a748a747a747a746a745a744a744a743a742a741a741a740a73fa73ea73da73da73ca73ba73aa73aa739a738a737a737a736a735a734a733a733a732a731a730a730a72fa72ea72da72da72ca72ba72aa729a729a728a727a726a726a725a724a723a723a722a721a720a720a71fa71ea71da71ca71ca71ba71aa719a719a718a717a716a716a715a714a713a712a712a711a710a70fa70fa70ea70da70ca70ca70ba70aa709a708a708a707a706a705a705a704a703a702a702a701a700a6ffa6fea6fea6fda6fca6fba6fba6faa6f9a6f8a6f8a6f7a6f6a6f5a6f4a6f4a6f3a6f2a6f1,
  0xa878a878a877a876a875a875a874a873a872a871a871a870a86fa86ea86ea86da86ca86ba86ba86aa869a868a868a867a866a865a865a864a863a862a862a861a860a85fa85ea85ea85da85ca85ba85ba85aa859a858a858a857a856a855a855a854a853a852a852a851a850a84fa84ea84ea84da84ca84ba84ba84aa849a848a848a847a846a845a845a844a843a842a842a841a840a83fa83ea83ea83da83ca83ba83ba83aa839a838a838a837a836a835a835a834a833a832a832a831a830a82fa82ea82ea82da82ca82ba82ba82aa829a828a828a827a826a825a825a824a823a822a822a821a820a81fa81ea81ea81da81ca81ba81ba81aa819a818a818a817a816a815a815a814a813a812a811a811a810a80fa80ea80ea80da80ca80ba80ba80aa809a808a808a807a806a805a805a804a803a802a801a801a800a7ffa7fea7fea7fda7fca7fba7fba7faa7f9a7f8a7f8a7f7a7f6a7f5a7f4a7f4a7f3a7f2a7f1a7f1a7f0a7efa7eea7eea7eda7eca7eba7eba7eaa7e9a7e8a7e8a7e7a7e6a7e5a7e4a7e4a7e3a7e2a7e1a7e1a7e0a7dfa7dea7dea7dda7dca7dba7dba7daa7d9a7d8a7d7a7d7a7d6a7d5a7d4a7d4a7d3a7d2a7d1a7d1a7d0a7cfa7cea7cea7cda7cca7cba7caa7caa7c9a7c8a7c7a7c7a7c6a7c5a7c4a7c4a7c3a7c2a7c1a7c1a7c0a7bfa7bea7bda7bda7bca7bba7baa7baa7b9a7b8a7b7a7b7a7b6,
  0xa93ba93aa939a938a937a937a936a935a934a934a933a932a931a931a930a92fa92ea92ea92da92ca92ba92ba92aa929a928a928a927a926a925a925a924a923a922a922a921a920a91fa91fa91ea91da91ca91ba91ba91aa919a918a918a917a916a915a915a914a913a912a912a911a910a90fa90fa90ea90da90ca90ca90ba90aa909a909a908a907a906a906a905a904a903a902a902a901a900a8ffa8ffa8fea8fda8fca8fca8fba8faa8f9a8f9a8f8a8f7a8f6a8f6a8f5a8f4a8f3a8f3a8f2a8f1a8f0a8f0a8efa8eea8eda8eda8eca8eba8eaa8e9a8e9a8e8a8e7a8e6a8e6a8e5a8e4a8e3a8e3a8e2a8e1a8e0a8e0a8dfa8dea8dda8dda8dca8dba8daa8daa8d9a8d8a8d7a8d7a8d6a8d5a8d4a8d3a8d3a8d2a8d1a8d0a8d0a8cfa8cea8cda8cda8cca8cba8caa8caa8c9a8c8a8c7a8c7a8c6a8c5a8c4a8c4a8c3a8c2a8c1a8c1a8c0a8bfa8bea8bda8bda8bca8bba8baa8baa8b9a8b8a8b7a8b7a8b6a8b5a8b4a8b4a8b3a8b2a8b1a8b1a8b0a8afa8aea8aea8ada8aca8aba8aba8aaa8a9a8a8a8a7a8a7a8a6a8a5a8a4a8a4a8a3a8a2a8a1a8a1a8a0a89fa89ea89ea89da89ca89ba89ba89aa899a898a898a897a896a895a894a894a893a892a891a891a890a88fa88ea88ea88da88ca88ba88ba88aa889a888a888a887a886a885a885a884a883a882a881a881a880a87fa87ea87ea87da87ca87ba87ba87aa879,
  0xa9fca9fba9faa9f9a9f9a9f8a9f7a9f6a9f6a9f5a9f4a9f3a9f3a9f2a9f1a9f0a9f0a9efa9eea9eda9eda9eca9eba9eaa9e9a9e9a9e8a9e7a9e6a9e6a9e5a9e4a9e3a9e3a9e2a9e1a9e0a9e0a9dfa9dea9dda9dda9dca9dba9daa9daa9d9a9d8a9d7a9d7a9d6a9d5a9d4a9d4a9d3a9d2a9d1a9d1a9d0a9cfa9cea9cea9cda9cca9cba9cba9caa9c9a9c8a9c8a9c7a9c6a9c5a9c5a9c4a9c3a9c2a9c2a9c1a9c0a9bfa9bfa9bea9bda9bca9bca9bba9baa9b9a9b9a9b8a9b7a9b6a9b6a9b5a9b4a9b3a9b3a9b2a9b1a9b0a9b0a9afa9aea9ada9ada9aca9aba9aaa9a9a9a9a9a8a9a7a9a6a9a6a9a5a9a4a9a3a9a3a9a2a9a1a9a0a9a0a99fa99ea99da99da99ca99ba99aa99aa999a998a997a997a996a995a994a994a993a992a991a991a990a98fa98ea98ea98da98ca98ba98ba98aa989a988a988a987a986a985a985a984a983a982a982a981a980a97fa97ea97ea97da97ca97ba97ba97aa979a978a978a977a976a975a975a974a973a972a972a971a970a96fa96fa96ea96da96ca96ca96ba96aa969a969a968a967a966a966a965a964a963a963a962a961a960a960a95fa95ea95da95da95ca95ba95aa959a959a958a957a956a956a955a954a953a953a952a951a950a950a94fa94ea94da94da94ca94ba94aa94aa949a948a947a947a946a945a944a944a943a942a941a941a940a93fa93ea93ea93da93ca93b,
  0xaabbaabbaabaaab9aab8aab8aab7aab6aab6aab5aab4aab3aab3aab2aab1aab0aab0aaafaaaeaaadaaadaaacaaabaaaaaaaaaaa9aaa8aaa7aaa7aaa6aaa5aaa4aaa4aaa3aaa2aaa1aaa1aaa0aa9faa9eaa9eaa9daa9caa9baa9baa9aaa99aa98aa98aa97aa96aa95aa95aa94aa93aa92aa92aa91aa90aa8faa8faa8eaa8daa8caa8caa8baa8aaa89aa89aa88aa87aa86aa86aa85aa84aa83aa83aa82aa81aa80aa80aa7faa7eaa7daa7daa7caa7baa7aaa7aaa79aa78aa77aa77aa76aa75aa74aa74aa73aa72aa71aa71aa70aa6faa6eaa6eaa6daa6caa6baa6baa6aaa69aa68aa68aa67aa66aa65aa65aa64aa63aa62aa62aa61aa60aa5faa5faa5eaa5daa5caa5caa5baa5aaa59aa59aa58aa57aa56aa56aa55aa54aa53aa53aa52aa51aa50aa50aa4faa4eaa4daa4daa4caa4baa4aaa4aaa49aa48aa47aa47aa46aa45aa44aa44aa43aa42aa41aa41aa40aa3faa3eaa3eaa3daa3caa3baa3baa3aaa39aa38aa38aa37aa36aa35aa35aa34aa33aa32aa32aa31aa30aa2faa2faa2eaa2daa2caa2caa2baa2aaa29aa29aa28aa27aa26aa26aa25aa24aa23aa23aa22aa21aa20aa20aa1faa1eaa1daa1daa1caa1baa1aaa1aaa19aa18aa17aa17aa16aa15aa14aa14aa13aa12aa11aa11aa10aa0faa0eaa0eaa0daa0caa0baa0baa0aaa09aa08aa08aa07aa06aa05aa05aa04aa03aa02aa02aa01aa00a9ffa9ffa9fea9fda9fc,
  0xab7aab7aab79ab78ab77ab77ab76ab75ab74ab74ab73ab72ab71ab71ab70ab6fab6eab6eab6dab6cab6bab6bab6aab69ab69ab68ab67ab66ab66ab65ab64ab63ab63ab62ab61ab60ab60ab5fab5eab5dab5dab5cab5bab5aab5aab59ab58ab57ab57ab56ab55ab54ab54ab53ab52ab51ab51ab50ab4fab4eab4eab4dab4cab4bab4bab4aab49ab48ab48ab47ab46ab46ab45ab44ab43ab43ab42ab41ab40ab40ab3fab3eab3dab3dab3cab3bab3aab3aab39ab38ab37ab37ab36ab35ab34ab34ab33ab32ab31ab31ab30ab2fab2eab2eab2dab2cab2bab2bab2aab29ab28ab28ab27ab26ab25ab25ab24ab23ab23ab22ab21ab20ab20ab1fab1eab1dab1dab1cab1bab1aab1aab19ab18ab17ab17ab16ab15ab14ab14ab13ab12ab11ab11ab10ab0fab0eab0eab0dab0cab0bab0bab0aab09ab08ab08ab07ab06ab05ab05ab04ab03ab02ab02ab01ab00aaffaaffaafeaafdaafcaafcaafbaafaaaf9aaf9aaf8aaf7aaf7aaf6aaf5aaf4aaf4aaf3aaf2aaf1aaf1aaf0aaefaaeeaaeeaaedaaecaaebaaebaaeaaae9aae8aae8aae7aae6aae5aae5aae4aae3aae2aae2aae1aae0aadfaadfaadeaaddaadcaadcaadbaadaaad9aad9aad8aad7aad6aad6aad5aad4aad3aad3aad2aad1aad0aad0aacfaaceaacdaacdaaccaacbaacaaacaaac9aac8aac7aac7aac6aac5aac4aac4aac3aac2aac1aac1aac0aabfaabeaabeaabdaabc,
  0xac38ac37ac37ac36ac35ac34ac34ac33ac32ac31ac31ac30ac2fac2fac2eac2dac2cac2cac2bac2aac29ac29ac28ac27ac26ac26ac25ac24ac23ac23ac22ac21ac20ac20ac1fac1eac1eac1dac1cac1bac1bac1aac19ac18ac18ac17ac16ac15ac15ac14ac13ac12ac12ac11ac10ac0fac0fac0eac0dac0cac0cac0bac0aac0aac09ac08ac07ac07ac06ac05ac04ac04ac03ac02ac01ac01ac00abffabfeabfeabfdabfcabfbabfbabfaabf9abf8abf8abf7abf6abf6abf5abf4abf3abf3abf2abf1abf0abf0abefabeeabedabedabecabebabeaabeaabe9abe8abe7abe7abe6abe5abe4abe4abe3abe2abe2abe1abe0abdfabdfabdeabddabdcabdcabdbabdaabd9abd9abd8abd7abd6abd6abd5abd4abd3abd3abd2abd1abd0abd0abcfabceabceabcdabccabcbabcbabcaabc9abc8abc8abc7abc6abc5abc5abc4abc3abc2abc2abc1abc0abbfabbfabbeabbdabbcabbcabbbabbaabb9abb9abb8abb7abb7abb6abb5abb4abb4abb3abb2abb1abb1abb0abafabaeabaeabadabacabababababaaaba9aba8aba8aba7aba6aba5aba5aba4aba3aba2aba2aba1aba0ab9fab9fab9eab9dab9dab9cab9bab9aab9aab99ab98ab97ab97ab96ab95ab94ab94ab93ab92ab91ab91ab90ab8fab8eab8eab8dab8cab8bab8bab8aab89ab88ab88ab87ab86ab85ab85ab84ab83ab83ab82ab81ab80ab80ab7fab7eab7dab7dab7cab7b,
  0xacf5acf4acf3acf3acf2acf1acf0acf0acefaceeaceeacedacecacebacebaceaace9ace8ace8ace7ace6ace5ace5ace4ace3ace2ace2ace1ace0ace0acdfacdeacddacddacdcacdbacdaacdaacd9acd8acd7acd7acd6acd5acd5acd4acd3acd2acd2acd1acd0accfaccfacceaccdacccacccaccbaccaacc9acc9acc8acc7acc7acc6acc5acc4acc4acc3acc2acc1acc1acc0acbfacbeacbeacbdacbcacbbacbbacbaacb9acb9acb8acb7acb6acb6acb5acb4acb3acb3acb2acb1acb0acb0acafacaeacadacadacacacabacabacaaaca9aca8aca8aca7aca6aca5aca5aca4aca3aca2aca2aca1aca0ac9fac9fac9eac9dac9dac9cac9bac9aac9aac99ac98ac97ac97ac96ac95ac94ac94ac93ac92ac91ac91ac90ac8fac8fac8eac8dac8cac8cac8bac8aac89ac89ac88ac87ac86ac86ac85ac84ac83ac83ac82ac81ac81ac80ac7fac7eac7eac7dac7cac7bac7bac7aac79ac78ac78ac77ac76ac75ac75ac74ac73ac72ac72ac71ac70ac70ac6fac6eac6dac6dac6cac6bac6aac6aac69ac68ac67ac67ac66ac65ac64ac64ac63ac62ac62ac61ac60ac5fac5fac5eac5dac5cac5cac5bac5aac59ac59ac58ac57ac56ac56ac55ac54ac53ac53ac52ac51ac51ac50ac4fac4eac4eac4dac4cac4bac4bac4aac49ac48ac48ac47ac46ac45ac45ac44ac43ac42ac42ac41ac40ac40ac3fac3eac3dac3dac3cac3bac3aac3aac39,
  0xadb1adb0adafadaeadaeadadadacadabadabadaaada9ada9ada8ada7ada6ada6ada5ada4ada3ada3ada2ada1ada0ada0ad9fad9ead9ead9dad9cad9bad9bad9aad99ad98ad98ad97ad96ad96ad95ad94ad93ad93ad92ad91ad90ad90ad8fad8ead8dad8dad8cad8bad8bad8aad89ad88ad88ad87ad86ad85ad85ad84ad83ad82ad82ad81ad80ad80ad7fad7ead7dad7dad7cad7bad7aad7aad79ad78ad78ad77ad76ad75ad75ad74ad73ad72ad72ad71ad70ad6fad6fad6ead6dad6dad6cad6bad6aad6aad69ad68ad67ad67ad66ad65ad64ad64ad63ad62ad62ad61ad60ad5fad5fad5ead5dad5cad5cad5bad5aad59ad59ad58ad57ad57ad56ad55ad54ad54ad53ad52ad51ad51ad50ad4fad4ead4ead4dad4cad4cad4bad4aad49ad49ad48ad47ad46ad46ad45ad44ad43ad43ad42ad41ad41ad40ad3fad3ead3ead3dad3cad3bad3bad3aad39ad38ad38ad37ad36ad36ad35ad34ad33ad33ad32ad31ad30ad30ad2fad2ead2dad2dad2cad2bad2bad2aad29ad28ad28ad27ad26ad25ad25ad24ad23ad22ad22ad21ad20ad1fad1fad1ead1dad1dad1cad1bad1aad1aad19ad18ad17ad17ad16ad15ad14ad14ad13ad12ad12ad11ad10ad0fad0fad0ead0dad0cad0cad0bad0aad09ad09ad08ad07ad07ad06ad05ad04ad04ad03ad02ad01ad01ad00acffacfeacfeacfdacfcacfbacfbacfaacf9acf9acf8acf7acf6acf6,
  0xae6bae6bae6aae69ae68ae68ae67ae66ae65ae65ae64ae63ae63ae62ae61ae60ae60ae5fae5eae5dae5dae5cae5bae5bae5aae59ae58ae58ae57ae56ae55ae55ae54ae53ae53ae52ae51ae50ae50ae4fae4eae4dae4dae4cae4bae4bae4aae49ae48ae48ae47ae46ae45ae45ae44ae43ae43ae42ae41ae40ae40ae3fae3eae3dae3dae3cae3bae3bae3aae39ae38ae38ae37ae36ae35ae35ae34ae33ae32ae32ae31ae30ae30ae2fae2eae2dae2dae2cae2bae2aae2aae29ae28ae28ae27ae26ae25ae25ae24ae23ae22ae22ae21ae20ae20ae1fae1eae1dae1dae1cae1bae1aae1aae19ae18ae18ae17ae16ae15ae15ae14ae13ae12ae12ae11ae10ae10ae0fae0eae0dae0dae0cae0bae0aae0aae09ae08ae07ae07ae06ae05ae05ae04ae03ae02ae02ae01ae00adffadffadfeadfdadfdadfcadfbadfaadfaadf9adf8adf7adf7adf6adf5adf5adf4adf3adf2adf2adf1adf0adefadefadeeadedadecadecadebadeaadeaade9ade8ade7ade7ade6ade5ade4ade4ade3ade2ade2ade1ade0addfaddfaddeadddaddcaddcaddbaddaaddaadd9add8add7add7add6add5add4add4add3add2add1add1add0adcfadcfadceadcdadccadccadcbadcaadc9adc9adc8adc7adc7adc6adc5adc4adc4adc3adc2adc1adc1adc0adbfadbeadbeadbdadbcadbcadbbadbaadb9adb9adb8adb7adb6adb6adb5adb4adb4adb3adb2adb1,
  0xaf25af24af23af23af22af21af21af20af1faf1eaf1eaf1daf1caf1caf1baf1aaf19af19af18af17af16af16af15af14af14af13af12af11af11af10af0faf0faf0eaf0daf0caf0caf0baf0aaf09af09af08af07af07af06af05af04af04af03af02af01af01af00aeffaeffaefeaefdaefcaefcaefbaefaaefaaef9aef8aef7aef7aef6aef5aef4aef4aef3aef2aef2aef1aef0aeefaeefaeeeaeedaeecaeecaeebaeeaaeeaaee9aee8aee7aee7aee6aee5aee5aee4aee3aee2aee2aee1aee0aedfaedfaedeaeddaeddaedcaedbaedaaedaaed9aed8aed7aed7aed6aed5aed5aed4aed3aed2aed2aed1aed0aecfaecfaeceaecdaecdaeccaecbaecaaecaaec9aec8aec8aec7aec6aec5aec5aec4aec3aec2aec2aec1aec0aec0aebfaebeaebdaebdaebcaebbaebaaebaaeb9aeb8aeb8aeb7aeb6aeb5aeb5aeb4aeb3aeb2aeb2aeb1aeb0aeb0aeafaeaeaeadaeadaeacaeabaeaaaeaaaea9aea8aea8aea7aea6aea5aea5aea4aea3aea2aea2aea1aea0aea0ae9fae9eae9dae9dae9cae9bae9bae9aae99ae98ae98ae97ae96ae95ae95ae94ae93ae93ae92ae91ae90ae90ae8fae8eae8dae8dae8cae8bae8bae8aae89ae88ae88ae87ae86ae85ae85ae84ae83ae83ae82ae81ae80ae80ae7fae7eae7dae7dae7cae7bae7bae7aae79ae78ae78ae77ae76ae75ae75ae74ae73ae73ae72ae71ae70ae70ae6fae6eae6dae6dae6c,
  0xafdeafddafdcafdbafdbafdaafd9afd9afd8afd7afd6afd6afd5afd4afd4afd3afd2afd1afd1afd0afcfafcfafceafcdafccafccafcbafcaafc9afc9afc8afc7afc7afc6afc5afc4afc4afc3afc2afc2afc1afc0afbfafbfafbeafbdafbdafbcafbbafbaafbaafb9afb8afb7afb7afb6afb5afb5afb4afb3afb2afb2afb1afb0afb0afafafaeafadafadafacafabafabafaaafa9afa8afa8afa7afa6afa5afa5afa4afa3afa3afa2afa1afa0afa0af9faf9eaf9eaf9daf9caf9baf9baf9aaf99af98af98af97af96af96af95af94af93af93af92af91af91af90af8faf8eaf8eaf8daf8caf8caf8baf8aaf89af89af88af87af86af86af85af84af84af83af82af81af81af80af7faf7faf7eaf7daf7caf7caf7baf7aaf79af79af78af77af77af76af75af74af74af73af72af72af71af70af6faf6faf6eaf6daf6caf6caf6baf6aaf6aaf69af68af67af67af66af65af65af64af63af62af62af61af60af5faf5faf5eaf5daf5daf5caf5baf5aaf5aaf59af58af58af57af56af55af55af54af53af52af52af51af50af50af4faf4eaf4daf4daf4caf4baf4baf4aaf49af48af48af47af46af45af45af44af43af43af42af41af40af40af3faf3eaf3eaf3daf3caf3baf3baf3aaf39af38af38af37af36af36af35af34af33af33af32af31af31af30af2faf2eaf2eaf2daf2caf2baf2baf2aaf29af29af28af27af26af26,
  0xb095b095b094b093b092b092b091b090b090b08fb08eb08db08db08cb08bb08bb08ab089b088b088b087b086b086b085b084b083b083b082b081b081b080b07fb07eb07eb07db07cb07cb07bb07ab079b079b078b077b077b076b075b074b074b073b072b072b071b070b06fb06fb06eb06db06db06cb06bb06ab06ab069b068b068b067b066b065b065b064b063b062b062b061b060b060b05fb05eb05db05db05cb05bb05bb05ab059b058b058b057b056b056b055b054b053b053b052b051b051b050b04fb04eb04eb04db04cb04cb04bb04ab049b049b048b047b047b046b045b044b044b043b042b042b041b040b03fb03fb03eb03db03cb03cb03bb03ab03ab039b038b037b037b036b035b035b034b033b032b032b031b030b030b02fb02eb02db02db02cb02bb02bb02ab029b028b028b027b026b026b025b024b023b023b022b021b020b020b01fb01eb01eb01db01cb01bb01bb01ab019b019b018b017b016b016b015b014b014b013b012b011b011b010b00fb00fb00eb00db00cb00cb00bb00ab009b009b008b007b007b006b005b004b004b003b002b002b001b000afffafffaffeaffdaffdaffcaffbaffaaffaaff9aff8aff8aff7aff6aff5aff5aff4aff3aff2aff2aff1aff0aff0afefafeeafedafedafecafebafebafeaafe9afe8afe8afe7afe6afe6afe5afe4afe3afe3afe2afe1afe1afe0afdfafde,
  0xb14cb14bb14bb14ab149b149b148b147b146b146b145b144b144b143b142b141b141b140b13fb13fb13eb13db13cb13cb13bb13ab13ab139b138b137b137b136b135b135b134b133b132b132b131b130b130b12fb12eb12db12db12cb12bb12bb12ab129b128b128b127b126b126b125b124b123b123b122b121b121b120b11fb11eb11eb11db11cb11cb11bb11ab11ab119b118b117b117b116b115b115b114b113b112b112b111b110b110b10fb10eb10db10db10cb10bb10bb10ab109b108b108b107b106b106b105b104b103b103b102b101b101b100b0ffb0feb0feb0fdb0fcb0fcb0fbb0fab0f9b0f9b0f8b0f7b0f7b0f6b0f5b0f4b0f4b0f3b0f2b0f2b0f1b0f0b0efb0efb0eeb0edb0edb0ecb0ebb0eab0eab0e9b0e8b0e8b0e7b0e6b0e5b0e5b0e4b0e3b0e3b0e2b0e1b0e0b0e0b0dfb0deb0deb0ddb0dcb0dbb0dbb0dab0d9b0d9b0d8b0d7b0d6b0d6b0d5b0d4b0d4b0d3b0d2b0d1b0d1b0d0b0cfb0cfb0ceb0cdb0ccb0ccb0cbb0cab0cab0c9b0c8b0c7b0c7b0c6b0c5b0c5b0c4b0c3b0c2b0c2b0c1b0c0b0c0b0bfb0beb0bdb0bdb0bcb0bbb0bbb0bab0b9b0b8b0b8b0b7b0b6b0b6b0b5b0b4b0b3b0b3b0b2b0b1b0b1b0b0b0afb0aeb0aeb0adb0acb0acb0abb0aab0a9b0a9b0a8b0a7b0a7b0a6b0a5b0a4b0a4b0a3b0a2b0a2b0a1b0a0b09fb09fb09eb09db09cb09cb09bb09ab09ab099b098b097b097b096,
  0xb202b201b200b200b1ffb1feb1feb1fdb1fcb1fcb1fbb1fab1f9b1f9b1f8b1f7b1f7b1f6b1f5b1f4b1f4b1f3b1f2b1f2b1f1b1f0b1efb1efb1eeb1edb1edb1ecb1ebb1ebb1eab1e9b1e8b1e8b1e7b1e6b1e6b1e5b1e4b1e3b1e3b1e2b1e1b1e1b1e0b1dfb1deb1deb1ddb1dcb1dcb1dbb1dab1d9b1d9b1d8b1d7b1d7b1d6b1d5b1d5b1d4b1d3b1d2b1d2b1d1b1d0b1d0b1cfb1ceb1cdb1cdb1ccb1cbb1cbb1cab1c9b1c8b1c8b1c7b1c6b1c6b1c5b1c4b1c4b1c3b1c2b1c1b1c1b1c0b1bfb1bfb1beb1bdb1bcb1bcb1bbb1bab1bab1b9b1b8b1b7b1b7b1b6b1b5b1b5b1b4b1b3b1b2b1b2b1b1b1b0b1b0b1afb1aeb1adb1adb1acb1abb1abb1aab1a9b1a9b1a8b1a7b1a6b1a6b1a5b1a4b1a4b1a3b1a2b1a1b1a1b1a0b19fb19fb19eb19db19cb19cb19bb19ab19ab199b198b197b197b196b195b195b194b193b193b192b191b190b190b18fb18eb18eb18db18cb18bb18bb18ab189b189b188b187b186b186b185b184b184b183b182b181b181b180b17fb17fb17eb17db17cb17cb17bb17ab17ab179b178b177b177b176b175b175b174b173b173b172b171b170b170b16fb16eb16eb16db16cb16bb16bb16ab169b169b168b167b166b166b165b164b164b163b162b161b161b160b15fb15fb15eb15db15cb15cb15bb15ab15ab159b158b157b157b156b155b155b154b153b152b152b151b150b150b14fb14eb14eb14d,
  0xb2b7b2b6b2b5b2b5b2b4b2b3b2b3b2b2b2b1b2b0b2b0b2afb2aeb2aeb2adb2acb2abb2abb2aab2a9b2a9b2a8b2a7b2a7b2a6b2a5b2a4b2a4b2a3b2a2b2a2b2a1b2a0b29fb29fb29eb29db29db29cb29bb29bb29ab299b298b298b297b296b296b295b294b293b293b292b291b291b290b28fb28fb28eb28db28cb28cb28bb28ab28ab289b288b288b287b286b285b285b284b283b283b282b281b280b280b27fb27eb27eb27db27cb27cb27bb27ab279b279b278b277b277b276b275b274b274b273b272b272b271b270b270b26fb26eb26db26db26cb26bb26bb26ab269b268b268b267b266b266b265b264b263b263b262b261b261b260b25fb25fb25eb25db25cb25cb25bb25ab25ab259b258b257b257b256b255b255b254b253b253b252b251b250b250b24fb24eb24eb24db24cb24bb24bb24ab249b249b248b247b247b246b245b244b244b243b242b242b241b240b23fb23fb23eb23db23db23cb23bb23bb23ab239b238b238b237b236b236b235b234b233b233b232b231b231b230b22fb22eb22eb22db22cb22cb22bb22ab22ab229b228b227b227b226b225b225b224b223b222b222b221b220b220b21fb21eb21eb21db21cb21bb21bb21ab219b219b218b217b216b216b215b214b214b213b212b211b211b210b20fb20fb20eb20db20db20cb20bb20ab20ab209b208b208b207b206b205b205b204b203b203,
  0xb36bb36ab369b369b368b367b366b366b365b364b364b363b362b362b361b360b35fb35fb35eb35db35db35cb35bb35bb35ab359b358b358b357b356b356b355b354b354b353b352b351b351b350b34fb34fb34eb34db34db34cb34bb34ab34ab349b348b348b347b346b346b345b344b343b343b342b341b341b340b33fb33eb33eb33db33cb33cb33bb33ab33ab339b338b337b337b336b335b335b334b333b333b332b331b330b330b32fb32eb32eb32db32cb32cb32bb32ab329b329b328b327b327b326b325b325b324b323b322b322b321b320b320b31fb31eb31db31db31cb31bb31bb31ab319b319b318b317b316b316b315b314b314b313b312b312b311b310b30fb30fb30eb30db30db30cb30bb30bb30ab309b308b308b307b306b306b305b304b303b303b302b301b301b300b2ffb2ffb2feb2fdb2fcb2fcb2fbb2fab2fab2f9b2f8b2f8b2f7b2f6b2f5b2f5b2f4b2f3b2f3b2f2b2f1b2f0b2f0b2efb2eeb2eeb2edb2ecb2ecb2ebb2eab2e9b2e9b2e8b2e7b2e7b2e6b2e5b2e5b2e4b2e3b2e2b2e2b2e1b2e0b2e0b2dfb2deb2ddb2ddb2dcb2dbb2dbb2dab2d9b2d9b2d8b2d7b2d6b2d6b2d5b2d4b2d4b2d3b2d2b2d2b2d1b2d0b2cfb2cfb2ceb2cdb2cdb2ccb2cbb2cab2cab2c9b2c8b2c8b2c7b2c6b2c6b2c5b2c4b2c3b2c3b2c2b2c1b2c1b2c0b2bfb2bfb2beb2bdb2bcb2bcb2bbb2bab2bab2b9b2b8b2b7,
  0xb41eb41db41cb41cb41bb41ab41ab419b418b417b417b416b415b415b414b413b413b412b411b410b410b40fb40eb40eb40db40cb40cb40bb40ab409b409b408b407b407b406b405b405b404b403b403b402b401b400b400b3ffb3feb3feb3fdb3fcb3fcb3fbb3fab3f9b3f9b3f8b3f7b3f7b3f6b3f5b3f5b3f4b3f3b3f2b3f2b3f1b3f0b3f0b3efb3eeb3eeb3edb3ecb3ebb3ebb3eab3e9b3e9b3e8b3e7b3e7b3e6b3e5b3e4b3e4b3e3b3e2b3e2b3e1b3e0b3e0b3dfb3deb3ddb3ddb3dcb3dbb3dbb3dab3d9b3d9b3d8b3d7b3d6b3d6b3d5b3d4b3d4b3d3b3d2b3d2b3d1b3d0b3d0b3cfb3ceb3cdb3cdb3ccb3cbb3cbb3cab3c9b3c9b3c8b3c7b3c6b3c6b3c5b3c4b3c4b3c3b3c2b3c2b3c1b3c0b3bfb3bfb3beb3bdb3bdb3bcb3bbb3bbb3bab3b9b3b8b3b8b3b7b3b6b3b6b3b5b3b4b3b4b3b3b3b2b3b1b3b1b3b0b3afb3afb3aeb3adb3adb3acb3abb3aab3aab3a9b3a8b3a8b3a7b3a6b3a6b3a5b3a4b3a3b3a3b3a2b3a1b3a1b3a0b39fb39fb39eb39db39cb39cb39bb39ab39ab399b398b398b397b396b395b395b394b393b393b392b391b391b390b38fb38eb38eb38db38cb38cb38bb38ab38ab389b388b387b387b386b385b385b384b383b383b382b381b380b380b37fb37eb37eb37db37cb37cb37bb37ab379b379b378b377b377b376b375b375b374b373b372b372b371b370b370b36fb36eb36db36db36cb36b,
  0xb4d0b4cfb4ceb4ceb4cdb4ccb4ccb4cbb4cab4cab4c9b4c8b4c8b4c7b4c6b4c5b4c5b4c4b4c3b4c3b4c2b4c1b4c1b4c0b4bfb4beb4beb4bdb4bcb4bcb4bbb4bab4bab4b9b4b8b4b8b4b7b4b6b4b5b4b5b4b4b4b3b4b3b4b2b4b1b4b1b4b0b4afb4afb4aeb4adb4acb4acb4abb4aab4aab4a9b4a8b4a8b4a7b4a6b4a5b4a5b4a4b4a3b4a3b4a2b4a1b4a1b4a0b49fb49fb49eb49db49cb49cb49bb49ab49ab499b498b498b497b496b495b495b494b493b493b492b491b491b490b48fb48fb48eb48db48cb48cb48bb48ab48ab489b488b488b487b486b485b485b484b483b483b482b481b481b480b47fb47fb47eb47db47cb47cb47bb47ab47ab479b478b478b477b476b476b475b474b473b473b472b471b471b470b46fb46fb46eb46db46cb46cb46bb46ab46ab469b468b468b467b466b465b465b464b463b463b462b461b461b460b45fb45fb45eb45db45cb45cb45bb45ab45ab459b458b458b457b456b455b455b454b453b453b452b451b451b450b44fb44fb44eb44db44cb44cb44bb44ab44ab449b448b448b447b446b445b445b444b443b443b442b441b441b440b43fb43eb43eb43db43cb43cb43bb43ab43ab439b438b438b437b436b435b435b434b433b433b432b431b431b430b42fb42eb42eb42db42cb42cb42bb42ab42ab429b428b427b427b426b425b425b424b423b423b422b421b421b420b41fb41e,
  0xb581b580b580b57fb57eb57eb57db57cb57cb57bb57ab579b579b578b577b577b576b575b575b574b573b573b572b571b571b570b56fb56eb56eb56db56cb56cb56bb56ab56ab569b568b568b567b566b565b565b564b563b563b562b561b561b560b55fb55fb55eb55db55cb55cb55bb55ab55ab559b558b558b557b556b556b555b554b553b553b552b551b551b550b54fb54fb54eb54db54db54cb54bb54ab54ab549b548b548b547b546b546b545b544b544b543b542b541b541b540b53fb53fb53eb53db53db53cb53bb53bb53ab539b538b538b537b536b536b535b534b534b533b532b532b531b530b530b52fb52eb52db52db52cb52bb52bb52ab529b529b528b527b527b526b525b524b524b523b522b522b521b520b520b51fb51eb51db51db51cb51bb51bb51ab519b519b518b517b517b516b515b514b514b513b512b512b511b510b510b50fb50eb50eb50db50cb50bb50bb50ab509b509b508b507b507b506b505b505b504b503b502b502b501b500b500b4ffb4feb4feb4fdb4fcb4fcb4fbb4fab4f9b4f9b4f8b4f7b4f7b4f6b4f5b4f5b4f4b4f3b4f3b4f2b4f1b4f0b4f0b4efb4eeb4eeb4edb4ecb4ecb4ebb4eab4eab4e9b4e8b4e7b4e7b4e6b4e5b4e5b4e4b4e3b4e3b4e2b4e1b4e1b4e0b4dfb4deb4deb4ddb4dcb4dcb4dbb4dab4dab4d9b4d8b4d7b4d7b4d6b4d5b4d5b4d4b4d3b4d3b4d2b4d1b4d1,
  0xb631b631b630b62fb62fb62eb62db62db62cb62bb62bb62ab629b629b628b627b626b626b625b624b624b623b622b622b621b620b620b61fb61eb61eb61db61cb61bb61bb61ab619b619b618b617b617b616b615b615b614b613b613b612b611b610b610b60fb60eb60eb60db60cb60cb60bb60ab60ab609b608b608b607b606b605b605b604b603b603b602b601b601b600b5ffb5ffb5feb5fdb5fdb5fcb5fbb5fab5fab5f9b5f8b5f8b5f7b5f6b5f6b5f5b5f4b5f4b5f3b5f2b5f1b5f1b5f0b5efb5efb5eeb5edb5edb5ecb5ebb5ebb5eab5e9b5e9b5e8b5e7b5e6b5e6b5e5b5e4b5e4b5e3b5e2b5e2b5e1b5e0b5e0b5dfb5deb5deb5ddb5dcb5dbb5dbb5dab5d9b5d9b5d8b5d7b5d7b5d6b5d5b5d5b5d4b5d3b5d2b5d2b5d1b5d0b5d0b5cfb5ceb5ceb5cdb5ccb5ccb5cbb5cab5cab5c9b5c8b5c7b5c7b5c6b5c5b5c5b5c4b5c3b5c3b5c2b5c1b5c1b5c0b5bfb5bfb5beb5bdb5bcb5bcb5bbb5bab5bab5b9b5b8b5b8b5b7b5b6b5b6b5b5b5b4b5b3b5b3b5b2b5b1b5b1b5b0b5afb5afb5aeb5adb5adb5acb5abb5abb5aab5a9b5a8b5a8b5a7b5a6b5a6b5a5b5a4b5a4b5a3b5a2b5a2b5a1b5a0b59fb59fb59eb59db59db59cb59bb59bb59ab599b599b598b597b596b596b595b594b594b593b592b592b591b590b590b58fb58eb58eb58db58cb58bb58bb58ab589b589b588b587b587b586b585b585b584b583b582b582,
  0xb6e1b6e0b6e0b6dfb6deb6deb6ddb6dcb6dbb6dbb6dab6d9b6d9b6d8b6d7b6d7b6d6b6d5b6d5b6d4b6d3b6d3b6d2b6d1b6d1b6d0b6cfb6ceb6ceb6cdb6ccb6ccb6cbb6cab6cab6c9b6c8b6c8b6c7b6c6b6c6b6c5b6c4b6c4b6c3b6c2b6c1b6c1b6c0b6bfb6bfb6beb6bdb6bdb6bcb6bbb6bbb6bab6b9b6b9b6b8b6b7b6b7b6b6b6b5b6b4b6b4b6b3b6b2b6b2b6b1b6b0b6b0b6afb6aeb6aeb6adb6acb6acb6abb6aab6aab6a9b6a8b6a7b6a7b6a6b6a5b6a5b6a4b6a3b6a3b6a2b6a1b6a1b6a0b69fb69fb69eb69db69db69cb69bb69ab69ab699b698b698b697b696b696b695b694b694b693b692b692b691b690b68fb68fb68eb68db68db68cb68bb68bb68ab689b689b688b687b687b686b685b685b684b683b682b682b681b680b680b67fb67eb67eb67db67cb67cb67bb67ab67ab679b678b677b677b676b675b675b674b673b673b672b671b671b670b66fb66fb66eb66db66db66cb66bb66ab66ab669b668b668b667b666b666b665b664b664b663b662b662b661b660b65fb65fb65eb65db65db65cb65bb65bb65ab659b659b658b657b657b656b655b654b654b653b652b652b651b650b650b64fb64eb64eb64db64cb64cb64bb64ab64ab649b648b647b647b646b645b645b644b643b643b642b641b641b640b63fb63fb63eb63db63cb63cb63bb63ab63ab639b638b638b637b636b636b635b634b634b633b632,
  0xb790b78fb78eb78eb78db78cb78cb78bb78ab789b789b788b787b787b786b785b785b784b783b783b782b781b781b780b77fb77fb77eb77db77db77cb77bb77bb77ab779b778b778b777b776b776b775b774b774b773b772b772b771b770b770b76fb76eb76eb76db76cb76cb76bb76ab769b769b768b767b767b766b765b765b764b763b763b762b761b761b760b75fb75fb75eb75db75db75cb75bb75ab75ab759b758b758b757b756b756b755b754b754b753b752b752b751b750b750b74fb74eb74eb74db74cb74bb74bb74ab749b749b748b747b747b746b745b745b744b743b743b742b741b741b740b73fb73fb73eb73db73cb73cb73bb73ab73ab739b738b738b737b736b736b735b734b734b733b732b732b731b730b730b72fb72eb72db72db72cb72bb72bb72ab729b729b728b727b727b726b725b725b724b723b723b722b721b721b720b71fb71eb71eb71db71cb71cb71bb71ab71ab719b718b718b717b716b716b715b714b714b713b712b711b711b710b70fb70fb70eb70db70db70cb70bb70bb70ab709b709b708b707b707b706b705b705b704b703b702b702b701b700b700b6ffb6feb6feb6fdb6fcb6fcb6fbb6fab6fab6f9b6f8b6f8b6f7b6f6b6f5b6f5b6f4b6f3b6f3b6f2b6f1b6f1b6f0b6efb6efb6eeb6edb6edb6ecb6ebb6ebb6eab6e9b6e8b6e8b6e7b6e6b6e6b6e5b6e4b6e4b6e3b6e2b6e2,
  0xb83db83db83cb83bb83bb83ab839b839b838b837b837b836b835b835b834b833b833b832b831b831b830b82fb82fb82eb82db82db82cb82bb82ab82ab829b828b828b827b826b826b825b824b824b823b822b822b821b820b820b81fb81eb81eb81db81cb81cb81bb81ab81ab819b818b817b817b816b815b815b814b813b813b812b811b811b810b80fb80fb80eb80db80db80cb80bb80bb80ab809b809b808b807b807b806b805b804b804b803b802b802b801b800b800b7ffb7feb7feb7fdb7fcb7fcb7fbb7fab7fab7f9b7f8b7f8b7f7b7f6b7f6b7f5b7f4b7f4b7f3b7f2b7f1b7f1b7f0b7efb7efb7eeb7edb7edb7ecb7ebb7ebb7eab7e9b7e9b7e8b7e7b7e7b7e6b7e5b7e5b7e4b7e3b7e3b7e2b7e1b7e1b7e0b7dfb7deb7deb7ddb7dcb7dcb7dbb7dab7dab7d9b7d8b7d8b7d7b7d6b7d6b7d5b7d4b7d4b7d3b7d2b7d2b7d1b7d0b7d0b7cfb7ceb7ceb7cdb7ccb7cbb7cbb7cab7c9b7c9b7c8b7c7b7c7b7c6b7c5b7c5b7c4b7c3b7c3b7c2b7c1b7c1b7c0b7bfb7bfb7beb7bdb7bdb7bcb7bbb7bab7bab7b9b7b8b7b8b7b7b7b6b7b6b7b5b7b4b7b4b7b3b7b2b7b2b7b1b7b0b7b0b7afb7aeb7aeb7adb7acb7acb7abb7aab7a9b7a9b7a8b7a7b7a7b7a6b7a5b7a5b7a4b7a3b7a3b7a2b7a1b7a1b7a0b79fb79fb79eb79db79db79cb79bb79bb79ab799b798b798b797b796b796b795b794b794b793b792b792b791b790,
  0xb8eab8eab8e9b8e8b8e8b8e7b8e6b8e6b8e5b8e4b8e4b8e3b8e2b8e2b8e1b8e0b8e0b8dfb8deb8deb8ddb8dcb8dcb8dbb8dab8dab8d9b8d8b8d8b8d7b8d6b8d6b8d5b8d4b8d4b8d3b8d2b8d1b8d1b8d0b8cfb8cfb8ceb8cdb8cdb8ccb8cbb8cbb8cab8c9b8c9b8c8b8c7b8c7b8c6b8c5b8c5b8c4b8c3b8c3b8c2b8c1b8c1b8c0b8bfb8bfb8beb8bdb8bdb8bcb8bbb8bbb8bab8b9b8b9b8b8b8b7b8b6b8b6b8b5b8b4b8b4b8b3b8b2b8b2b8b1b8b0b8b0b8afb8aeb8aeb8adb8acb8acb8abb8aab8aab8a9b8a8b8a8b8a7b8a6b8a6b8a5b8a4b8a4b8a3b8a2b8a2b8a1b8a0b8a0b89fb89eb89db89db89cb89bb89bb89ab899b899b898b897b897b896b895b895b894b893b893b892b891b891b890b88fb88fb88eb88db88db88cb88bb88bb88ab889b889b888b887b887b886b885b884b884b883b882b882b881b880b880b87fb87eb87eb87db87cb87cb87bb87ab87ab879b878b878b877b876b876b875b874b874b873b872b872b871b870b870b86fb86eb86db86db86cb86bb86bb86ab869b869b868b867b867b866b865b865b864b863b863b862b861b861b860b85fb85fb85eb85db85db85cb85bb85bb85ab859b859b858b857b856b856b855b854b854b853b852b852b851b850b850b84fb84eb84eb84db84cb84cb84bb84ab84ab849b848b848b847b846b846b845b844b844b843b842b842b841b840b83fb83fb83e,
  0xb997b996b995b995b994b993b993b992b991b991b990b98fb98fb98eb98db98db98cb98bb98bb98ab989b988b988b987b986b986b985b984b984b983b982b982b981b980b980b97fb97eb97eb97db97cb97cb97bb97ab97ab979b978b978b977b976b976b975b974b974b973b972b972b971b970b970b96fb96eb96eb96db96cb96cb96bb96ab96ab969b968b968b967b966b966b965b964b964b963b962b962b961b960b960b95fb95eb95eb95db95cb95cb95bb95ab959b959b958b957b957b956b955b955b954b953b953b952b951b951b950b94fb94fb94eb94db94db94cb94bb94bb94ab949b949b948b947b947b946b945b945b944b943b943b942b941b941b940b93fb93fb93eb93db93db93cb93bb93bb93ab939b939b938b937b937b936b935b935b934b933b932b932b931b930b930b92fb92eb92eb92db92cb92cb92bb92ab92ab929b928b928b927b926b926b925b924b924b923b922b922b921b920b920b91fb91eb91eb91db91cb91cb91bb91ab91ab919b918b918b917b916b916b915b914b914b913b912b912b911b910b90fb90fb90eb90db90db90cb90bb90bb90ab909b909b908b907b907b906b905b905b904b903b903b902b901b901b900b8ffb8ffb8feb8fdb8fdb8fcb8fbb8fbb8fab8f9b8f9b8f8b8f7b8f7b8f6b8f5b8f5b8f4b8f3b8f3b8f2b8f1b8f0b8f0b8efb8eeb8eeb8edb8ecb8ecb8eb,
  0xba42ba41ba41ba40ba3fba3fba3eba3dba3dba3cba3bba3bba3aba39ba39ba38ba37ba37ba36ba35ba35ba34ba33ba33ba32ba31ba31ba30ba2fba2fba2eba2dba2dba2cba2bba2bba2aba29ba29ba28ba27ba27ba26ba25ba25ba24ba23ba23ba22ba21ba21ba20ba1fba1fba1eba1dba1dba1cba1bba1bba1aba19ba19ba18ba17ba17ba16ba15ba15ba14ba13ba13ba12ba11ba11ba10ba0fba0eba0eba0dba0cba0cba0bba0aba0aba09ba08ba08ba07ba06ba06ba05ba04ba04ba03ba02ba02ba01ba00ba00b9ffb9feb9feb9fdb9fcb9fcb9fbb9fab9fab9f9b9f8b9f8b9f7b9f6b9f6b9f5b9f4b9f4b9f3b9f2b9f2b9f1b9f0b9f0b9efb9eeb9eeb9edb9ecb9ecb9ebb9eab9eab9e9b9e8b9e8b9e7b9e6b9e6b9e5b9e4b9e4b9e3b9e2b9e2b9e1b9e0b9e0b9dfb9deb9deb9ddb9dcb9dcb9dbb9dab9dab9d9b9d8b9d8b9d7b9d6b9d6b9d5b9d4b9d4b9d3b9d2b9d2b9d1b9d0b9d0b9cfb9ceb9ceb9cdb9ccb9ccb9cbb9cab9cab9c9b9c8b9c8b9c7b9c6b9c6b9c5b9c4b9c4b9c3b9c2b9c2b9c1b9c0b9bfb9bfb9beb9bdb9bdb9bcb9bbb9bbb9bab9b9b9b9b9b8b9b7b9b7b9b6b9b5b9b5b9b4b9b3b9b3b9b2b9b1b9b1b9b0b9afb9afb9aeb9adb9adb9acb9abb9abb9aab9a9b9a9b9a8b9a7b9a7b9a6b9a5b9a5b9a4b9a3b9a3b9a2b9a1b9a1b9a0b99fb99fb99eb99db99db99cb99bb99bb99ab999b999b998b997,
  0xbaedbaecbaebbaebbaeabae9bae9bae8bae7bae7bae6bae5bae5bae4bae3bae3bae2bae1bae1bae0badfbadfbadebaddbaddbadcbadbbadbbadabad9bad9bad8bad7bad7bad6bad5bad5bad4bad3bad3bad2bad1bad1bad0bacfbacfbacebacdbacdbaccbacbbacbbacabac9bac9bac8bac7bac7bac6bac5bac5bac4bac3bac3bac2bac1bac1bac0babfbabfbabebabdbabdbabcbabbbabbbababab9bab9bab8bab7bab7bab6bab5bab5bab4bab3bab3bab2bab1bab1bab0baafbaafbaaebaadbaadbaacbaabbaabbaaabaa9baa9baa8baa7baa7baa6baa5baa5baa4baa3baa3baa2baa1baa1baa0ba9fba9fba9eba9dba9dba9cba9bba9bba9aba99ba99ba98ba97ba97ba96ba95ba95ba94ba93ba93ba92ba91ba91ba90ba8fba8fba8eba8dba8dba8cba8bba8bba8aba89ba89ba88ba87ba87ba86ba85ba85ba84ba83ba83ba82ba81ba81ba80ba7fba7fba7eba7dba7dba7cba7bba7bba7aba79ba79ba78ba77ba77ba76ba75ba75ba74ba73ba73ba72ba71ba71ba70ba6fba6fba6eba6dba6dba6cba6bba6bba6aba69ba69ba68ba67ba67ba66ba65ba65ba64ba63ba63ba62ba61ba61ba60ba5fba5fba5eba5dba5dba5cba5bba5bba5aba59ba59ba58ba57ba57ba56ba55ba55ba54ba53ba53ba52ba51ba51ba50ba4fba4fba4eba4dba4dba4cba4bba4bba4aba49ba49ba48ba47ba47ba46ba45ba45ba44ba43ba43,
  0xbb96bb96bb95bb94bb94bb93bb92bb92bb91bb90bb90bb8fbb8ebb8ebb8dbb8cbb8cbb8bbb8abb8abb89bb88bb88bb87bb86bb86bb85bb84bb84bb83bb82bb82bb81bb80bb80bb7fbb7ebb7ebb7dbb7cbb7cbb7bbb7abb7abb79bb79bb78bb77bb77bb76bb75bb75bb74bb73bb73bb72bb71bb71bb70bb6fbb6fbb6ebb6dbb6dbb6cbb6bbb6bbb6abb69bb69bb68bb67bb67bb66bb65bb65bb64bb63bb63bb62bb61bb61bb60bb5fbb5fbb5ebb5dbb5dbb5cbb5bbb5bbb5abb59bb59bb58bb57bb57bb56bb55bb55bb54bb53bb53bb52bb51bb51bb50bb4fbb4fbb4ebb4dbb4dbb4cbb4bbb4bbb4abb49bb49bb48bb47bb47bb46bb45bb45bb44bb43bb43bb42bb42bb41bb40bb40bb3fbb3ebb3ebb3dbb3cbb3cbb3bbb3abb3abb39bb38bb38bb37bb36bb36bb35bb34bb34bb33bb32bb32bb31bb30bb30bb2fbb2ebb2ebb2dbb2cbb2cbb2bbb2abb2abb29bb28bb28bb27bb26bb26bb25bb24bb24bb23bb22bb22bb21bb20bb20bb1fbb1ebb1ebb1dbb1cbb1cbb1bbb1abb1abb19bb18bb18bb17bb16bb16bb15bb14bb14bb13bb12bb12bb11bb10bb10bb0fbb0ebb0ebb0dbb0cbb0cbb0bbb0abb0abb09bb08bb08bb07bb06bb06bb05bb04bb04bb03bb02bb02bb01bb00bb00baffbafebafebafdbafcbafcbafbbafabafabaf9baf8baf8baf7baf6baf6baf5baf4baf4baf3baf3baf2baf1baf1baf0baefbaefbaeebaed,
  0xbc3fbc3fbc3ebc3dbc3dbc3cbc3bbc3bbc3abc39bc39bc38bc37bc37bc36bc35bc35bc34bc33bc33bc32bc31bc31bc30bc2fbc2fbc2ebc2ebc2dbc2cbc2cbc2bbc2abc2abc29bc28bc28bc27bc26bc26bc25bc24bc24bc23bc22bc22bc21bc20bc20bc1fbc1ebc1ebc1dbc1cbc1cbc1bbc1abc1abc19bc18bc18bc17bc16bc16bc15bc14bc14bc13bc12bc12bc11bc10bc10bc0fbc0fbc0ebc0dbc0dbc0cbc0bbc0bbc0abc09bc09bc08bc07bc07bc06bc05bc05bc04bc03bc03bc02bc01bc01bc00bbffbbffbbfebbfdbbfdbbfcbbfbbbfbbbfabbf9bbf9bbf8bbf7bbf7bbf6bbf5bbf5bbf4bbf3bbf3bbf2bbf1bbf1bbf0bbf0bbefbbeebbeebbedbbecbbecbbebbbeabbeabbe9bbe8bbe8bbe7bbe6bbe6bbe5bbe4bbe4bbe3bbe2bbe2bbe1bbe0bbe0bbdfbbdebbdebbddbbdcbbdcbbdbbbdabbdabbd9bbd8bbd8bbd7bbd6bbd6bbd5bbd4bbd4bbd3bbd2bbd2bbd1bbd0bbd0bbcfbbcebbcebbcdbbcdbbccbbcbbbcbbbcabbc9bbc9bbc8bbc7bbc7bbc6bbc5bbc5bbc4bbc3bbc3bbc2bbc1bbc1bbc0bbbfbbbfbbbebbbdbbbdbbbcbbbbbbbbbbbabbb9bbb9bbb8bbb7bbb7bbb6bbb5bbb5bbb4bbb3bbb3bbb2bbb1bbb1bbb0bbafbbafbbaebbadbbadbbacbbabbbabbbaabba9bba9bba8bba7bba7bba6bba6bba5bba4bba4bba3bba2bba2bba1bba0bba0bb9fbb9ebb9ebb9dbb9cbb9cbb9bbb9abb9abb99bb98bb98bb97,
  0xbce8bce7bce6bce6bce5bce4bce4bce3bce2bce2bce1bce0bce0bcdfbcdebcdebcddbcdcbcdcbcdbbcdabcdabcd9bcd8bcd8bcd7bcd6bcd6bcd5bcd4bcd4bcd3bcd3bcd2bcd1bcd1bcd0bccfbccfbccebccdbccdbcccbccbbccbbccabcc9bcc9bcc8bcc7bcc7bcc6bcc5bcc5bcc4bcc3bcc3bcc2bcc1bcc1bcc0bcc0bcbfbcbebcbebcbdbcbcbcbcbcbbbcbabcbabcb9bcb8bcb8bcb7bcb6bcb6bcb5bcb4bcb4bcb3bcb2bcb2bcb1bcb0bcb0bcafbcaebcaebcadbcacbcacbcabbcaabcaabca9bca9bca8bca7bca7bca6bca5bca5bca4bca3bca3bca2bca1bca1bca0bc9fbc9fbc9ebc9dbc9dbc9cbc9bbc9bbc9abc99bc99bc98bc97bc97bc96bc95bc95bc94bc93bc93bc92bc92bc91bc90bc90bc8fbc8ebc8ebc8dbc8cbc8cbc8bbc8abc8abc89bc88bc88bc87bc86bc86bc85bc84bc84bc83bc82bc82bc81bc80bc80bc7fbc7ebc7ebc7dbc7cbc7cbc7bbc7bbc7abc79bc79bc78bc77bc77bc76bc75bc75bc74bc73bc73bc72bc71bc71bc70bc6fbc6fbc6ebc6dbc6dbc6cbc6bbc6bbc6abc69bc69bc68bc67bc67bc66bc65bc65bc64bc63bc63bc62bc62bc61bc60bc60bc5fbc5ebc5ebc5dbc5cbc5cbc5bbc5abc5abc59bc58bc58bc57bc56bc56bc55bc54bc54bc53bc52bc52bc51bc50bc50bc4fbc4ebc4ebc4dbc4cbc4cbc4bbc4abc4abc49bc49bc48bc47bc47bc46bc45bc45bc44bc43bc43bc42bc41bc41bc40,
  0xbd8fbd8ebd8ebd8dbd8cbd8cbd8bbd8abd8abd89bd88bd88bd87bd86bd86bd85bd85bd84bd83bd83bd82bd81bd81bd80bd7fbd7fbd7ebd7dbd7dbd7cbd7bbd7bbd7abd79bd79bd78bd77bd77bd76bd76bd75bd74bd74bd73bd72bd72bd71bd70bd70bd6fbd6ebd6ebd6dbd6cbd6cbd6bbd6abd6abd69bd68bd68bd67bd67bd66bd65bd65bd64bd63bd63bd62bd61bd61bd60bd5fbd5fbd5ebd5dbd5dbd5cbd5bbd5bbd5abd59bd59bd58bd57bd57bd56bd56bd55bd54bd54bd53bd52bd52bd51bd50bd50bd4fbd4ebd4ebd4dbd4cbd4cbd4bbd4abd4abd49bd48bd48bd47bd46bd46bd45bd45bd44bd43bd43bd42bd41bd41bd40bd3fbd3fbd3ebd3dbd3dbd3cbd3bbd3bbd3abd39bd39bd38bd37bd37bd36bd35bd35bd34bd33bd33bd32bd32bd31bd30bd30bd2fbd2ebd2ebd2dbd2cbd2cbd2bbd2abd2abd29bd28bd28bd27bd26bd26bd25bd24bd24bd23bd22bd22bd21bd21bd20bd1fbd1fbd1ebd1dbd1dbd1cbd1bbd1bbd1abd19bd19bd18bd17bd17bd16bd15bd15bd14bd13bd13bd12bd11bd11bd10bd0fbd0fbd0ebd0ebd0dbd0cbd0cbd0bbd0abd0abd09bd08bd08bd07bd06bd06bd05bd04bd04bd03bd02bd02bd01bd00bd00bcffbcfebcfebcfdbcfcbcfcbcfbbcfbbcfabcf9bcf9bcf8bcf7bcf7bcf6bcf5bcf5bcf4bcf3bcf3bcf2bcf1bcf1bcf0bcefbcefbceebcedbcedbcecbcebbcebbceabce9bce9bce8,
  0xbe36be35be34be34be33be32be32be31be31be30be2fbe2fbe2ebe2dbe2dbe2cbe2bbe2bbe2abe29be29be28be27be27be26be25be25be24be24be23be22be22be21be20be20be1fbe1ebe1ebe1dbe1cbe1cbe1bbe1abe1abe19be18be18be17be17be16be15be15be14be13be13be12be11be11be10be0fbe0fbe0ebe0dbe0dbe0cbe0bbe0bbe0abe09be09be08be08be07be06be06be05be04be04be03be02be02be01be00be00bdffbdfebdfebdfdbdfcbdfcbdfbbdfbbdfabdf9bdf9bdf8bdf7bdf7bdf6bdf5bdf5bdf4bdf3bdf3bdf2bdf1bdf1bdf0bdefbdefbdeebdeebdedbdecbdecbdebbdeabdeabde9bde8bde8bde7bde6bde6bde5bde4bde4bde3bde2bde2bde1bde0bde0bddfbddfbddebdddbdddbddcbddbbddbbddabdd9bdd9bdd8bdd7bdd7bdd6bdd5bdd5bdd4bdd3bdd3bdd2bdd2bdd1bdd0bdd0bdcfbdcebdcebdcdbdccbdccbdcbbdcabdcabdc9bdc8bdc8bdc7bdc6bdc6bdc5bdc4bdc4bdc3bdc3bdc2bdc1bdc1bdc0bdbfbdbfbdbebdbdbdbdbdbcbdbbbdbbbdbabdb9bdb9bdb8bdb7bdb7bdb6bdb5bdb5bdb4bdb4bdb3bdb2bdb2bdb1bdb0bdb0bdafbdaebdaebdadbdacbdacbdabbdaabdaabda9bda8bda8bda7bda6bda6bda5bda5bda4bda3bda3bda2bda1bda1bda0bd9fbd9fbd9ebd9dbd9dbd9cbd9bbd9bbd9abd99bd99bd98bd97bd97bd96bd96bd95bd94bd94bd93bd92bd92bd91bd90bd90,
  0xbedcbedbbedabedabed9bed8bed8bed7bed7bed6bed5bed5bed4bed3bed3bed2bed1bed1bed0becfbecfbecebecdbecdbeccbeccbecbbecabecabec9bec8bec8bec7bec6bec6bec5bec4bec4bec3bec2bec2bec1bec1bec0bebfbebfbebebebdbebdbebcbebbbebbbebabeb9beb9beb8beb7beb7beb6beb5beb5beb4beb4beb3beb2beb2beb1beb0beb0beafbeaebeaebeadbeacbeacbeabbeaabeaabea9bea9bea8bea7bea7bea6bea5bea5bea4bea3bea3bea2bea1bea1bea0be9fbe9fbe9ebe9ebe9dbe9cbe9cbe9bbe9abe9abe99be98be98be97be96be96be95be94be94be93be93be92be91be91be90be8fbe8fbe8ebe8dbe8dbe8cbe8bbe8bbe8abe89be89be88be87be87be86be86be85be84be84be83be82be82be81be80be80be7fbe7ebe7ebe7dbe7cbe7cbe7bbe7bbe7abe79be79be78be77be77be76be75be75be74be73be73be72be71be71be70be6fbe6fbe6ebe6ebe6dbe6cbe6cbe6bbe6abe6abe69be68be68be67be66be66be65be64be64be63be63be62be61be61be60be5fbe5fbe5ebe5dbe5dbe5cbe5bbe5bbe5abe59be59be58be57be57be56be56be55be54be54be53be52be52be51be50be50be4fbe4ebe4ebe4dbe4cbe4cbe4bbe4abe4abe49be49be48be47be47be46be45be45be44be43be43be42be41be41be40be3fbe3fbe3ebe3ebe3dbe3cbe3cbe3bbe3abe3abe39be38be38be37be36,
  0xbf81bf80bf80bf7fbf7ebf7ebf7dbf7cbf7cbf7bbf7abf7abf79bf79bf78bf77bf77bf76bf75bf75bf74bf73bf73bf72bf71bf71bf70bf70bf6fbf6ebf6ebf6dbf6cbf6cbf6bbf6abf6abf69bf68bf68bf67bf67bf66bf65bf65bf64bf63bf63bf62bf61bf61bf60bf5fbf5fbf5ebf5dbf5dbf5cbf5cbf5bbf5abf5abf59bf58bf58bf57bf56bf56bf55bf54bf54bf53bf53bf52bf51bf51bf50bf4fbf4fbf4ebf4dbf4dbf4cbf4bbf4bbf4abf4abf49bf48bf48bf47bf46bf46bf45bf44bf44bf43bf42bf42bf41bf40bf40bf3fbf3fbf3ebf3dbf3dbf3cbf3bbf3bbf3abf39bf39bf38bf37bf37bf36bf36bf35bf34bf34bf33bf32bf32bf31bf30bf30bf2fbf2ebf2ebf2dbf2cbf2cbf2bbf2bbf2abf29bf29bf28bf27bf27bf26bf25bf25bf24bf23bf23bf22bf21bf21bf20bf20bf1fbf1ebf1ebf1dbf1cbf1cbf1bbf1abf1abf19bf18bf18bf17bf17bf16bf15bf15bf14bf13bf13bf12bf11bf11bf10bf0fbf0fbf0ebf0dbf0dbf0cbf0cbf0bbf0abf0abf09bf08bf08bf07bf06bf06bf05bf04bf04bf03bf02bf02bf01bf01bf00beffbeffbefebefdbefdbefcbefbbefbbefabef9bef9bef8bef7bef7bef6bef6bef5bef4bef4bef3bef2bef2bef1bef0bef0beefbeeebeeebeedbeedbeecbeebbeebbeeabee9bee9bee8bee7bee7bee6bee5bee5bee4bee3bee3bee2bee2bee1bee0bee0bedfbedebedebeddbedc,
  0xc025c025c024c024c023c022c022c021c020c020c01fc01ec01ec01dc01cc01cc01bc01bc01ac019c019c018c017c017c016c015c015c014c013c013c012c012c011c010c010c00fc00ec00ec00dc00cc00cc00bc00bc00ac009c009c008c007c007c006c005c005c004c003c003c002c002c001c000c000bfffbffebffebffdbffcbffcbffbbffabffabff9bff9bff8bff7bff7bff6bff5bff5bff4bff3bff3bff2bff1bff1bff0bff0bfefbfeebfeebfedbfecbfecbfebbfeabfeabfe9bfe8bfe8bfe7bfe7bfe6bfe5bfe5bfe4bfe3bfe3bfe2bfe1bfe1bfe0bfdfbfdfbfdebfdebfddbfdcbfdcbfdbbfdabfdabfd9bfd8bfd8bfd7bfd6bfd6bfd5bfd5bfd4bfd3bfd3bfd2bfd1bfd1bfd0bfcfbfcfbfcebfcdbfcdbfccbfccbfcbbfcabfcabfc9bfc8bfc8bfc7bfc6bfc6bfc5bfc4bfc4bfc3bfc3bfc2bfc1bfc1bfc0bfbfbfbfbfbebfbdbfbdbfbcbfbbbfbbbfbabfbabfb9bfb8bfb8bfb7bfb6bfb6bfb5bfb4bfb4bfb3bfb2bfb2bfb1bfb1bfb0bfafbfafbfaebfadbfadbfacbfabbfabbfaabfa9bfa9bfa8bfa8bfa7bfa6bfa6bfa5bfa4bfa4bfa3bfa2bfa2bfa1bfa0bfa0bf9fbf9fbf9ebf9dbf9dbf9cbf9bbf9bbf9abf99bf99bf98bf97bf97bf96bf96bf95bf94bf94bf93bf92bf92bf91bf90bf90bf8fbf8ebf8ebf8dbf8dbf8cbf8bbf8bbf8abf89bf89bf88bf87bf87bf86bf85bf85bf84bf84bf83bf82bf82,
  0xc0c9c0c9c0c8c0c7c0c7c0c6c0c5c0c5c0c4c0c4c0c3c0c2c0c2c0c1c0c0c0c0c0bfc0bec0bec0bdc0bcc0bcc0bbc0bbc0bac0b9c0b9c0b8c0b7c0b7c0b6c0b5c0b5c0b4c0b4c0b3c0b2c0b2c0b1c0b0c0b0c0afc0aec0aec0adc0adc0acc0abc0abc0aac0a9c0a9c0a8c0a7c0a7c0a6c0a5c0a5c0a4c0a4c0a3c0a2c0a2c0a1c0a0c0a0c09fc09ec09ec09dc09dc09cc09bc09bc09ac099c099c098c097c097c096c096c095c094c094c093c092c092c091c090c090c08fc08ec08ec08dc08dc08cc08bc08bc08ac089c089c088c087c087c086c086c085c084c084c083c082c082c081c080c080c07fc07ec07ec07dc07dc07cc07bc07bc07ac079c079c078c077c077c076c076c075c074c074c073c072c072c071c070c070c06fc06ec06ec06dc06dc06cc06bc06bc06ac069c069c068c067c067c066c066c065c064c064c063c062c062c061c060c060c05fc05ec05ec05dc05dc05cc05bc05bc05ac059c059c058c057c057c056c056c055c054c054c053c052c052c051c050c050c04fc04ec04ec04dc04dc04cc04bc04bc04ac049c049c048c047c047c046c046c045c044c044c043c042c042c041c040c040c03fc03ec03ec03dc03dc03cc03bc03bc03ac039c039c038c037c037c036c035c035c034c034c033c032c032c031c030c030c02fc02ec02ec02dc02dc02cc02bc02bc02ac029c029c028c027c027c026,
  0xc16cc16cc16bc16ac16ac169c169c168c167c167c166c165c165c164c163c163c162c162c161c160c160c15fc15ec15ec15dc15cc15cc15bc15bc15ac159c159c158c157c157c156c155c155c154c154c153c152c152c151c150c150c14fc14ec14ec14dc14dc14cc14bc14bc14ac149c149c148c147c147c146c146c145c144c144c143c142c142c141c140c140c13fc13fc13ec13dc13dc13cc13bc13bc13ac139c139c138c138c137c136c136c135c134c134c133c132c132c131c131c130c12fc12fc12ec12dc12dc12cc12bc12bc12ac12ac129c128c128c127c126c126c125c124c124c123c123c122c121c121c120c11fc11fc11ec11dc11dc11cc11cc11bc11ac11ac119c118c118c117c116c116c115c115c114c113c113c112c111c111c110c10fc10fc10ec10ec10dc10cc10cc10bc10ac10ac109c108c108c107c107c106c105c105c104c103c103c102c101c101c100c0ffc0ffc0fec0fec0fdc0fcc0fcc0fbc0fac0fac0f9c0f8c0f8c0f7c0f7c0f6c0f5c0f5c0f4c0f3c0f3c0f2c0f1c0f1c0f0c0f0c0efc0eec0eec0edc0ecc0ecc0ebc0eac0eac0e9c0e9c0e8c0e7c0e7c0e6c0e5c0e5c0e4c0e3c0e3c0e2c0e2c0e1c0e0c0e0c0dfc0dec0dec0ddc0dcc0dcc0dbc0dac0dac0d9c0d9c0d8c0d7c0d7c0d6c0d5c0d5c0d4c0d3c0d3c0d2c0d2c0d1c0d0c0d0c0cfc0cec0cec0cdc0ccc0ccc0cbc0cbc0ca,
  0xc20fc20ec20ec20dc20cc20cc20bc20ac20ac209c208c208c207c207c206c205c205c204c203c203c202c201c201c200c200c1ffc1fec1fec1fdc1fcc1fcc1fbc1fbc1fac1f9c1f9c1f8c1f7c1f7c1f6c1f5c1f5c1f4c1f4c1f3c1f2c1f2c1f1c1f0c1f0c1efc1eec1eec1edc1edc1ecc1ebc1ebc1eac1e9c1e9c1e8c1e8c1e7c1e6c1e6c1e5c1e4c1e4c1e3c1e2c1e2c1e1c1e1c1e0c1dfc1dfc1dec1ddc1ddc1dcc1dbc1dbc1dac1dac1d9c1d8c1d8c1d7c1d6c1d6c1d5c1d4c1d4c1d3c1d3c1d2c1d1c1d1c1d0c1cfc1cfc1cec1cec1cdc1ccc1ccc1cbc1cac1cac1c9c1c8c1c8c1c7c1c7c1c6c1c5c1c5c1c4c1c3c1c3c1c2c1c1c1c1c1c0c1c0c1bfc1bec1bec1bdc1bcc1bcc1bbc1bac1bac1b9c1b9c1b8c1b7c1b7c1b6c1b5c1b5c1b4c1b4c1b3c1b2c1b2c1b1c1b0c1b0c1afc1aec1aec1adc1adc1acc1abc1abc1aac1a9c1a9c1a8c1a7c1a7c1a6c1a6c1a5c1a4c1a4c1a3c1a2c1a2c1a1c1a0c1a0c19fc19fc19ec19dc19dc19cc19bc19bc19ac199c199c198c198c197c196c196c195c194c194c193c192c192c191c191c190c18fc18fc18ec18dc18dc18cc18cc18bc18ac18ac189c188c188c187c186c186c185c185c184c183c183c182c181c181c180c17fc17fc17ec17ec17dc17cc17cc17bc17ac17ac179c178c178c177c177c176c175c175c174c173c173c172c171c171c170c170c16fc16ec16ec16d,
  0xc2b0c2b0c2afc2afc2aec2adc2adc2acc2abc2abc2aac2aac2a9c2a8c2a8c2a7c2a6c2a6c2a5c2a5c2a4c2a3c2a3c2a2c2a1c2a1c2a0c29fc29fc29ec29ec29dc29cc29cc29bc29ac29ac299c299c298c297c297c296c295c295c294c293c293c292c292c291c290c290c28fc28ec28ec28dc28dc28cc28bc28bc28ac289c289c288c287c287c286c286c285c284c284c283c282c282c281c281c280c27fc27fc27ec27dc27dc27cc27cc27bc27ac27ac279c278c278c277c276c276c275c275c274c273c273c272c271c271c270c270c26fc26ec26ec26dc26cc26cc26bc26ac26ac269c269c268c267c267c266c265c265c264c264c263c262c262c261c260c260c25fc25ec25ec25dc25dc25cc25bc25bc25ac259c259c258c258c257c256c256c255c254c254c253c252c252c251c251c250c24fc24fc24ec24dc24dc24cc24bc24bc24ac24ac249c248c248c247c246c246c245c245c244c243c243c242c241c241c240c23fc23fc23ec23ec23dc23cc23cc23bc23ac23ac239c239c238c237c237c236c235c235c234c233c233c232c232c231c230c230c22fc22ec22ec22dc22dc22cc22bc22bc22ac229c229c228c227c227c226c226c225c224c224c223c222c222c221c220c220c21fc21fc21ec21dc21dc21cc21bc21bc21ac21ac219c218c218c217c216c216c215c214c214c213c213c212c211c211c210c20f,
  0xc352c351c350c350c34fc34ec34ec34dc34cc34cc34bc34bc34ac349c349c348c347c347c346c346c345c344c344c343c342c342c341c341c340c33fc33fc33ec33dc33dc33cc33cc33bc33ac33ac339c338c338c337c337c336c335c335c334c333c333c332c331c331c330c330c32fc32ec32ec32dc32cc32cc32bc32bc32ac329c329c328c327c327c326c326c325c324c324c323c322c322c321c321c320c31fc31fc31ec31dc31dc31cc31cc31bc31ac31ac319c318c318c317c316c316c315c315c314c313c313c312c311c311c310c310c30fc30ec30ec30dc30cc30cc30bc30bc30ac309c309c308c307c307c306c305c305c304c304c303c302c302c301c300c300c2ffc2ffc2fec2fdc2fdc2fcc2fbc2fbc2fac2fac2f9c2f8c2f8c2f7c2f6c2f6c2f5c2f5c2f4c2f3c2f3c2f2c2f1c2f1c2f0c2efc2efc2eec2eec2edc2ecc2ecc2ebc2eac2eac2e9c2e9c2e8c2e7c2e7c2e6c2e5c2e5c2e4c2e4c2e3c2e2c2e2c2e1c2e0c2e0c2dfc2dec2dec2ddc2ddc2dcc2dbc2dbc2dac2d9c2d9c2d8c2d8c2d7c2d6c2d6c2d5c2d4c2d4c2d3c2d3c2d2c2d1c2d1c2d0c2cfc2cfc2cec2cdc2cdc2ccc2ccc2cbc2cac2cac2c9c2c8c2c8c2c7c2c7c2c6c2c5c2c5c2c4c2c3c2c3c2c2c2c2c2c1c2c0c2c0c2bfc2bec2bec2bdc2bcc2bcc2bbc2bbc2bac2b9c2b9c2b8c2b7c2b7c2b6c2b6c2b5c2b4c2b4c2b3c2b2c2b2c2b1,
  0xc3f2c3f1c3f1c3f0c3efc3efc3eec3edc3edc3ecc3ecc3ebc3eac3eac3e9c3e9c3e8c3e7c3e7c3e6c3e5c3e5c3e4c3e3c3e3c3e2c3e2c3e1c3e0c3e0c3dfc3dec3dec3ddc3ddc3dcc3dbc3dbc3dac3d9c3d9c3d8c3d8c3d7c3d6c3d6c3d5c3d4c3d4c3d3c3d3c3d2c3d1c3d1c3d0c3cfc3cfc3cec3cec3cdc3ccc3ccc3cbc3cac3cac3c9c3c9c3c8c3c7c3c7c3c6c3c5c3c5c3c4c3c4c3c3c3c2c3c2c3c1c3c0c3c0c3bfc3bfc3bec3bdc3bdc3bcc3bbc3bbc3bac3bac3b9c3b8c3b8c3b7c3b6c3b6c3b5c3b5c3b4c3b3c3b3c3b2c3b1c3b1c3b0c3b0c3afc3aec3aec3adc3acc3acc3abc3abc3aac3a9c3a9c3a8c3a7c3a7c3a6c3a6c3a5c3a4c3a4c3a3c3a2c3a2c3a1c3a1c3a0c39fc39fc39ec39dc39dc39cc39cc39bc39ac39ac399c398c398c397c397c396c395c395c394c393c393c392c391c391c390c390c38fc38ec38ec38dc38cc38cc38bc38bc38ac389c389c388c387c387c386c386c385c384c384c383c382c382c381c381c380c37fc37fc37ec37dc37dc37cc37cc37bc37ac37ac379c378c378c377c377c376c375c375c374c373c373c372c372c371c370c370c36fc36ec36ec36dc36dc36cc36bc36bc36ac369c369c368c367c367c366c366c365c364c364c363c362c362c361c361c360c35fc35fc35ec35dc35dc35cc35cc35bc35ac35ac359c358c358c357c357c356c355c355c354c353c353c352,
  0xc492c491c490c490c48fc48ec48ec48dc48dc48cc48bc48bc48ac489c489c488c488c487c486c486c485c484c484c483c483c482c481c481c480c480c47fc47ec47ec47dc47cc47cc47bc47bc47ac479c479c478c477c477c476c476c475c474c474c473c472c472c471c471c470c46fc46fc46ec46dc46dc46cc46cc46bc46ac46ac469c468c468c467c467c466c465c465c464c463c463c462c462c461c460c460c45fc45ec45ec45dc45dc45cc45bc45bc45ac45ac459c458c458c457c456c456c455c455c454c453c453c452c451c451c450c450c44fc44ec44ec44dc44cc44cc44bc44bc44ac449c449c448c447c447c446c446c445c444c444c443c442c442c441c441c440c43fc43fc43ec43dc43dc43cc43cc43bc43ac43ac439c438c438c437c437c436c435c435c434c433c433c432c432c431c430c430c42fc42ec42ec42dc42dc42cc42bc42bc42ac429c429c428c428c427c426c426c425c424c424c423c423c422c421c421c420c41fc41fc41ec41ec41dc41cc41cc41bc41ac41ac419c419c418c417c417c416c415c415c414c414c413c412c412c411c410c410c40fc40fc40ec40dc40dc40cc40bc40bc40ac40ac409c408c408c407c406c406c405c405c404c403c403c402c401c401c400c400c3ffc3fec3fec3fdc3fdc3fcc3fbc3fbc3fac3f9c3f9c3f8c3f8c3f7c3f6c3f6c3f5c3f4c3f4c3f3c3f3,
  0xc531c530c52fc52fc52ec52dc52dc52cc52cc52bc52ac52ac529c529c528c527c527c526c525c525c524c524c523c522c522c521c520c520c51fc51fc51ec51dc51dc51cc51cc51bc51ac51ac519c518c518c517c517c516c515c515c514c513c513c512c512c511c510c510c50fc50ec50ec50dc50dc50cc50bc50bc50ac50ac509c508c508c507c506c506c505c505c504c503c503c502c501c501c500c500c4ffc4fec4fec4fdc4fcc4fcc4fbc4fbc4fac4f9c4f9c4f8c4f8c4f7c4f6c4f6c4f5c4f4c4f4c4f3c4f3c4f2c4f1c4f1c4f0c4efc4efc4eec4eec4edc4ecc4ecc4ebc4eac4eac4e9c4e9c4e8c4e7c4e7c4e6c4e6c4e5c4e4c4e4c4e3c4e2c4e2c4e1c4e1c4e0c4dfc4dfc4dec4ddc4ddc4dcc4dcc4dbc4dac4dac4d9c4d8c4d8c4d7c4d7c4d6c4d5c4d5c4d4c4d3c4d3c4d2c4d2c4d1c4d0c4d0c4cfc4cfc4cec4cdc4cdc4ccc4cbc4cbc4cac4cac4c9c4c8c4c8c4c7c4c6c4c6c4c5c4c5c4c4c4c3c4c3c4c2c4c1c4c1c4c0c4c0c4bfc4bec4bec4bdc4bcc4bcc4bbc4bbc4bac4b9c4b9c4b8c4b8c4b7c4b6c4b6c4b5c4b4c4b4c4b3c4b3c4b2c4b1c4b1c4b0c4afc4afc4aec4aec4adc4acc4acc4abc4aac4aac4a9c4a9c4a8c4a7c4a7c4a6c4a5c4a5c4a4c4a4c4a3c4a2c4a2c4a1c4a1c4a0c49fc49fc49ec49dc49dc49cc49cc49bc49ac49ac499c498c498c497c497c496c495c495c494c493c493c492,
  0xc5cfc5cec5cec5cdc5cdc5ccc5cbc5cbc5cac5c9c5c9c5c8c5c8c5c7c5c6c5c6c5c5c5c4c5c4c5c3c5c3c5c2c5c1c5c1c5c0c5c0c5bfc5bec5bec5bdc5bcc5bcc5bbc5bbc5bac5b9c5b9c5b8c5b8c5b7c5b6c5b6c5b5c5b4c5b4c5b3c5b3c5b2c5b1c5b1c5b0c5afc5afc5aec5aec5adc5acc5acc5abc5abc5aac5a9c5a9c5a8c5a7c5a7c5a6c5a6c5a5c5a4c5a4c5a3c5a3c5a2c5a1c5a1c5a0c59fc59fc59ec59ec59dc59cc59cc59bc59ac59ac599c599c598c597c597c596c596c595c594c594c593c592c592c591c591c590c58fc58fc58ec58dc58dc58cc58cc58bc58ac58ac589c589c588c587c587c586c585c585c584c584c583c582c582c581c580c580c57fc57fc57ec57dc57dc57cc57cc57bc57ac57ac579c578c578c577c577c576c575c575c574c573c573c572c572c571c570c570c56fc56fc56ec56dc56dc56cc56bc56bc56ac56ac569c568c568c567c566c566c565c565c564c563c563c562c562c561c560c560c55fc55ec55ec55dc55dc55cc55bc55bc55ac559c559c558c558c557c556c556c555c555c554c553c553c552c551c551c550c550c54fc54ec54ec54dc54cc54cc54bc54bc54ac549c549c548c548c547c546c546c545c544c544c543c543c542c541c541c540c53fc53fc53ec53ec53dc53cc53cc53bc53bc53ac539c539c538c537c537c536c536c535c534c534c533c532c532c531,
  0xc66dc66cc66bc66bc66ac66ac669c668c668c667c667c666c665c665c664c663c663c662c662c661c660c660c65fc65fc65ec65dc65dc65cc65bc65bc65ac65ac659c658c658c657c657c656c655c655c654c653c653c652c652c651c650c650c64fc64fc64ec64dc64dc64cc64bc64bc64ac64ac649c648c648c647c647c646c645c645c644c643c643c642c642c641c640c640c63fc63fc63ec63dc63dc63cc63bc63bc63ac63ac639c638c638c637c637c636c635c635c634c633c633c632c632c631c630c630c62fc62fc62ec62dc62dc62cc62bc62bc62ac62ac629c628c628c627c627c626c625c625c624c623c623c622c622c621c620c620c61fc61fc61ec61dc61dc61cc61bc61bc61ac61ac619c618c618c617c617c616c615c615c614c613c613c612c612c611c610c610c60fc60fc60ec60dc60dc60cc60bc60bc60ac60ac609c608c608c607c607c606c605c605c604c603c603c602c602c601c600c600c5ffc5fec5fec5fdc5fdc5fcc5fbc5fbc5fac5fac5f9c5f8c5f8c5f7c5f6c5f6c5f5c5f5c5f4c5f3c5f3c5f2c5f2c5f1c5f0c5f0c5efc5eec5eec5edc5edc5ecc5ebc5ebc5eac5eac5e9c5e8c5e8c5e7c5e6c5e6c5e5c5e5c5e4c5e3c5e3c5e2c5e1c5e1c5e0c5e0c5dfc5dec5dec5ddc5ddc5dcc5dbc5dbc5dac5d9c5d9c5d8c5d8c5d7c5d6c5d6c5d5c5d5c5d4c5d3c5d3c5d2c5d1c5d1c5d0c5d0,
  0xc70ac709c709c708c707c707c706c706c705c704c704c703c702c702c701c701c700c6ffc6ffc6fec6fec6fdc6fcc6fcc6fbc6fac6fac6f9c6f9c6f8c6f7c6f7c6f6c6f6c6f5c6f4c6f4c6f3c6f3c6f2c6f1c6f1c6f0c6efc6efc6eec6eec6edc6ecc6ecc6ebc6ebc6eac6e9c6e9c6e8c6e8c6e7c6e6c6e6c6e5c6e4c6e4c6e3c6e3c6e2c6e1c6e1c6e0c6e0c6dfc6dec6dec6ddc6dcc6dcc6dbc6dbc6dac6d9c6d9c6d8c6d8c6d7c6d6c6d6c6d5c6d4c6d4c6d3c6d3c6d2c6d1c6d1c6d0c6d0c6cfc6cec6cec6cdc6cdc6ccc6cbc6cbc6cac6c9c6c9c6c8c6c8c6c7c6c6c6c6c6c5c6c5c6c4c6c3c6c3c6c2c6c1c6c1c6c0c6c0c6bfc6bec6bec6bdc6bdc6bcc6bbc6bbc6bac6b9c6b9c6b8c6b8c6b7c6b6c6b6c6b5c6b5c6b4c6b3c6b3c6b2c6b2c6b1c6b0c6b0c6afc6aec6aec6adc6adc6acc6abc6abc6aac6aac6a9c6a8c6a8c6a7c6a6c6a6c6a5c6a5c6a4c6a3c6a3c6a2c6a2c6a1c6a0c6a0c69fc69ec69ec69dc69dc69cc69bc69bc69ac69ac699c698c698c697c697c696c695c695c694c693c693c692c692c691c690c690c68fc68fc68ec68dc68dc68cc68bc68bc68ac68ac689c688c688c687c687c686c685c685c684c683c683c682c682c681c680c680c67fc67fc67ec67dc67dc67cc67bc67bc67ac67ac679c678c678c677c677c676c675c675c674c673c673c672c672c671c670c670c66fc66fc66ec66d,
  0xc7a6c7a6c7a5c7a4c7a4c7a3c7a3c7a2c7a1c7a1c7a0c7a0c79fc79ec79ec79dc79dc79cc79bc79bc79ac799c799c798c798c797c796c796c795c795c794c793c793c792c792c791c790c790c78fc78ec78ec78dc78dc78cc78bc78bc78ac78ac789c788c788c787c787c786c785c785c784c783c783c782c782c781c780c780c77fc77fc77ec77dc77dc77cc77cc77bc77ac77ac779c779c778c777c777c776c775c775c774c774c773c772c772c771c771c770c76fc76fc76ec76ec76dc76cc76cc76bc76ac76ac769c769c768c767c767c766c766c765c764c764c763c763c762c761c761c760c75fc75fc75ec75ec75dc75cc75cc75bc75bc75ac759c759c758c758c757c756c756c755c754c754c753c753c752c751c751c750c750c74fc74ec74ec74dc74dc74cc74bc74bc74ac749c749c748c748c747c746c746c745c745c744c743c743c742c742c741c740c740c73fc73ec73ec73dc73dc73cc73bc73bc73ac73ac739c738c738c737c736c736c735c735c734c733c733c732c732c731c730c730c72fc72fc72ec72dc72dc72cc72bc72bc72ac72ac729c728c728c727c727c726c725c725c724c724c723c722c722c721c720c720c71fc71fc71ec71dc71dc71cc71cc71bc71ac71ac719c719c718c717c717c716c715c715c714c714c713c712c712c711c711c710c70fc70fc70ec70dc70dc70cc70cc70bc70a,
  0xc842c842c841c840c840c83fc83ec83ec83dc83dc83cc83bc83bc83ac83ac839c838c838c837c837c836c835c835c834c834c833c832c832c831c830c830c82fc82fc82ec82dc82dc82cc82cc82bc82ac82ac829c829c828c827c827c826c826c825c824c824c823c823c822c821c821c820c81fc81fc81ec81ec81dc81cc81cc81bc81bc81ac819c819c818c818c817c816c816c815c815c814c813c813c812c811c811c810c810c80fc80ec80ec80dc80dc80cc80bc80bc80ac80ac809c808c808c807c807c806c805c805c804c803c803c802c802c801c800c800c7ffc7ffc7fec7fdc7fdc7fcc7fcc7fbc7fac7fac7f9c7f9c7f8c7f7c7f7c7f6c7f5c7f5c7f4c7f4c7f3c7f2c7f2c7f1c7f1c7f0c7efc7efc7eec7eec7edc7ecc7ecc7ebc7ebc7eac7e9c7e9c7e8c7e7c7e7c7e6c7e6c7e5c7e4c7e4c7e3c7e3c7e2c7e1c7e1c7e0c7e0c7dfc7dec7dec7ddc7ddc7dcc7dbc7dbc7dac7d9c7d9c7d8c7d8c7d7c7d6c7d6c7d5c7d5c7d4c7d3c7d3c7d2c7d2c7d1c7d0c7d0c7cfc7cfc7cec7cdc7cdc7ccc7cbc7cbc7cac7cac7c9c7c8c7c8c7c7c7c7c7c6c7c5c7c5c7c4c7c4c7c3c7c2c7c2c7c1c7c0c7c0c7bfc7bfc7bec7bdc7bdc7bcc7bcc7bbc7bac7bac7b9c7b9c7b8c7b7c7b7c7b6c7b6c7b5c7b4c7b4c7b3c7b2c7b2c7b1c7b1c7b0c7afc7afc7aec7aec7adc7acc7acc7abc7abc7aac7a9c7a9c7a8c7a7c7a7,
  0xc8ddc8ddc8dcc8dcc8dbc8dac8dac8d9c8d9c8d8c8d7c8d7c8d6c8d5c8d5c8d4c8d4c8d3c8d2c8d2c8d1c8d1c8d0c8cfc8cfc8cec8cec8cdc8ccc8ccc8cbc8cbc8cac8c9c8c9c8c8c8c8c8c7c8c6c8c6c8c5c8c5c8c4c8c3c8c3c8c2c8c1c8c1c8c0c8c0c8bfc8bec8bec8bdc8bdc8bcc8bbc8bbc8bac8bac8b9c8b8c8b8c8b7c8b7c8b6c8b5c8b5c8b4c8b4c8b3c8b2c8b2c8b1c8b1c8b0c8afc8afc8aec8aec8adc8acc8acc8abc8aac8aac8a9c8a9c8a8c8a7c8a7c8a6c8a6c8a5c8a4c8a4c8a3c8a3c8a2c8a1c8a1c8a0c8a0c89fc89ec89ec89dc89dc89cc89bc89bc89ac89ac899c898c898c897c896c896c895c895c894c893c893c892c892c891c890c890c88fc88fc88ec88dc88dc88cc88cc88bc88ac88ac889c889c888c887c887c886c885c885c884c884c883c882c882c881c881c880c87fc87fc87ec87ec87dc87cc87cc87bc87bc87ac879c879c878c878c877c876c876c875c875c874c873c873c872c871c871c870c870c86fc86ec86ec86dc86dc86cc86bc86bc86ac86ac869c868c868c867c867c866c865c865c864c864c863c862c862c861c860c860c85fc85fc85ec85dc85dc85cc85cc85bc85ac85ac859c859c858c857c857c856c856c855c854c854c853c853c852c851c851c850c84fc84fc84ec84ec84dc84cc84cc84bc84bc84ac849c849c848c848c847c846c846c845c845c844c843c843,
  0xc978c977c977c976c976c975c974c974c973c973c972c971c971c970c970c96fc96ec96ec96dc96dc96cc96bc96bc96ac969c969c968c968c967c966c966c965c965c964c963c963c962c962c961c960c960c95fc95fc95ec95dc95dc95cc95cc95bc95ac95ac959c959c958c957c957c956c956c955c954c954c953c953c952c951c951c950c950c94fc94ec94ec94dc94dc94cc94bc94bc94ac94ac949c948c948c947c947c946c945c945c944c943c943c942c942c941c940c940c93fc93fc93ec93dc93dc93cc93cc93bc93ac93ac939c939c938c937c937c936c936c935c934c934c933c933c932c931c931c930c930c92fc92ec92ec92dc92dc92cc92bc92bc92ac92ac929c928c928c927c926c926c925c925c924c923c923c922c922c921c920c920c91fc91fc91ec91dc91dc91cc91cc91bc91ac91ac919c919c918c917c917c916c916c915c914c914c913c913c912c911c911c910c910c90fc90ec90ec90dc90dc90cc90bc90bc90ac909c909c908c908c907c906c906c905c905c904c903c903c902c902c901c900c900c8ffc8ffc8fec8fdc8fdc8fcc8fcc8fbc8fac8fac8f9c8f9c8f8c8f7c8f7c8f6c8f6c8f5c8f4c8f4c8f3c8f3c8f2c8f1c8f1c8f0c8efc8efc8eec8eec8edc8ecc8ecc8ebc8ebc8eac8e9c8e9c8e8c8e8c8e7c8e6c8e6c8e5c8e5c8e4c8e3c8e3c8e2c8e2c8e1c8e0c8e0c8dfc8dfc8de,
  0xca12ca11ca11ca10ca10ca0fca0eca0eca0dca0dca0cca0bca0bca0aca0aca09ca08ca08ca07ca07ca06ca05ca05ca04ca04ca03ca02ca02ca01ca01ca00c9ffc9ffc9fec9fec9fdc9fcc9fcc9fbc9fbc9fac9f9c9f9c9f8c9f8c9f7c9f6c9f6c9f5c9f5c9f4c9f3c9f3c9f2c9f2c9f1c9f0c9f0c9efc9efc9eec9edc9edc9ecc9ecc9ebc9eac9eac9e9c9e9c9e8c9e7c9e7c9e6c9e6c9e5c9e4c9e4c9e3c9e3c9e2c9e1c9e1c9e0c9e0c9dfc9dec9dec9ddc9dcc9dcc9dbc9dbc9dac9d9c9d9c9d8c9d8c9d7c9d6c9d6c9d5c9d5c9d4c9d3c9d3c9d2c9d2c9d1c9d0c9d0c9cfc9cfc9cec9cdc9cdc9ccc9ccc9cbc9cac9cac9c9c9c9c9c8c9c7c9c7c9c6c9c6c9c5c9c4c9c4c9c3c9c3c9c2c9c1c9c1c9c0c9c0c9bfc9bec9bec9bdc9bdc9bcc9bbc9bbc9bac9bac9b9c9b8c9b8c9b7c9b7c9b6c9b5c9b5c9b4c9b4c9b3c9b2c9b2c9b1c9b1c9b0c9afc9afc9aec9aec9adc9acc9acc9abc9abc9aac9a9c9a9c9a8c9a8c9a7c9a6c9a6c9a5c9a5c9a4c9a3c9a3c9a2c9a2c9a1c9a0c9a0c99fc99fc99ec99dc99dc99cc99cc99bc99ac99ac999c998c998c997c997c996c995c995c994c994c993c992c992c991c991c990c98fc98fc98ec98ec98dc98cc98cc98bc98bc98ac989c989c988c988c987c986c986c985c985c984c983c983c982c982c981c980c980c97fc97fc97ec97dc97dc97cc97cc97bc97ac97ac979c979,
  0xcaabcaabcaaacaaacaa9caa8caa8caa7caa7caa6caa5caa5caa4caa4caa3caa2caa2caa1caa1caa0ca9fca9fca9eca9eca9dca9cca9cca9bca9bca9aca99ca99ca98ca98ca97ca96ca96ca95ca95ca94ca93ca93ca92ca92ca91ca90ca90ca8fca8fca8eca8dca8dca8cca8cca8bca8aca8aca89ca89ca88ca87ca87ca86ca86ca85ca84ca84ca83ca83ca82ca81ca81ca80ca80ca7fca7fca7eca7dca7dca7cca7cca7bca7aca7aca79ca79ca78ca77ca77ca76ca76ca75ca74ca74ca73ca73ca72ca71ca71ca70ca70ca6fca6eca6eca6dca6dca6cca6bca6bca6aca6aca69ca68ca68ca67ca67ca66ca65ca65ca64ca64ca63ca62ca62ca61ca61ca60ca5fca5fca5eca5eca5dca5cca5cca5bca5bca5aca59ca59ca58ca58ca57ca56ca56ca55ca55ca54ca53ca53ca52ca52ca51ca50ca50ca4fca4fca4eca4dca4dca4cca4cca4bca4aca4aca49ca49ca48ca47ca47ca46ca46ca45ca44ca44ca43ca43ca42ca41ca41ca40ca40ca3fca3eca3eca3dca3dca3cca3bca3bca3aca3aca39ca38ca38ca37ca37ca36ca35ca35ca34ca34ca33ca32ca32ca31ca31ca30ca2fca2fca2eca2eca2dca2cca2cca2bca2bca2aca29ca29ca28ca28ca27ca26ca26ca25ca25ca24ca23ca23ca22ca22ca21ca20ca20ca1fca1fca1eca1dca1dca1cca1cca1bca1aca1aca19ca19ca18ca17ca17ca16ca16ca15ca14ca14ca13ca13,
  0xcb44cb44cb43cb42cb42cb41cb41cb40cb3fcb3fcb3ecb3ecb3dcb3ccb3ccb3bcb3bcb3acb39cb39cb38cb38cb37cb37cb36cb35cb35cb34cb34cb33cb32cb32cb31cb31cb30cb2fcb2fcb2ecb2ecb2dcb2ccb2ccb2bcb2bcb2acb29cb29cb28cb28cb27cb26cb26cb25cb25cb24cb23cb23cb22cb22cb21cb20cb20cb1fcb1fcb1ecb1dcb1dcb1ccb1ccb1bcb1acb1acb19cb19cb18cb17cb17cb16cb16cb15cb15cb14cb13cb13cb12cb12cb11cb10cb10cb0fcb0fcb0ecb0dcb0dcb0ccb0ccb0bcb0acb0acb09cb09cb08cb07cb07cb06cb06cb05cb04cb04cb03cb03cb02cb01cb01cb00cb00caffcafecafecafdcafdcafccafbcafbcafacafacaf9caf8caf8caf7caf7caf6caf5caf5caf4caf4caf3caf2caf2caf1caf1caf0caf0caefcaeecaeecaedcaedcaeccaebcaebcaeacaeacae9cae8cae8cae7cae7cae6cae5cae5cae4cae4cae3cae2cae2cae1cae1cae0cadfcadfcadecadecaddcadccadccadbcadbcadacad9cad9cad8cad8cad7cad6cad6cad5cad5cad4cad3cad3cad2cad2cad1cad0cad0cacfcacfcacecacdcacdcacccacccacbcacacacacac9cac9cac8cac7cac7cac6cac6cac5cac4cac4cac3cac3cac2cac2cac1cac0cac0cabfcabfcabecabdcabdcabccabccabbcabacabacab9cab9cab8cab7cab7cab6cab6cab5cab4cab4cab3cab3cab2cab1cab1cab0cab0caafcaaecaaecaadcaadcaac,
  0xcbdccbdccbdbcbdbcbdacbd9cbd9cbd8cbd8cbd7cbd7cbd6cbd5cbd5cbd4cbd4cbd3cbd2cbd2cbd1cbd1cbd0cbcfcbcfcbcecbcecbcdcbcccbcccbcbcbcbcbcacbc9cbc9cbc8cbc8cbc7cbc6cbc6cbc5cbc5cbc4cbc4cbc3cbc2cbc2cbc1cbc1cbc0cbbfcbbfcbbecbbecbbdcbbccbbccbbbcbbbcbbacbb9cbb9cbb8cbb8cbb7cbb6cbb6cbb5cbb5cbb4cbb3cbb3cbb2cbb2cbb1cbb0cbb0cbafcbafcbaecbaecbadcbaccbaccbabcbabcbaacba9cba9cba8cba8cba7cba6cba6cba5cba5cba4cba3cba3cba2cba2cba1cba0cba0cb9fcb9fcb9ecb9dcb9dcb9ccb9ccb9bcb9bcb9acb99cb99cb98cb98cb97cb96cb96cb95cb95cb94cb93cb93cb92cb92cb91cb90cb90cb8fcb8fcb8ecb8dcb8dcb8ccb8ccb8bcb8acb8acb89cb89cb88cb87cb87cb86cb86cb85cb84cb84cb83cb83cb82cb82cb81cb80cb80cb7fcb7fcb7ecb7dcb7dcb7ccb7ccb7bcb7acb7acb79cb79cb78cb77cb77cb76cb76cb75cb74cb74cb73cb73cb72cb71cb71cb70cb70cb6fcb6ecb6ecb6dcb6dcb6ccb6ccb6bcb6acb6acb69cb69cb68cb67cb67cb66cb66cb65cb64cb64cb63cb63cb62cb61cb61cb60cb60cb5fcb5ecb5ecb5dcb5dcb5ccb5bcb5bcb5acb5acb59cb58cb58cb57cb57cb56cb55cb55cb54cb54cb53cb53cb52cb51cb51cb50cb50cb4fcb4ecb4ecb4dcb4dcb4ccb4bcb4bcb4acb4acb49cb48cb48cb47cb47cb46cb45cb45,
  0xcc74cc74cc73cc72cc72cc71cc71cc70cc6fcc6fcc6ecc6ecc6dcc6ccc6ccc6bcc6bcc6acc69cc69cc68cc68cc67cc66cc66cc65cc65cc64cc64cc63cc62cc62cc61cc61cc60cc5fcc5fcc5ecc5ecc5dcc5ccc5ccc5bcc5bcc5acc59cc59cc58cc58cc57cc57cc56cc55cc55cc54cc54cc53cc52cc52cc51cc51cc50cc4fcc4fcc4ecc4ecc4dcc4ccc4ccc4bcc4bcc4acc4acc49cc48cc48cc47cc47cc46cc45cc45cc44cc44cc43cc42cc42cc41cc41cc40cc3fcc3fcc3ecc3ecc3dcc3ccc3ccc3bcc3bcc3acc3acc39cc38cc38cc37cc37cc36cc35cc35cc34cc34cc33cc32cc32cc31cc31cc30cc2fcc2fcc2ecc2ecc2dcc2ccc2ccc2bcc2bcc2acc2acc29cc28cc28cc27cc27cc26cc25cc25cc24cc24cc23cc22cc22cc21cc21cc20cc1fcc1fcc1ecc1ecc1dcc1ccc1ccc1bcc1bcc1acc1acc19cc18cc18cc17cc17cc16cc15cc15cc14cc14cc13cc12cc12cc11cc11cc10cc0fcc0fcc0ecc0ecc0dcc0ccc0ccc0bcc0bcc0acc0acc09cc08cc08cc07cc07cc06cc05cc05cc04cc04cc03cc02cc02cc01cc01cc00cbffcbffcbfecbfecbfdcbfccbfccbfbcbfbcbfacbfacbf9cbf8cbf8cbf7cbf7cbf6cbf5cbf5cbf4cbf4cbf3cbf2cbf2cbf1cbf1cbf0cbefcbefcbeecbeecbedcbeccbeccbebcbebcbeacbe9cbe9cbe8cbe8cbe7cbe7cbe6cbe5cbe5cbe4cbe4cbe3cbe2cbe2cbe1cbe1cbe0cbdfcbdfcbdecbdecbdd,
  0xcd0bcd0bcd0acd09cd09cd08cd08cd07cd06cd06cd05cd05cd04cd04cd03cd02cd02cd01cd01cd00ccffccffccfeccfeccfdccfcccfcccfbccfbccfaccfaccf9ccf8ccf8ccf7ccf7ccf6ccf5ccf5ccf4ccf4ccf3ccf2ccf2ccf1ccf1ccf0ccefccefcceecceeccedccedccecccebccebcceacceacce9cce8cce8cce7cce7cce6cce5cce5cce4cce4cce3cce3cce2cce1cce1cce0cce0ccdfccdeccdeccddccddccdcccdbccdbccdaccdaccd9ccd8ccd8ccd7ccd7ccd6ccd6ccd5ccd4ccd4ccd3ccd3ccd2ccd1ccd1ccd0ccd0cccfcccecccecccdcccdcccccccccccbcccacccaccc9ccc9ccc8ccc7ccc7ccc6ccc6ccc5ccc4ccc4ccc3ccc3ccc2ccc1ccc1ccc0ccc0ccbfccbfccbeccbdccbdccbcccbcccbbccbaccbaccb9ccb9ccb8ccb7ccb7ccb6ccb6ccb5ccb4ccb4ccb3ccb3ccb2ccb2ccb1ccb0ccb0ccafccafccaeccadccadccacccacccabccaaccaacca9cca9cca8cca8cca7cca6cca6cca5cca5cca4cca3cca3cca2cca2cca1cca0cca0cc9fcc9fcc9ecc9dcc9dcc9ccc9ccc9bcc9bcc9acc99cc99cc98cc98cc97cc96cc96cc95cc95cc94cc93cc93cc92cc92cc91cc90cc90cc8fcc8fcc8ecc8ecc8dcc8ccc8ccc8bcc8bcc8acc89cc89cc88cc88cc87cc86cc86cc85cc85cc84cc83cc83cc82cc82cc81cc81cc80cc7fcc7fcc7ecc7ecc7dcc7ccc7ccc7bcc7bcc7acc79cc79cc78cc78cc77cc76cc76cc75cc75,
  0xcda2cda1cda1cda0cd9fcd9fcd9ecd9ecd9dcd9ccd9ccd9bcd9bcd9acd99cd99cd98cd98cd97cd97cd96cd95cd95cd94cd94cd93cd92cd92cd91cd91cd90cd8fcd8fcd8ecd8ecd8dcd8dcd8ccd8bcd8bcd8acd8acd89cd88cd88cd87cd87cd86cd86cd85cd84cd84cd83cd83cd82cd81cd81cd80cd80cd7fcd7ecd7ecd7dcd7dcd7ccd7ccd7bcd7acd7acd79cd79cd78cd77cd77cd76cd76cd75cd74cd74cd73cd73cd72cd72cd71cd70cd70cd6fcd6fcd6ecd6dcd6dcd6ccd6ccd6bcd6acd6acd69cd69cd68cd68cd67cd66cd66cd65cd65cd64cd63cd63cd62cd62cd61cd61cd60cd5fcd5fcd5ecd5ecd5dcd5ccd5ccd5bcd5bcd5acd59cd59cd58cd58cd57cd57cd56cd55cd55cd54cd54cd53cd52cd52cd51cd51cd50cd4fcd4fcd4ecd4ecd4dcd4dcd4ccd4bcd4bcd4acd4acd49cd48cd48cd47cd47cd46cd45cd45cd44cd44cd43cd43cd42cd41cd41cd40cd40cd3fcd3ecd3ecd3dcd3dcd3ccd3bcd3bcd3acd3acd39cd39cd38cd37cd37cd36cd36cd35cd34cd34cd33cd33cd32cd31cd31cd30cd30cd2fcd2fcd2ecd2dcd2dcd2ccd2ccd2bcd2acd2acd29cd29cd28cd27cd27cd26cd26cd25cd25cd24cd23cd23cd22cd22cd21cd20cd20cd1fcd1fcd1ecd1dcd1dcd1ccd1ccd1bcd1acd1acd19cd19cd18cd18cd17cd16cd16cd15cd15cd14cd13cd13cd12cd12cd11cd10cd10cd0fcd0fcd0ecd0ecd0dcd0ccd0c,
  0xce38ce37ce36ce36ce35ce35ce34ce34ce33ce32ce32ce31ce31ce30ce2fce2fce2ece2ece2dce2dce2cce2bce2bce2ace2ace29ce28ce28ce27ce27ce26ce26ce25ce24ce24ce23ce23ce22ce21ce21ce20ce20ce1fce1fce1ece1dce1dce1cce1cce1bce1ace1ace19ce19ce18ce17ce17ce16ce16ce15ce15ce14ce13ce13ce12ce12ce11ce10ce10ce0fce0fce0ece0ece0dce0cce0cce0bce0bce0ace09ce09ce08ce08ce07ce07ce06ce05ce05ce04ce04ce03ce02ce02ce01ce01ce00cdffcdffcdfecdfecdfdcdfdcdfccdfbcdfbcdfacdfacdf9cdf8cdf8cdf7cdf7cdf6cdf6cdf5cdf4cdf4cdf3cdf3cdf2cdf1cdf1cdf0cdf0cdefcdefcdeecdedcdedcdeccdeccdebcdeacdeacde9cde9cde8cde7cde7cde6cde6cde5cde5cde4cde3cde3cde2cde2cde1cde0cde0cddfcddfcddecddecdddcddccddccddbcddbcddacdd9cdd9cdd8cdd8cdd7cdd6cdd6cdd5cdd5cdd4cdd4cdd3cdd2cdd2cdd1cdd1cdd0cdcfcdcfcdcecdcecdcdcdcdcdcccdcbcdcbcdcacdcacdc9cdc8cdc8cdc7cdc7cdc6cdc5cdc5cdc4cdc4cdc3cdc3cdc2cdc1cdc1cdc0cdc0cdbfcdbecdbecdbdcdbdcdbccdbccdbbcdbacdbacdb9cdb9cdb8cdb7cdb7cdb6cdb6cdb5cdb4cdb4cdb3cdb3cdb2cdb2cdb1cdb0cdb0cdafcdafcdaecdadcdadcdaccdaccdabcdaacdaacda9cda9cda8cda8cda7cda6cda6cda5cda5cda4cda3cda3cda2,
  0xcecdcecccecccecbcecbcecacecacec9cec8cec8cec7cec7cec6cec5cec5cec4cec4cec3cec3cec2cec1cec1cec0cec0cebfcebecebecebdcebdcebccebccebbcebacebaceb9ceb9ceb8ceb7ceb7ceb6ceb6ceb5ceb5ceb4ceb3ceb3ceb2ceb2ceb1ceb0ceb0ceafceafceaeceaeceadceacceacceabceabceaaceaacea9cea8cea8cea7cea7cea6cea5cea5cea4cea4cea3cea3cea2cea1cea1cea0cea0ce9fce9ece9ece9dce9dce9cce9cce9bce9ace9ace99ce99ce98ce97ce97ce96ce96ce95ce95ce94ce93ce93ce92ce92ce91ce90ce90ce8fce8fce8ece8ece8dce8cce8cce8bce8bce8ace89ce89ce88ce88ce87ce87ce86ce85ce85ce84ce84ce83ce82ce82ce81ce81ce80ce7fce7fce7ece7ece7dce7dce7cce7bce7bce7ace7ace79ce78ce78ce77ce77ce76ce76ce75ce74ce74ce73ce73ce72ce71ce71ce70ce70ce6fce6fce6ece6dce6dce6cce6cce6bce6ace6ace69ce69ce68ce68ce67ce66ce66ce65ce65ce64ce63ce63ce62ce62ce61ce61ce60ce5fce5fce5ece5ece5dce5cce5cce5bce5bce5ace5ace59ce58ce58ce57ce57ce56ce55ce55ce54ce54ce53ce53ce52ce51ce51ce50ce50ce4fce4ece4ece4dce4dce4cce4cce4bce4ace4ace49ce49ce48ce47ce47ce46ce46ce45ce45ce44ce43ce43ce42ce42ce41ce40ce40ce3fce3fce3ece3dce3dce3cce3cce3bce3bce3ace39ce39ce38,
  0xcf62cf61cf61cf60cf60cf5fcf5ecf5ecf5dcf5dcf5ccf5ccf5bcf5acf5acf59cf59cf58cf57cf57cf56cf56cf55cf55cf54cf53cf53cf52cf52cf51cf50cf50cf4fcf4fcf4ecf4ecf4dcf4ccf4ccf4bcf4bcf4acf4acf49cf48cf48cf47cf47cf46cf45cf45cf44cf44cf43cf43cf42cf41cf41cf40cf40cf3fcf3ecf3ecf3dcf3dcf3ccf3ccf3bcf3acf3acf39cf39cf38cf38cf37cf36cf36cf35cf35cf34cf33cf33cf32cf32cf31cf31cf30cf2fcf2fcf2ecf2ecf2dcf2ccf2ccf2bcf2bcf2acf2acf29cf28cf28cf27cf27cf26cf25cf25cf24cf24cf23cf23cf22cf21cf21cf20cf20cf1fcf1fcf1ecf1dcf1dcf1ccf1ccf1bcf1acf1acf19cf19cf18cf18cf17cf16cf16cf15cf15cf14cf13cf13cf12cf12cf11cf11cf10cf0fcf0fcf0ecf0ecf0dcf0ccf0ccf0bcf0bcf0acf0acf09cf08cf08cf07cf07cf06cf06cf05cf04cf04cf03cf03cf02cf01cf01cf00cf00ceffceffcefecefdcefdcefccefccefbcefacefacef9cef9cef8cef8cef7cef6cef6cef5cef5cef4cef3cef3cef2cef2cef1cef1cef0ceefceefceeeceeeceedceecceecceebceebceeaceeacee9cee8cee8cee7cee7cee6cee6cee5cee4cee4cee3cee3cee2cee1cee1cee0cee0cedfcedfcedeceddceddcedccedccedbcedacedaced9ced9ced8ced8ced7ced6ced6ced5ced5ced4ced3ced3ced2ced2ced1ced1ced0cecfcecfcececece,
  0xcff6cff6cff5cff4cff4cff3cff3cff2cff2cff1cff0cff0cfefcfefcfeecfeecfedcfeccfeccfebcfebcfeacfe9cfe9cfe8cfe8cfe7cfe7cfe6cfe5cfe5cfe4cfe4cfe3cfe3cfe2cfe1cfe1cfe0cfe0cfdfcfdecfdecfddcfddcfdccfdccfdbcfdacfdacfd9cfd9cfd8cfd8cfd7cfd6cfd6cfd5cfd5cfd4cfd3cfd3cfd2cfd2cfd1cfd1cfd0cfcfcfcfcfcecfcecfcdcfcdcfcccfcbcfcbcfcacfcacfc9cfc8cfc8cfc7cfc7cfc6cfc6cfc5cfc4cfc4cfc3cfc3cfc2cfc2cfc1cfc0cfc0cfbfcfbfcfbecfbdcfbdcfbccfbccfbbcfbbcfbacfb9cfb9cfb8cfb8cfb7cfb7cfb6cfb5cfb5cfb4cfb4cfb3cfb2cfb2cfb1cfb1cfb0cfb0cfafcfaecfaecfadcfadcfaccfaccfabcfaacfaacfa9cfa9cfa8cfa7cfa7cfa6cfa6cfa5cfa5cfa4cfa3cfa3cfa2cfa2cfa1cfa1cfa0cf9fcf9fcf9ecf9ecf9dcf9ccf9ccf9bcf9bcf9acf9acf99cf98cf98cf97cf97cf96cf96cf95cf94cf94cf93cf93cf92cf91cf91cf90cf90cf8fcf8fcf8ecf8dcf8dcf8ccf8ccf8bcf8bcf8acf89cf89cf88cf88cf87cf86cf86cf85cf85cf84cf84cf83cf82cf82cf81cf81cf80cf7fcf7fcf7ecf7ecf7dcf7dcf7ccf7bcf7bcf7acf7acf79cf79cf78cf77cf77cf76cf76cf75cf74cf74cf73cf73cf72cf72cf71cf70cf70cf6fcf6fcf6ecf6ecf6dcf6ccf6ccf6bcf6bcf6acf69cf69cf68cf68cf67cf67cf66cf65cf65cf64cf64cf63cf62,
  0xd08ad089d089d088d088d087d087d086d085d085d084d084d083d082d082d081d081d080d080d07fd07ed07ed07dd07dd07cd07cd07bd07ad07ad079d079d078d078d077d076d076d075d075d074d073d073d072d072d071d071d070d06fd06fd06ed06ed06dd06dd06cd06bd06bd06ad06ad069d069d068d067d067d066d066d065d064d064d063d063d062d062d061d060d060d05fd05fd05ed05ed05dd05cd05cd05bd05bd05ad05ad059d058d058d057d057d056d055d055d054d054d053d053d052d051d051d050d050d04fd04fd04ed04dd04dd04cd04cd04bd04bd04ad049d049d048d048d047d046d046d045d045d044d044d043d042d042d041d041d040d040d03fd03ed03ed03dd03dd03cd03cd03bd03ad03ad039d039d038d037d037d036d036d035d035d034d033d033d032d032d031d031d030d02fd02fd02ed02ed02dd02dd02cd02bd02bd02ad02ad029d028d028d027d027d026d026d025d024d024d023d023d022d022d021d020d020d01fd01fd01ed01dd01dd01cd01cd01bd01bd01ad019d019d018d018d017d017d016d015d015d014d014d013d013d012d011d011d010d010d00fd00ed00ed00dd00dd00cd00cd00bd00ad00ad009d009d008d008d007d006d006d005d005d004d003d003d002d002d001d001d000cfffcfffcffecffecffdcffdcffccffbcffbcffacffacff9cff9cff8cff7cff7,
  0xd11dd11dd11cd11bd11bd11ad11ad119d119d118d117d117d116d116d115d115d114d113d113d112d112d111d111d110d10fd10fd10ed10ed10dd10dd10cd10bd10bd10ad10ad109d109d108d107d107d106d106d105d104d104d103d103d102d102d101d100d100d0ffd0ffd0fed0fed0fdd0fcd0fcd0fbd0fbd0fad0fad0f9d0f8d0f8d0f7d0f7d0f6d0f6d0f5d0f4d0f4d0f3d0f3d0f2d0f2d0f1d0f0d0f0d0efd0efd0eed0eed0edd0ecd0ecd0ebd0ebd0ead0e9d0e9d0e8d0e8d0e7d0e7d0e6d0e5d0e5d0e4d0e4d0e3d0e3d0e2d0e1d0e1d0e0d0e0d0dfd0dfd0ded0ddd0ddd0dcd0dcd0dbd0dbd0dad0d9d0d9d0d8d0d8d0d7d0d7d0d6d0d5d0d5d0d4d0d4d0d3d0d2d0d2d0d1d0d1d0d0d0d0d0cfd0ced0ced0cdd0cdd0ccd0ccd0cbd0cad0cad0c9d0c9d0c8d0c8d0c7d0c6d0c6d0c5d0c5d0c4d0c4d0c3d0c2d0c2d0c1d0c1d0c0d0c0d0bfd0bed0bed0bdd0bdd0bcd0bbd0bbd0bad0bad0b9d0b9d0b8d0b7d0b7d0b6d0b6d0b5d0b5d0b4d0b3d0b3d0b2d0b2d0b1d0b1d0b0d0afd0afd0aed0aed0add0add0acd0abd0abd0aad0aad0a9d0a8d0a8d0a7d0a7d0a6d0a6d0a5d0a4d0a4d0a3d0a3d0a2d0a2d0a1d0a0d0a0d09fd09fd09ed09ed09dd09cd09cd09bd09bd09ad09ad099d098d098d097d097d096d095d095d094d094d093d093d092d091d091d090d090d08fd08fd08ed08dd08dd08cd08cd08bd08b,
  0xd1b0d1afd1afd1aed1aed1add1acd1acd1abd1abd1aad1aad1a9d1a8d1a8d1a7d1a7d1a6d1a6d1a5d1a4d1a4d1a3d1a3d1a2d1a2d1a1d1a0d1a0d19fd19fd19ed19ed19dd19cd19cd19bd19bd19ad19ad199d198d198d197d197d196d196d195d194d194d193d193d192d192d191d190d190d18fd18fd18ed18ed18dd18cd18cd18bd18bd18ad18ad189d188d188d187d187d186d186d185d184d184d183d183d182d182d181d180d180d17fd17fd17ed17ed17dd17cd17cd17bd17bd17ad17ad179d178d178d177d177d176d175d175d174d174d173d173d172d171d171d170d170d16fd16fd16ed16dd16dd16cd16cd16bd16bd16ad169d169d168d168d167d167d166d165d165d164d164d163d163d162d161d161d160d160d15fd15fd15ed15dd15dd15cd15cd15bd15bd15ad159d159d158d158d157d157d156d155d155d154d154d153d153d152d151d151d150d150d14fd14fd14ed14dd14dd14cd14cd14bd14bd14ad149d149d148d148d147d146d146d145d145d144d144d143d142d142d141d141d140d140d13fd13ed13ed13dd13dd13cd13cd13bd13ad13ad139d139d138d138d137d136d136d135d135d134d134d133d132d132d131d131d130d130d12fd12ed12ed12dd12dd12cd12cd12bd12ad12ad129d129d128d128d127d126d126d125d125d124d124d123d122d122d121d121d120d11fd11fd11ed11e,
  0xd242d241d241d240d240d23fd23fd23ed23ed23dd23cd23cd23bd23bd23ad23ad239d238d238d237d237d236d236d235d234d234d233d233d232d232d231d230d230d22fd22fd22ed22ed22dd22cd22cd22bd22bd22ad22ad229d228d228d227d227d226d226d225d224d224d223d223d222d222d221d220d220d21fd21fd21ed21ed21dd21cd21cd21bd21bd21ad21ad219d218d218d217d217d216d216d215d214d214d213d213d212d212d211d210d210d20fd20fd20ed20ed20dd20cd20cd20bd20bd20ad20ad209d208d208d207d207d206d206d205d204d204d203d203d202d202d201d200d200d1ffd1ffd1fed1fed1fdd1fcd1fcd1fbd1fbd1fad1fad1f9d1f8d1f8d1f7d1f7d1f6d1f6d1f5d1f4d1f4d1f3d1f3d1f2d1f2d1f1d1f0d1f0d1efd1efd1eed1eed1edd1ecd1ecd1ebd1ebd1ead1ead1e9d1e8d1e8d1e7d1e7d1e6d1e6d1e5d1e4d1e4d1e3d1e3d1e2d1e2d1e1d1e0d1e0d1dfd1dfd1ded1ded1ddd1dcd1dcd1dbd1dbd1dad1dad1d9d1d8d1d8d1d7d1d7d1d6d1d6d1d5d1d4d1d4d1d3d1d3d1d2d1d2d1d1d1d0d1d0d1cfd1cfd1ced1ced1cdd1ccd1ccd1cbd1cbd1cad1cad1c9d1c8d1c8d1c7d1c7d1c6d1c6d1c5d1c4d1c4d1c3d1c3d1c2d1c2d1c1d1c0d1c0d1bfd1bfd1bed1bed1bdd1bcd1bcd1bbd1bbd1bad1bad1b9d1b8d1b8d1b7d1b7d1b6d1b6d1b5d1b4d1b4d1b3d1b3d1b2d1b2d1b1d1b0,
  0xd2d4d2d3d2d3d2d2d2d1d2d1d2d0d2d0d2cfd2cfd2ced2cdd2cdd2ccd2ccd2cbd2cbd2cad2c9d2c9d2c8d2c8d2c7d2c7d2c6d2c6d2c5d2c4d2c4d2c3d2c3d2c2d2c2d2c1d2c0d2c0d2bfd2bfd2bed2bed2bdd2bcd2bcd2bbd2bbd2bad2bad2b9d2b8d2b8d2b7d2b7d2b6d2b6d2b5d2b4d2b4d2b3d2b3d2b2d2b2d2b1d2b0d2b0d2afd2afd2aed2aed2add2add2acd2abd2abd2aad2aad2a9d2a9d2a8d2a7d2a7d2a6d2a6d2a5d2a5d2a4d2a3d2a3d2a2d2a2d2a1d2a1d2a0d29fd29fd29ed29ed29dd29dd29cd29bd29bd29ad29ad299d299d298d297d297d296d296d295d295d294d293d293d292d292d291d291d290d290d28fd28ed28ed28dd28dd28cd28cd28bd28ad28ad289d289d288d288d287d286d286d285d285d284d284d283d282d282d281d281d280d280d27fd27ed27ed27dd27dd27cd27cd27bd27ad27ad279d279d278d278d277d276d276d275d275d274d274d273d272d272d271d271d270d270d26fd26ed26ed26dd26dd26cd26cd26bd26bd26ad269d269d268d268d267d267d266d265d265d264d264d263d263d262d261d261d260d260d25fd25fd25ed25dd25dd25cd25cd25bd25bd25ad259d259d258d258d257d257d256d255d255d254d254d253d253d252d251d251d250d250d24fd24fd24ed24dd24dd24cd24cd24bd24bd24ad249d249d248d248d247d247d246d245d245d244d244d243d243,
  0xd365d364d364d363d363d362d361d361d360d360d35fd35fd35ed35dd35dd35cd35cd35bd35bd35ad35ad359d358d358d357d357d356d356d355d354d354d353d353d352d352d351d350d350d34fd34fd34ed34ed34dd34dd34cd34bd34bd34ad34ad349d349d348d347d347d346d346d345d345d344d343d343d342d342d341d341d340d33fd33fd33ed33ed33dd33dd33cd33cd33bd33ad33ad339d339d338d338d337d336d336d335d335d334d334d333d332d332d331d331d330d330d32fd32ed32ed32dd32dd32cd32cd32bd32bd32ad329d329d328d328d327d327d326d325d325d324d324d323d323d322d321d321d320d320d31fd31fd31ed31dd31dd31cd31cd31bd31bd31ad31ad319d318d318d317d317d316d316d315d314d314d313d313d312d312d311d310d310d30fd30fd30ed30ed30dd30cd30cd30bd30bd30ad30ad309d309d308d307d307d306d306d305d305d304d303d303d302d302d301d301d300d2ffd2ffd2fed2fed2fdd2fdd2fcd2fbd2fbd2fad2fad2f9d2f9d2f8d2f7d2f7d2f6d2f6d2f5d2f5d2f4d2f4d2f3d2f2d2f2d2f1d2f1d2f0d2f0d2efd2eed2eed2edd2edd2ecd2ecd2ebd2ead2ead2e9d2e9d2e8d2e8d2e7d2e6d2e6d2e5d2e5d2e4d2e4d2e3d2e2d2e2d2e1d2e1d2e0d2e0d2dfd2dfd2ded2ddd2ddd2dcd2dcd2dbd2dbd2dad2d9d2d9d2d8d2d8d2d7d2d7d2d6d2d5d2d5d2d4,
  0xd3f5d3f5d3f4d3f4d3f3d3f3d3f2d3f2d3f1d3f0d3f0d3efd3efd3eed3eed3edd3ecd3ecd3ebd3ebd3ead3ead3e9d3e9d3e8d3e7d3e7d3e6d3e6d3e5d3e5d3e4d3e3d3e3d3e2d3e2d3e1d3e1d3e0d3dfd3dfd3ded3ded3ddd3ddd3dcd3dcd3dbd3dad3dad3d9d3d9d3d8d3d8d3d7d3d6d3d6d3d5d3d5d3d4d3d4d3d3d3d3d3d2d3d1d3d1d3d0d3d0d3cfd3cfd3ced3cdd3cdd3ccd3ccd3cbd3cbd3cad3c9d3c9d3c8d3c8d3c7d3c7d3c6d3c6d3c5d3c4d3c4d3c3d3c3d3c2d3c2d3c1d3c0d3c0d3bfd3bfd3bed3bed3bdd3bcd3bcd3bbd3bbd3bad3bad3b9d3b9d3b8d3b7d3b7d3b6d3b6d3b5d3b5d3b4d3b3d3b3d3b2d3b2d3b1d3b1d3b0d3afd3afd3aed3aed3add3add3acd3acd3abd3aad3aad3a9d3a9d3a8d3a8d3a7d3a6d3a6d3a5d3a5d3a4d3a4d3a3d3a2d3a2d3a1d3a1d3a0d3a0d39fd39fd39ed39dd39dd39cd39cd39bd39bd39ad399d399d398d398d397d397d396d396d395d394d394d393d393d392d392d391d390d390d38fd38fd38ed38ed38dd38cd38cd38bd38bd38ad38ad389d388d388d387d387d386d386d385d385d384d383d383d382d382d381d381d380d37fd37fd37ed37ed37dd37dd37cd37bd37bd37ad37ad379d379d378d378d377d376d376d375d375d374d374d373d372d372d371d371d370d370d36fd36ed36ed36dd36dd36cd36cd36bd36bd36ad369d369d368d368d367d367d366d365,
  0xd486d485d484d484d483d483d482d482d481d481d480d47fd47fd47ed47ed47dd47dd47cd47cd47bd47ad47ad479d479d478d478d477d476d476d475d475d474d474d473d473d472d471d471d470d470d46fd46fd46ed46dd46dd46cd46cd46bd46bd46ad46ad469d468d468d467d467d466d466d465d464d464d463d463d462d462d461d461d460d45fd45fd45ed45ed45dd45dd45cd45bd45bd45ad45ad459d459d458d458d457d456d456d455d455d454d454d453d452d452d451d451d450d450d44fd44fd44ed44dd44dd44cd44cd44bd44bd44ad449d449d448d448d447d447d446d446d445d444d444d443d443d442d442d441d440d440d43fd43fd43ed43ed43dd43cd43cd43bd43bd43ad43ad439d439d438d437d437d436d436d435d435d434d433d433d432d432d431d431d430d430d42fd42ed42ed42dd42dd42cd42cd42bd42ad42ad429d429d428d428d427d427d426d425d425d424d424d423d423d422d421d421d420d420d41fd41fd41ed41ed41dd41cd41cd41bd41bd41ad41ad419d418d418d417d417d416d416d415d414d414d413d413d412d412d411d411d410d40fd40fd40ed40ed40dd40dd40cd40bd40bd40ad40ad409d409d408d408d407d406d406d405d405d404d404d403d402d402d401d401d400d400d3ffd3ffd3fed3fdd3fdd3fcd3fcd3fbd3fbd3fad3f9d3f9d3f8d3f8d3f7d3f7d3f6,
  0xd515d515d514d514d513d512d512d511d511d510d510d50fd50fd50ed50dd50dd50cd50cd50bd50bd50ad509d509d508d508d507d507d506d506d505d504d504d503d503d502d502d501d501d500d4ffd4ffd4fed4fed4fdd4fdd4fcd4fbd4fbd4fad4fad4f9d4f9d4f8d4f8d4f7d4f6d4f6d4f5d4f5d4f4d4f4d4f3d4f3d4f2d4f1d4f1d4f0d4f0d4efd4efd4eed4edd4edd4ecd4ecd4ebd4ebd4ead4ead4e9d4e8d4e8d4e7d4e7d4e6d4e6d4e5d4e4d4e4d4e3d4e3d4e2d4e2d4e1d4e1d4e0d4dfd4dfd4ded4ded4ddd4ddd4dcd4dcd4dbd4dad4dad4d9d4d9d4d8d4d8d4d7d4d6d4d6d4d5d4d5d4d4d4d4d4d3d4d3d4d2d4d1d4d1d4d0d4d0d4cfd4cfd4ced4cdd4cdd4ccd4ccd4cbd4cbd4cad4cad4c9d4c8d4c8d4c7d4c7d4c6d4c6d4c5d4c5d4c4d4c3d4c3d4c2d4c2d4c1d4c1d4c0d4bfd4bfd4bed4bed4bdd4bdd4bcd4bcd4bbd4bad4bad4b9d4b9d4b8d4b8d4b7d4b6d4b6d4b5d4b5d4b4d4b4d4b3d4b3d4b2d4b1d4b1d4b0d4b0d4afd4afd4aed4aed4add4acd4acd4abd4abd4aad4aad4a9d4a8d4a8d4a7d4a7d4a6d4a6d4a5d4a5d4a4d4a3d4a3d4a2d4a2d4a1d4a1d4a0d49fd49fd49ed49ed49dd49dd49cd49cd49bd49ad49ad499d499d498d498d497d496d496d495d495d494d494d493d493d492d491d491d490d490d48fd48fd48ed48dd48dd48cd48cd48bd48bd48ad48ad489d488d488d487d487d486,
  0xd5a4d5a4d5a3d5a3d5a2d5a2d5a1d5a0d5a0d59fd59fd59ed59ed59dd59dd59cd59bd59bd59ad59ad599d599d598d598d597d596d596d595d595d594d594d593d593d592d591d591d590d590d58fd58fd58ed58dd58dd58cd58cd58bd58bd58ad58ad589d588d588d587d587d586d586d585d585d584d583d583d582d582d581d581d580d580d57fd57ed57ed57dd57dd57cd57cd57bd57bd57ad579d579d578d578d577d577d576d575d575d574d574d573d573d572d572d571d570d570d56fd56fd56ed56ed56dd56dd56cd56bd56bd56ad56ad569d569d568d567d567d566d566d565d565d564d564d563d562d562d561d561d560d560d55fd55fd55ed55dd55dd55cd55cd55bd55bd55ad55ad559d558d558d557d557d556d556d555d554d554d553d553d552d552d551d551d550d54fd54fd54ed54ed54dd54dd54cd54cd54bd54ad54ad549d549d548d548d547d547d546d545d545d544d544d543d543d542d541d541d540d540d53fd53fd53ed53ed53dd53cd53cd53bd53bd53ad53ad539d539d538d537d537d536d536d535d535d534d533d533d532d532d531d531d530d530d52fd52ed52ed52dd52dd52cd52cd52bd52bd52ad529d529d528d528d527d527d526d525d525d524d524d523d523d522d522d521d520d520d51fd51fd51ed51ed51dd51dd51cd51bd51bd51ad51ad519d519d518d517d517d516d516,
  0xd633d632d632d631d631d630d630d62fd62fd62ed62dd62dd62cd62cd62bd62bd62ad62ad629d628d628d627d627d626d626d625d625d624d623d623d622d622d621d621d620d620d61fd61ed61ed61dd61dd61cd61cd61bd61bd61ad619d619d618d618d617d617d616d616d615d614d614d613d613d612d612d611d611d610d60fd60fd60ed60ed60dd60dd60cd60cd60bd60ad60ad609d609d608d608d607d607d606d605d605d604d604d603d603d602d601d601d600d600d5ffd5ffd5fed5fed5fdd5fcd5fcd5fbd5fbd5fad5fad5f9d5f9d5f8d5f7d5f7d5f6d5f6d5f5d5f5d5f4d5f4d5f3d5f2d5f2d5f1d5f1d5f0d5f0d5efd5efd5eed5edd5edd5ecd5ecd5ebd5ebd5ead5ead5e9d5e8d5e8d5e7d5e7d5e6d5e6d5e5d5e5d5e4d5e3d5e3d5e2d5e2d5e1d5e1d5e0d5e0d5dfd5ded5ded5ddd5ddd5dcd5dcd5dbd5dad5dad5d9d5d9d5d8d5d8d5d7d5d7d5d6d5d5d5d5d5d4d5d4d5d3d5d3d5d2d5d2d5d1d5d0d5d0d5cfd5cfd5ced5ced5cdd5cdd5ccd5cbd5cbd5cad5cad5c9d5c9d5c8d5c8d5c7d5c6d5c6d5c5d5c5d5c4d5c4d5c3d5c3d5c2d5c1d5c1d5c0d5c0d5bfd5bfd5bed5bdd5bdd5bcd5bcd5bbd5bbd5bad5bad5b9d5b8d5b8d5b7d5b7d5b6d5b6d5b5d5b5d5b4d5b3d5b3d5b2d5b2d5b1d5b1d5b0d5b0d5afd5aed5aed5add5add5acd5acd5abd5abd5aad5a9d5a9d5a8d5a8d5a7d5a7d5a6d5a5d5a5,
  0xd6c1d6c1d6c0d6c0d6bfd6bed6bed6bdd6bdd6bcd6bcd6bbd6bbd6bad6b9d6b9d6b8d6b8d6b7d6b7d6b6d6b6d6b5d6b4d6b4d6b3d6b3d6b2d6b2d6b1d6b1d6b0d6afd6afd6aed6aed6add6add6acd6acd6abd6aad6aad6a9d6a9d6a8d6a8d6a7d6a7d6a6d6a5d6a5d6a4d6a4d6a3d6a3d6a2d6a2d6a1d6a0d6a0d69fd69fd69ed69ed69dd69dd69cd69bd69bd69ad69ad699d699d698d698d697d696d696d695d695d694d694d693d693d692d691d691d690d690d68fd68fd68ed68ed68dd68cd68cd68bd68bd68ad68ad689d689d688d687d687d686d686d685d685d684d684d683d682d682d681d681d680d680d67fd67fd67ed67dd67dd67cd67cd67bd67bd67ad67ad679d678d678d677d677d676d676d675d675d674d673d673d672d672d671d671d670d670d66fd66ed66ed66dd66dd66cd66cd66bd66bd66ad669d669d668d668d667d667d666d666d665d665d664d663d663d662d662d661d661d660d660d65fd65ed65ed65dd65dd65cd65cd65bd65ad65ad659d659d658d658d657d657d656d655d655d654d654d653d653d652d652d651d650d650d64fd64fd64ed64ed64dd64dd64cd64bd64bd64ad64ad649d649d648d648d647d646d646d645d645d644d644d643d643d642d641d641d640d640d63fd63fd63ed63ed63dd63cd63cd63bd63bd63ad63ad639d639d638d637d637d636d636d635d635d634d634,
  0xd74fd74ed74ed74dd74dd74cd74cd74bd74ad74ad749d749d748d748d747d747d746d745d745d744d744d743d743d742d742d741d740d740d73fd73fd73ed73ed73dd73dd73cd73cd73bd73ad73ad739d739d738d738d737d737d736d735d735d734d734d733d733d732d732d731d730d730d72fd72fd72ed72ed72dd72dd72cd72bd72bd72ad72ad729d729d728d728d727d727d726d725d725d724d724d723d723d722d722d721d720d720d71fd71fd71ed71ed71dd71dd71cd71bd71bd71ad71ad719d719d718d718d717d716d716d715d715d714d714d713d713d712d711d711d710d710d70fd70fd70ed70ed70dd70dd70cd70bd70bd70ad70ad709d709d708d708d707d706d706d705d705d704d704d703d703d702d701d701d700d700d6ffd6ffd6fed6fed6fdd6fcd6fcd6fbd6fbd6fad6fad6f9d6f9d6f8d6f7d6f7d6f6d6f6d6f5d6f5d6f4d6f4d6f3d6f2d6f2d6f1d6f1d6f0d6f0d6efd6efd6eed6eed6edd6ecd6ecd6ebd6ebd6ead6ead6e9d6e9d6e8d6e7d6e7d6e6d6e6d6e5d6e5d6e4d6e4d6e3d6e2d6e2d6e1d6e1d6e0d6e0d6dfd6dfd6ded6ddd6ddd6dcd6dcd6dbd6dbd6dad6dad6d9d6d8d6d8d6d7d6d7d6d6d6d6d6d5d6d5d6d4d6d3d6d3d6d2d6d2d6d1d6d1d6d0d6d0d6cfd6ced6ced6cdd6cdd6ccd6ccd6cbd6cbd6cad6c9d6c9d6c8d6c8d6c7d6c7d6c6d6c6d6c5d6c5d6c4d6c3d6c3d6c2d6c2,
  0xd7dcd7dcd7dbd7dad7dad7d9d7d9d7d8d7d8d7d7d7d7d7d6d7d5d7d5d7d4d7d4d7d3d7d3d7d2d7d2d7d1d7d0d7d0d7cfd7cfd7ced7ced7cdd7cdd7ccd7ccd7cbd7cad7cad7c9d7c9d7c8d7c8d7c7d7c7d7c6d7c5d7c5d7c4d7c4d7c3d7c3d7c2d7c2d7c1d7c1d7c0d7bfd7bfd7bed7bed7bdd7bdd7bcd7bcd7bbd7bad7bad7b9d7b9d7b8d7b8d7b7d7b7d7b6d7b5d7b5d7b4d7b4d7b3d7b3d7b2d7b2d7b1d7b1d7b0d7afd7afd7aed7aed7add7add7acd7acd7abd7aad7aad7a9d7a9d7a8d7a8d7a7d7a7d7a6d7a6d7a5d7a4d7a4d7a3d7a3d7a2d7a2d7a1d7a1d7a0d79fd79fd79ed79ed79dd79dd79cd79cd79bd79ad79ad799d799d798d798d797d797d796d796d795d794d794d793d793d792d792d791d791d790d78fd78fd78ed78ed78dd78dd78cd78cd78bd78ad78ad789d789d788d788d787d787d786d786d785d784d784d783d783d782d782d781d781d780d77fd77fd77ed77ed77dd77dd77cd77cd77bd77ad77ad779d779d778d778d777d777d776d776d775d774d774d773d773d772d772d771d771d770d76fd76fd76ed76ed76dd76dd76cd76cd76bd76ad76ad769d769d768d768d767d767d766d766d765d764d764d763d763d762d762d761d761d760d75fd75fd75ed75ed75dd75dd75cd75cd75bd75ad75ad759d759d758d758d757d757d756d755d755d754d754d753d753d752d752d751d751d750d74f,
  0xd869d868d868d867d867d866d865d865d864d864d863d863d862d862d861d861d860d85fd85fd85ed85ed85dd85dd85cd85cd85bd85bd85ad859d859d858d858d857d857d856d856d855d854d854d853d853d852d852d851d851d850d850d84fd84ed84ed84dd84dd84cd84cd84bd84bd84ad849d849d848d848d847d847d846d846d845d845d844d843d843d842d842d841d841d840d840d83fd83fd83ed83dd83dd83cd83cd83bd83bd83ad83ad839d838d838d837d837d836d836d835d835d834d834d833d832d832d831d831d830d830d82fd82fd82ed82dd82dd82cd82cd82bd82bd82ad82ad829d829d828d827d827d826d826d825d825d824d824d823d822d822d821d821d820d820d81fd81fd81ed81ed81dd81cd81cd81bd81bd81ad81ad819d819d818d817d817d816d816d815d815d814d814d813d813d812d811d811d810d810d80fd80fd80ed80ed80dd80cd80cd80bd80bd80ad80ad809d809d808d808d807d806d806d805d805d804d804d803d803d802d801d801d800d800d7ffd7ffd7fed7fed7fdd7fdd7fcd7fbd7fbd7fad7fad7f9d7f9d7f8d7f8d7f7d7f6d7f6d7f5d7f5d7f4d7f4d7f3d7f3d7f2d7f2d7f1d7f0d7f0d7efd7efd7eed7eed7edd7edd7ecd7ebd7ebd7ead7ead7e9d7e9d7e8d7e8d7e7d7e7d7e6d7e5d7e5d7e4d7e4d7e3d7e3d7e2d7e2d7e1d7e0d7e0d7dfd7dfd7ded7ded7ddd7dd,
  0xd8f5d8f4d8f4d8f3d8f3d8f2d8f2d8f1d8f1d8f0d8f0d8efd8eed8eed8edd8edd8ecd8ecd8ebd8ebd8ead8ead8e9d8e8d8e8d8e7d8e7d8e6d8e6d8e5d8e5d8e4d8e4d8e3d8e2d8e2d8e1d8e1d8e0d8e0d8dfd8dfd8ded8ded8ddd8dcd8dcd8dbd8dbd8dad8dad8d9d8d9d8d8d8d7d8d7d8d6d8d6d8d5d8d5d8d4d8d4d8d3d8d3d8d2d8d1d8d1d8d0d8d0d8cfd8cfd8ced8ced8cdd8cdd8ccd8cbd8cbd8cad8cad8c9d8c9d8c8d8c8d8c7d8c7d8c6d8c5d8c5d8c4d8c4d8c3d8c3d8c2d8c2d8c1d8c0d8c0d8bfd8bfd8bed8bed8bdd8bdd8bcd8bcd8bbd8bad8bad8b9d8b9d8b8d8b8d8b7d8b7d8b6d8b6d8b5d8b4d8b4d8b3d8b3d8b2d8b2d8b1d8b1d8b0d8b0d8afd8aed8aed8add8add8acd8acd8abd8abd8aad8a9d8a9d8a8d8a8d8a7d8a7d8a6d8a6d8a5d8a5d8a4d8a3d8a3d8a2d8a2d8a1d8a1d8a0d8a0d89fd89fd89ed89dd89dd89cd89cd89bd89bd89ad89ad899d898d898d897d897d896d896d895d895d894d894d893d892d892d891d891d890d890d88fd88fd88ed88ed88dd88cd88cd88bd88bd88ad88ad889d889d888d888d887d886d886d885d885d884d884d883d883d882d881d881d880d880d87fd87fd87ed87ed87dd87dd87cd87bd87bd87ad87ad879d879d878d878d877d877d876d875d875d874d874d873d873d872d872d871d870d870d86fd86fd86ed86ed86dd86dd86cd86cd86bd86ad86ad869,
  0xd981d980d980d97fd97fd97ed97ed97dd97cd97cd97bd97bd97ad97ad979d979d978d978d977d976d976d975d975d974d974d973d973d972d972d971d970d970d96fd96fd96ed96ed96dd96dd96cd96cd96bd96ad96ad969d969d968d968d967d967d966d966d965d964d964d963d963d962d962d961d961d960d960d95fd95ed95ed95dd95dd95cd95cd95bd95bd95ad95ad959d958d958d957d957d956d956d955d955d954d954d953d952d952d951d951d950d950d94fd94fd94ed94ed94dd94cd94cd94bd94bd94ad94ad949d949d948d948d947d946d946d945d945d944d944d943d943d942d942d941d940d940d93fd93fd93ed93ed93dd93dd93cd93cd93bd93ad93ad939d939d938d938d937d937d936d936d935d934d934d933d933d932d932d931d931d930d930d92fd92ed92ed92dd92dd92cd92cd92bd92bd92ad92ad929d928d928d927d927d926d926d925d925d924d924d923d922d922d921d921d920d920d91fd91fd91ed91dd91dd91cd91cd91bd91bd91ad91ad919d919d918d917d917d916d916d915d915d914d914d913d913d912d911d911d910d910d90fd90fd90ed90ed90dd90dd90cd90bd90bd90ad90ad909d909d908d908d907d907d906d905d905d904d904d903d903d902d902d901d901d900d8ffd8ffd8fed8fed8fdd8fdd8fcd8fcd8fbd8fbd8fad8f9d8f9d8f8d8f8d8f7d8f7d8f6d8f6,
  0xda0cda0cda0bda0bda0ada09da09da08da08da07da07da06da06da05da05da04da03da03da02da02da01da01da00da00d9ffd9ffd9fed9fdd9fdd9fcd9fcd9fbd9fbd9fad9fad9f9d9f9d9f8d9f8d9f7d9f6d9f6d9f5d9f5d9f4d9f4d9f3d9f3d9f2d9f2d9f1d9f0d9f0d9efd9efd9eed9eed9edd9edd9ecd9ecd9ebd9ead9ead9e9d9e9d9e8d9e8d9e7d9e7d9e6d9e6d9e5d9e4d9e4d9e3d9e3d9e2d9e2d9e1d9e1d9e0d9e0d9dfd9dfd9ded9ddd9ddd9dcd9dcd9dbd9dbd9dad9dad9d9d9d9d9d8d9d7d9d7d9d6d9d6d9d5d9d5d9d4d9d4d9d3d9d3d9d2d9d1d9d1d9d0d9d0d9cfd9cfd9ced9ced9cdd9cdd9ccd9cbd9cbd9cad9cad9c9d9c9d9c8d9c8d9c7d9c7d9c6d9c5d9c5d9c4d9c4d9c3d9c3d9c2d9c2d9c1d9c1d9c0d9bfd9bfd9bed9bed9bdd9bdd9bcd9bcd9bbd9bbd9bad9b9d9b9d9b8d9b8d9b7d9b7d9b6d9b6d9b5d9b5d9b4d9b4d9b3d9b2d9b2d9b1d9b1d9b0d9b0d9afd9afd9aed9aed9add9acd9acd9abd9abd9aad9aad9a9d9a9d9a8d9a8d9a7d9a6d9a6d9a5d9a5d9a4d9a4d9a3d9a3d9a2d9a2d9a1d9a0d9a0d99fd99fd99ed99ed99dd99dd99cd99cd99bd99ad99ad999d999d998d998d997d997d996d996d995d994d994d993d993d992d992d991d991d990d990d98fd98ed98ed98dd98dd98cd98cd98bd98bd98ad98ad989d988d988d987d987d986d986d985d985d984d984d983d982d982d981,
  0xda97da97da96da95da95da94da94da93da93da92da92da91da91da90da8fda8fda8eda8eda8dda8dda8cda8cda8bda8bda8ada8ada89da88da88da87da87da86da86da85da85da84da84da83da82da82da81da81da80da80da7fda7fda7eda7eda7dda7dda7cda7bda7bda7ada7ada79da79da78da78da77da77da76da75da75da74da74da73da73da72da72da71da71da70da6fda6fda6eda6eda6dda6dda6cda6cda6bda6bda6ada6ada69da68da68da67da67da66da66da65da65da64da64da63da62da62da61da61da60da60da5fda5fda5eda5eda5dda5dda5cda5bda5bda5ada5ada59da59da58da58da57da57da56da55da55da54da54da53da53da52da52da51da51da50da4fda4fda4eda4eda4dda4dda4cda4cda4bda4bda4ada4ada49da48da48da47da47da46da46da45da45da44da44da43da42da42da41da41da40da40da3fda3fda3eda3eda3dda3dda3cda3bda3bda3ada3ada39da39da38da38da37da37da36da35da35da34da34da33da33da32da32da31da31da30da2fda2fda2eda2eda2dda2dda2cda2cda2bda2bda2ada2ada29da28da28da27da27da26da26da25da25da24da24da23da22da22da21da21da20da20da1fda1fda1eda1eda1dda1cda1cda1bda1bda1ada1ada19da19da18da18da17da16da16da15da15da14da14da13da13da12da12da11da11da10da0fda0fda0eda0eda0dda0d,
  0xdb21db21db20db20db1fdb1fdb1edb1edb1ddb1ddb1cdb1cdb1bdb1adb1adb19db19db18db18db17db17db16db16db15db15db14db13db13db12db12db11db11db10db10db0fdb0fdb0edb0ddb0ddb0cdb0cdb0bdb0bdb0adb0adb09db09db08db08db07db06db06db05db05db04db04db03db03db02db02db01db01db00daffdaffdafedafedafddafddafcdafcdafbdafbdafadafadaf9daf8daf8daf7daf7daf6daf6daf5daf5daf4daf4daf3daf2daf2daf1daf1daf0daf0daefdaefdaeedaeedaeddaeddaecdaebdaebdaeadaeadae9dae9dae8dae8dae7dae7dae6dae6dae5dae4dae4dae3dae3dae2dae2dae1dae1dae0dae0dadfdadedadedadddadddadcdadcdadbdadbdadadadadad9dad9dad8dad7dad7dad6dad6dad5dad5dad4dad4dad3dad3dad2dad1dad1dad0dad0dacfdacfdacedacedacddacddaccdaccdacbdacadacadac9dac9dac8dac8dac7dac7dac6dac6dac5dac5dac4dac3dac3dac2dac2dac1dac1dac0dac0dabfdabfdabedabddabddabcdabcdabbdabbdabadabadab9dab9dab8dab8dab7dab6dab6dab5dab5dab4dab4dab3dab3dab2dab2dab1dab0dab0daafdaafdaaedaaedaaddaaddaacdaacdaabdaabdaaadaa9daa9daa8daa8daa7daa7daa6daa6daa5daa5daa4daa4daa3daa2daa2daa1daa1daa0daa0da9fda9fda9eda9eda9dda9cda9cda9bda9bda9ada9ada99da99da98da98,
  0xdbabdbabdbaadbaadba9dba9dba8dba8dba7dba7dba6dba6dba5dba4dba4dba3dba3dba2dba2dba1dba1dba0dba0db9fdb9fdb9edb9ddb9ddb9cdb9cdb9bdb9bdb9adb9adb99db99db98db98db97db96db96db95db95db94db94db93db93db92db92db91db91db90db8fdb8fdb8edb8edb8ddb8ddb8cdb8cdb8bdb8bdb8adb8adb89db88db88db87db87db86db86db85db85db84db84db83db83db82db81db81db80db80db7fdb7fdb7edb7edb7ddb7ddb7cdb7cdb7bdb7adb7adb79db79db78db78db77db77db76db76db75db75db74db73db73db72db72db71db71db70db70db6fdb6fdb6edb6edb6ddb6cdb6cdb6bdb6bdb6adb6adb69db69db68db68db67db67db66db65db65db64db64db63db63db62db62db61db61db60db60db5fdb5edb5edb5ddb5ddb5cdb5cdb5bdb5bdb5adb5adb59db59db58db57db57db56db56db55db55db54db54db53db53db52db51db51db50db50db4fdb4fdb4edb4edb4ddb4ddb4cdb4cdb4bdb4adb4adb49db49db48db48db47db47db46db46db45db45db44db43db43db42db42db41db41db40db40db3fdb3fdb3edb3edb3ddb3cdb3cdb3bdb3bdb3adb3adb39db39db38db38db37db37db36db35db35db34db34db33db33db32db32db31db31db30db30db2fdb2edb2edb2ddb2ddb2cdb2cdb2bdb2bdb2adb2adb29db28db28db27db27db26db26db25db25db24db24db23db23db22,
  0xdc35dc34dc34dc33dc33dc32dc32dc31dc31dc30dc30dc2fdc2fdc2edc2ddc2ddc2cdc2cdc2bdc2bdc2adc2adc29dc29dc28dc28dc27dc27dc26dc25dc25dc24dc24dc23dc23dc22dc22dc21dc21dc20dc20dc1fdc1edc1edc1ddc1ddc1cdc1cdc1bdc1bdc1adc1adc19dc19dc18dc17dc17dc16dc16dc15dc15dc14dc14dc13dc13dc12dc12dc11dc10dc10dc0fdc0fdc0edc0edc0ddc0ddc0cdc0cdc0bdc0bdc0adc0adc09dc08dc08dc07dc07dc06dc06dc05dc05dc04dc04dc03dc03dc02dc01dc01dc00dc00dbffdbffdbfedbfedbfddbfddbfcdbfcdbfbdbfadbfadbf9dbf9dbf8dbf8dbf7dbf7dbf6dbf6dbf5dbf5dbf4dbf3dbf3dbf2dbf2dbf1dbf1dbf0dbf0dbefdbefdbeedbeedbeddbeddbecdbebdbebdbeadbeadbe9dbe9dbe8dbe8dbe7dbe7dbe6dbe6dbe5dbe4dbe4dbe3dbe3dbe2dbe2dbe1dbe1dbe0dbe0dbdfdbdfdbdedbdddbdddbdcdbdcdbdbdbdbdbdadbdadbd9dbd9dbd8dbd8dbd7dbd6dbd6dbd5dbd5dbd4dbd4dbd3dbd3dbd2dbd2dbd1dbd1dbd0dbcfdbcfdbcedbcedbcddbcddbccdbccdbcbdbcbdbcadbcadbc9dbc8dbc8dbc7dbc7dbc6dbc6dbc5dbc5dbc4dbc4dbc3dbc3dbc2dbc2dbc1dbc0dbc0dbbfdbbfdbbedbbedbbddbbddbbcdbbcdbbbdbbbdbbadbb9dbb9dbb8dbb8dbb7dbb7dbb6dbb6dbb5dbb5dbb4dbb4dbb3dbb2dbb2dbb1dbb1dbb0dbb0dbafdbafdbaedbaedbaddbaddbac,
  0xdcbedcbedcbddcbcdcbcdcbbdcbbdcbadcbadcb9dcb9dcb8dcb8dcb7dcb7dcb6dcb6dcb5dcb4dcb4dcb3dcb3dcb2dcb2dcb1dcb1dcb0dcb0dcafdcafdcaedcaedcaddcacdcacdcabdcabdcaadcaadca9dca9dca8dca8dca7dca7dca6dca5dca5dca4dca4dca3dca3dca2dca2dca1dca1dca0dca0dc9fdc9fdc9edc9ddc9ddc9cdc9cdc9bdc9bdc9adc9adc99dc99dc98dc98dc97dc96dc96dc95dc95dc94dc94dc93dc93dc92dc92dc91dc91dc90dc90dc8fdc8edc8edc8ddc8ddc8cdc8cdc8bdc8bdc8adc8adc89dc89dc88dc88dc87dc86dc86dc85dc85dc84dc84dc83dc83dc82dc82dc81dc81dc80dc7fdc7fdc7edc7edc7ddc7ddc7cdc7cdc7bdc7bdc7adc7adc79dc79dc78dc77dc77dc76dc76dc75dc75dc74dc74dc73dc73dc72dc72dc71dc70dc70dc6fdc6fdc6edc6edc6ddc6ddc6cdc6cdc6bdc6bdc6adc6adc69dc68dc68dc67dc67dc66dc66dc65dc65dc64dc64dc63dc63dc62dc61dc61dc60dc60dc5fdc5fdc5edc5edc5ddc5ddc5cdc5cdc5bdc5bdc5adc59dc59dc58dc58dc57dc57dc56dc56dc55dc55dc54dc54dc53dc52dc52dc51dc51dc50dc50dc4fdc4fdc4edc4edc4ddc4ddc4cdc4cdc4bdc4adc4adc49dc49dc48dc48dc47dc47dc46dc46dc45dc45dc44dc43dc43dc42dc42dc41dc41dc40dc40dc3fdc3fdc3edc3edc3ddc3cdc3cdc3bdc3bdc3adc3adc39dc39dc38dc38dc37dc37dc36dc36,
  0xdd47dd46dd46dd45dd45dd44dd44dd43dd42dd42dd41dd41dd40dd40dd3fdd3fdd3edd3edd3ddd3ddd3cdd3cdd3bdd3add3add39dd39dd38dd38dd37dd37dd36dd36dd35dd35dd34dd34dd33dd32dd32dd31dd31dd30dd30dd2fdd2fdd2edd2edd2ddd2ddd2cdd2cdd2bdd2add2add29dd29dd28dd28dd27dd27dd26dd26dd25dd25dd24dd24dd23dd22dd22dd21dd21dd20dd20dd1fdd1fdd1edd1edd1ddd1ddd1cdd1cdd1bdd1add1add19dd19dd18dd18dd17dd17dd16dd16dd15dd15dd14dd14dd13dd12dd12dd11dd11dd10dd10dd0fdd0fdd0edd0edd0ddd0ddd0cdd0cdd0bdd0add0add09dd09dd08dd08dd07dd07dd06dd06dd05dd05dd04dd04dd03dd02dd02dd01dd01dd00dd00dcffdcffdcfedcfedcfddcfddcfcdcfcdcfbdcfadcfadcf9dcf9dcf8dcf8dcf7dcf7dcf6dcf6dcf5dcf5dcf4dcf4dcf3dcf2dcf2dcf1dcf1dcf0dcf0dcefdcefdceedceedceddceddcecdcecdcebdceadceadce9dce9dce8dce8dce7dce7dce6dce6dce5dce5dce4dce3dce3dce2dce2dce1dce1dce0dce0dcdfdcdfdcdedcdedcdddcdddcdcdcdbdcdbdcdadcdadcd9dcd9dcd8dcd8dcd7dcd7dcd6dcd6dcd5dcd5dcd4dcd3dcd3dcd2dcd2dcd1dcd1dcd0dcd0dccfdccfdccedccedccddccddcccdccbdccbdccadccadcc9dcc9dcc8dcc8dcc7dcc7dcc6dcc6dcc5dcc4dcc4dcc3dcc3dcc2dcc2dcc1dcc1dcc0dcc0dcbfdcbf,
  0xddcfddceddceddcdddcdddccddccddcbddcbddcaddcaddc9ddc9ddc8ddc8ddc7ddc6ddc6ddc5ddc5ddc4ddc4ddc3ddc3ddc2ddc2ddc1ddc1ddc0ddc0ddbfddbeddbeddbdddbdddbcddbcddbbddbbddbaddbaddb9ddb9ddb8ddb8ddb7ddb7ddb6ddb5ddb5ddb4ddb4ddb3ddb3ddb2ddb2ddb1ddb1ddb0ddb0ddafddafddaeddadddadddacddacddabddabddaaddaadda9dda9dda8dda8dda7dda7dda6dda6dda5dda4dda4dda3dda3dda2dda2dda1dda1dda0dda0dd9fdd9fdd9edd9edd9ddd9cdd9cdd9bdd9bdd9add9add99dd99dd98dd98dd97dd97dd96dd96dd95dd94dd94dd93dd93dd92dd92dd91dd91dd90dd90dd8fdd8fdd8edd8edd8ddd8ddd8cdd8bdd8bdd8add8add89dd89dd88dd88dd87dd87dd86dd86dd85dd85dd84dd83dd83dd82dd82dd81dd81dd80dd80dd7fdd7fdd7edd7edd7ddd7ddd7cdd7bdd7bdd7add7add79dd79dd78dd78dd77dd77dd76dd76dd75dd75dd74dd73dd73dd72dd72dd71dd71dd70dd70dd6fdd6fdd6edd6edd6ddd6ddd6cdd6bdd6bdd6add6add69dd69dd68dd68dd67dd67dd66dd66dd65dd65dd64dd64dd63dd62dd62dd61dd61dd60dd60dd5fdd5fdd5edd5edd5ddd5ddd5cdd5cdd5bdd5add5add59dd59dd58dd58dd57dd57dd56dd56dd55dd55dd54dd54dd53dd52dd52dd51dd51dd50dd50dd4fdd4fdd4edd4edd4ddd4ddd4cdd4cdd4bdd4add4add49dd49dd48dd48dd47,
  0xde57de56de56de55de55de54de54de53de53de52de51de51de50de50de4fde4fde4ede4ede4dde4dde4cde4cde4bde4bde4ade4ade49de48de48de47de47de46de46de45de45de44de44de43de43de42de42de41de41de40de3fde3fde3ede3ede3dde3dde3cde3cde3bde3bde3ade3ade39de39de38de38de37de36de36de35de35de34de34de33de33de32de32de31de31de30de30de2fde2ede2ede2dde2dde2cde2cde2bde2bde2ade2ade29de29de28de28de27de27de26de25de25de24de24de23de23de22de22de21de21de20de20de1fde1fde1ede1ede1dde1cde1cde1bde1bde1ade1ade19de19de18de18de17de17de16de16de15de15de14de13de13de12de12de11de11de10de10de0fde0fde0ede0ede0dde0dde0cde0bde0bde0ade0ade09de09de08de08de07de07de06de06de05de05de04de04de03de02de02de01de01de00de00ddffddffddfeddfeddfdddfdddfcddfcddfbddfbddfaddf9ddf9ddf8ddf8ddf7ddf7ddf6ddf6ddf5ddf5ddf4ddf4ddf3ddf3ddf2ddf1ddf1ddf0ddf0ddefddefddeeddeeddedddedddecddecddebddebddeaddeadde9dde8dde8dde7dde7dde6dde6dde5dde5dde4dde4dde3dde3dde2dde2dde1dde0dde0dddfdddfdddedddedddddddddddcdddcdddbdddbdddadddaddd9ddd9ddd8ddd7ddd7ddd6ddd6ddd5ddd5ddd4ddd4ddd3ddd3ddd2ddd2ddd1ddd1ddd0ddcf,
  0xdedededededddedddedcdedbdedbdedadedaded9ded9ded8ded8ded7ded7ded6ded6ded5ded5ded4ded4ded3ded3ded2ded1ded1ded0ded0decfdecfdecedecedecddecddeccdeccdecbdecbdecadecadec9dec8dec8dec7dec7dec6dec6dec5dec5dec4dec4dec3dec3dec2dec2dec1dec1dec0debfdebfdebedebedebddebddebcdebcdebbdebbdebadebadeb9deb9deb8deb8deb7deb7deb6deb5deb5deb4deb4deb3deb3deb2deb2deb1deb1deb0deb0deafdeafdeaedeaedeaddeacdeacdeabdeabdeaadeaadea9dea9dea8dea8dea7dea7dea6dea6dea5dea5dea4dea3dea3dea2dea2dea1dea1dea0dea0de9fde9fde9ede9ede9dde9dde9cde9cde9bde9ade9ade99de99de98de98de97de97de96de96de95de95de94de94de93de93de92de92de91de90de90de8fde8fde8ede8ede8dde8dde8cde8cde8bde8bde8ade8ade89de89de88de87de87de86de86de85de85de84de84de83de83de82de82de81de81de80de80de7fde7ede7ede7dde7dde7cde7cde7bde7bde7ade7ade79de79de78de78de77de77de76de75de75de74de74de73de73de72de72de71de71de70de70de6fde6fde6ede6ede6dde6cde6cde6bde6bde6ade6ade69de69de68de68de67de67de66de66de65de65de64de63de63de62de62de61de61de60de60de5fde5fde5ede5ede5dde5dde5cde5cde5bde5ade5ade59de59de58de58de57,
  0xdf65df65df64df64df63df62df62df61df61df60df60df5fdf5fdf5edf5edf5ddf5ddf5cdf5cdf5bdf5bdf5adf5adf59df58df58df57df57df56df56df55df55df54df54df53df53df52df52df51df51df50df50df4fdf4edf4edf4ddf4ddf4cdf4cdf4bdf4bdf4adf4adf49df49df48df48df47df47df46df45df45df44df44df43df43df42df42df41df41df40df40df3fdf3fdf3edf3edf3ddf3ddf3cdf3bdf3bdf3adf3adf39df39df38df38df37df37df36df36df35df35df34df34df33df33df32df31df31df30df30df2fdf2fdf2edf2edf2ddf2ddf2cdf2cdf2bdf2bdf2adf2adf29df29df28df27df27df26df26df25df25df24df24df23df23df22df22df21df21df20df20df1fdf1edf1edf1ddf1ddf1cdf1cdf1bdf1bdf1adf1adf19df19df18df18df17df17df16df16df15df14df14df13df13df12df12df11df11df10df10df0fdf0fdf0edf0edf0ddf0ddf0cdf0cdf0bdf0adf0adf09df09df08df08df07df07df06df06df05df05df04df04df03df03df02df01df01df00df00deffdeffdefedefedefddefddefcdefcdefbdefbdefadefadef9def9def8def7def7def6def6def5def5def4def4def3def3def2def2def1def1def0def0deefdeeedeeedeeddeeddeecdeecdeebdeebdeeadeeadee9dee9dee8dee8dee7dee7dee6dee6dee5dee4dee4dee3dee3dee2dee2dee1dee1dee0dee0dedfdedf,
  0xdfecdfebdfebdfeadfeadfe9dfe8dfe8dfe7dfe7dfe6dfe6dfe5dfe5dfe4dfe4dfe3dfe3dfe2dfe2dfe1dfe1dfe0dfe0dfdfdfdedfdedfdddfdddfdcdfdcdfdbdfdbdfdadfdadfd9dfd9dfd8dfd8dfd7dfd7dfd6dfd6dfd5dfd5dfd4dfd3dfd3dfd2dfd2dfd1dfd1dfd0dfd0dfcfdfcfdfcedfcedfcddfcddfccdfccdfcbdfcbdfcadfc9dfc9dfc8dfc8dfc7dfc7dfc6dfc6dfc5dfc5dfc4dfc4dfc3dfc3dfc2dfc2dfc1dfc1dfc0dfc0dfbfdfbedfbedfbddfbddfbcdfbcdfbbdfbbdfbadfbadfb9dfb9dfb8dfb8dfb7dfb7dfb6dfb6dfb5dfb4dfb4dfb3dfb3dfb2dfb2dfb1dfb1dfb0dfb0dfafdfafdfaedfaedfaddfaddfacdfacdfabdfabdfaadfa9dfa9dfa8dfa8dfa7dfa7dfa6dfa6dfa5dfa5dfa4dfa4dfa3dfa3dfa2dfa2dfa1dfa1dfa0df9fdf9fdf9edf9edf9ddf9ddf9cdf9cdf9bdf9bdf9adf9adf99df99df98df98df97df97df96df95df95df94df94df93df93df92df92df91df91df90df90df8fdf8fdf8edf8edf8ddf8ddf8cdf8bdf8bdf8adf8adf89df89df88df88df87df87df86df86df85df85df84df84df83df83df82df81df81df80df80df7fdf7fdf7edf7edf7ddf7ddf7cdf7cdf7bdf7bdf7adf7adf79df79df78df78df77df76df76df75df75df74df74df73df73df72df72df71df71df70df70df6fdf6fdf6edf6edf6ddf6cdf6cdf6bdf6bdf6adf6adf69df69df68df68df67df67df66df66,
  0xe072e071e071e070e070e06fe06fe06ee06ee06de06de06ce06be06be06ae06ae069e069e068e068e067e067e066e066e065e065e064e064e063e063e062e062e061e060e060e05fe05fe05ee05ee05de05de05ce05ce05be05be05ae05ae059e059e058e058e057e057e056e055e055e054e054e053e053e052e052e051e051e050e050e04fe04fe04ee04ee04de04de04ce04ce04be04ae04ae049e049e048e048e047e047e046e046e045e045e044e044e043e043e042e042e041e041e040e03fe03fe03ee03ee03de03de03ce03ce03be03be03ae03ae039e039e038e038e037e037e036e036e035e034e034e033e033e032e032e031e031e030e030e02fe02fe02ee02ee02de02de02ce02ce02be02be02ae029e029e028e028e027e027e026e026e025e025e024e024e023e023e022e022e021e021e020e020e01fe01ee01ee01de01de01ce01ce01be01be01ae01ae019e019e018e018e017e017e016e016e015e015e014e013e013e012e012e011e011e010e010e00fe00fe00ee00ee00de00de00ce00ce00be00be00ae00ae009e008e008e007e007e006e006e005e005e004e004e003e003e002e002e001e001e000e000dfffdfffdffedffddffddffcdffcdffbdffbdffadffadff9dff9dff8dff8dff7dff7dff6dff6dff5dff5dff4dff3dff3dff2dff2dff1dff1dff0dff0dfefdfefdfeedfeedfeddfeddfec,
  0xe0f7e0f7e0f6e0f6e0f5e0f5e0f4e0f4e0f3e0f3e0f2e0f2e0f1e0f1e0f0e0f0e0efe0efe0eee0eee0ede0ece0ece0ebe0ebe0eae0eae0e9e0e9e0e8e0e8e0e7e0e7e0e6e0e6e0e5e0e5e0e4e0e4e0e3e0e3e0e2e0e2e0e1e0e0e0e0e0dfe0dfe0dee0dee0dde0dde0dce0dce0dbe0dbe0dae0dae0d9e0d9e0d8e0d8e0d7e0d7e0d6e0d6e0d5e0d4e0d4e0d3e0d3e0d2e0d2e0d1e0d1e0d0e0d0e0cfe0cfe0cee0cee0cde0cde0cce0cce0cbe0cbe0cae0cae0c9e0c8e0c8e0c7e0c7e0c6e0c6e0c5e0c5e0c4e0c4e0c3e0c3e0c2e0c2e0c1e0c1e0c0e0c0e0bfe0bfe0bee0bee0bde0bce0bce0bbe0bbe0bae0bae0b9e0b9e0b8e0b8e0b7e0b7e0b6e0b6e0b5e0b5e0b4e0b4e0b3e0b3e0b2e0b2e0b1e0b0e0b0e0afe0afe0aee0aee0ade0ade0ace0ace0abe0abe0aae0aae0a9e0a9e0a8e0a8e0a7e0a7e0a6e0a5e0a5e0a4e0a4e0a3e0a3e0a2e0a2e0a1e0a1e0a0e0a0e09fe09fe09ee09ee09de09de09ce09ce09be09be09ae099e099e098e098e097e097e096e096e095e095e094e094e093e093e092e092e091e091e090e090e08fe08ee08ee08de08de08ce08ce08be08be08ae08ae089e089e088e088e087e087e086e086e085e085e084e084e083e082e082e081e081e080e080e07fe07fe07ee07ee07de07de07ce07ce07be07be07ae07ae079e079e078e077e077e076e076e075e075e074e074e073e073e072,
  0xe17de17ce17ce17be17be17ae17ae179e179e178e178e177e177e176e175e175e174e174e173e173e172e172e171e171e170e170e16fe16fe16ee16ee16de16de16ce16ce16be16be16ae169e169e168e168e167e167e166e166e165e165e164e164e163e163e162e162e161e161e160e160e15fe15fe15ee15ee15de15ce15ce15be15be15ae15ae159e159e158e158e157e157e156e156e155e155e154e154e153e153e152e152e151e151e150e14fe14fe14ee14ee14de14de14ce14ce14be14be14ae14ae149e149e148e148e147e147e146e146e145e145e144e144e143e142e142e141e141e140e140e13fe13fe13ee13ee13de13de13ce13ce13be13be13ae13ae139e139e138e138e137e136e136e135e135e134e134e133e133e132e132e131e131e130e130e12fe12fe12ee12ee12de12de12ce12ce12be12be12ae129e129e128e128e127e127e126e126e125e125e124e124e123e123e122e122e121e121e120e120e11fe11fe11ee11de11de11ce11ce11be11be11ae11ae119e119e118e118e117e117e116e116e115e115e114e114e113e113e112e112e111e110e110e10fe10fe10ee10ee10de10de10ce10ce10be10be10ae10ae109e109e108e108e107e107e106e106e105e104e104e103e103e102e102e101e101e100e100e0ffe0ffe0fee0fee0fde0fde0fce0fce0fbe0fbe0fae0fae0f9e0f8e0f8,
  0xe202e201e201e200e200e1ffe1ffe1fee1fde1fde1fce1fce1fbe1fbe1fae1fae1f9e1f9e1f8e1f8e1f7e1f7e1f6e1f6e1f5e1f5e1f4e1f4e1f3e1f3e1f2e1f2e1f1e1f1e1f0e1efe1efe1eee1eee1ede1ede1ece1ece1ebe1ebe1eae1eae1e9e1e9e1e8e1e8e1e7e1e7e1e6e1e6e1e5e1e5e1e4e1e4e1e3e1e3e1e2e1e1e1e1e1e0e1e0e1dfe1dfe1dee1dee1dde1dde1dce1dce1dbe1dbe1dae1dae1d9e1d9e1d8e1d8e1d7e1d7e1d6e1d6e1d5e1d5e1d4e1d3e1d3e1d2e1d2e1d1e1d1e1d0e1d0e1cfe1cfe1cee1cee1cde1cde1cce1cce1cbe1cbe1cae1cae1c9e1c9e1c8e1c8e1c7e1c6e1c6e1c5e1c5e1c4e1c4e1c3e1c3e1c2e1c2e1c1e1c1e1c0e1c0e1bfe1bfe1bee1bee1bde1bde1bce1bce1bbe1bbe1bae1bae1b9e1b8e1b8e1b7e1b7e1b6e1b6e1b5e1b5e1b4e1b4e1b3e1b3e1b2e1b2e1b1e1b1e1b0e1b0e1afe1afe1aee1aee1ade1ade1ace1ace1abe1aae1aae1a9e1a9e1a8e1a8e1a7e1a7e1a6e1a6e1a5e1a5e1a4e1a4e1a3e1a3e1a2e1a2e1a1e1a1e1a0e1a0e19fe19fe19ee19de19de19ce19ce19be19be19ae19ae199e199e198e198e197e197e196e196e195e195e194e194e193e193e192e192e191e190e190e18fe18fe18ee18ee18de18de18ce18ce18be18be18ae18ae189e189e188e188e187e187e186e186e185e185e184e183e183e182e182e181e181e180e180e17fe17fe17ee17ee17d,
  0xe286e286e285e285e284e284e283e283e282e281e281e280e280e27fe27fe27ee27ee27de27de27ce27ce27be27be27ae27ae279e279e278e278e277e277e276e276e275e275e274e274e273e272e272e271e271e270e270e26fe26fe26ee26ee26de26de26ce26ce26be26be26ae26ae269e269e268e268e267e267e266e266e265e265e264e263e263e262e262e261e261e260e260e25fe25fe25ee25ee25de25de25ce25ce25be25be25ae25ae259e259e258e258e257e257e256e256e255e254e254e253e253e252e252e251e251e250e250e24fe24fe24ee24ee24de24de24ce24ce24be24be24ae24ae249e249e248e248e247e247e246e245e245e244e244e243e243e242e242e241e241e240e240e23fe23fe23ee23ee23de23de23ce23ce23be23be23ae23ae239e239e238e238e237e236e236e235e235e234e234e233e233e232e232e231e231e230e230e22fe22fe22ee22ee22de22de22ce22ce22be22be22ae22ae229e228e228e227e227e226e226e225e225e224e224e223e223e222e222e221e221e220e220e21fe21fe21ee21ee21de21de21ce21ce21be21be21ae219e219e218e218e217e217e216e216e215e215e214e214e213e213e212e212e211e211e210e210e20fe20fe20ee20ee20de20de20ce20be20be20ae20ae209e209e208e208e207e207e206e206e205e205e204e204e203e203e202,
  0xe30ae30ae309e309e308e308e307e307e306e306e305e305e304e304e303e302e302e301e301e300e300e2ffe2ffe2fee2fee2fde2fde2fce2fce2fbe2fbe2fae2fae2f9e2f9e2f8e2f8e2f7e2f7e2f6e2f6e2f5e2f5e2f4e2f4e2f3e2f3e2f2e2f1e2f1e2f0e2f0e2efe2efe2eee2eee2ede2ede2ece2ece2ebe2ebe2eae2eae2e9e2e9e2e8e2e8e2e7e2e7e2e6e2e6e2e5e2e5e2e4e2e4e2e3e2e3e2e2e2e1e2e1e2e0e2e0e2dfe2dfe2dee2dee2dde2dde2dce2dce2dbe2dbe2dae2dae2d9e2d9e2d8e2d8e2d7e2d7e2d6e2d6e2d5e2d5e2d4e2d4e2d3e2d3e2d2e2d2e2d1e2d0e2d0e2cfe2cfe2cee2cee2cde2cde2cce2cce2cbe2cbe2cae2cae2c9e2c9e2c8e2c8e2c7e2c7e2c6e2c6e2c5e2c5e2c4e2c4e2c3e2c3e2c2e2c2e2c1e2c0e2c0e2bfe2bfe2bee2bee2bde2bde2bce2bce2bbe2bbe2bae2bae2b9e2b9e2b8e2b8e2b7e2b7e2b6e2b6e2b5e2b5e2b4e2b4e2b3e2b3e2b2e2b2e2b1e2b0e2b0e2afe2afe2aee2aee2ade2ade2ace2ace2abe2abe2aae2aae2a9e2a9e2a8e2a8e2a7e2a7e2a6e2a6e2a5e2a5e2a4e2a4e2a3e2a3e2a2e2a2e2a1e2a0e2a0e29fe29fe29ee29ee29de29de29ce29ce29be29be29ae29ae299e299e298e298e297e297e296e296e295e295e294e294e293e293e292e291e291e290e290e28fe28fe28ee28ee28de28de28ce28ce28be28be28ae28ae289e289e288e288e287e287,
  0xe38ee38de38de38ce38ce38be38be38ae38ae389e389e388e388e387e387e386e386e385e385e384e384e383e383e382e382e381e381e380e380e37fe37fe37ee37de37de37ce37ce37be37be37ae37ae379e379e378e378e377e377e376e376e375e375e374e374e373e373e372e372e371e371e370e370e36fe36fe36ee36ee36de36de36ce36be36be36ae36ae369e369e368e368e367e367e366e366e365e365e364e364e363e363e362e362e361e361e360e360e35fe35fe35ee35ee35de35de35ce35ce35be35be35ae359e359e358e358e357e357e356e356e355e355e354e354e353e353e352e352e351e351e350e350e34fe34fe34ee34ee34de34de34ce34ce34be34be34ae34ae349e349e348e347e347e346e346e345e345e344e344e343e343e342e342e341e341e340e340e33fe33fe33ee33ee33de33de33ce33ce33be33be33ae33ae339e339e338e338e337e337e336e335e335e334e334e333e333e332e332e331e331e330e330e32fe32fe32ee32ee32de32de32ce32ce32be32be32ae32ae329e329e328e328e327e327e326e326e325e324e324e323e323e322e322e321e321e320e320e31fe31fe31ee31ee31de31de31ce31ce31be31be31ae31ae319e319e318e318e317e317e316e316e315e315e314e313e313e312e312e311e311e310e310e30fe30fe30ee30ee30de30de30ce30ce30be30b,
  0xe411e411e410e410e40fe40fe40ee40ee40de40de40ce40ce40be40be40ae40ae409e409e408e407e407e406e406e405e405e404e404e403e403e402e402e401e401e400e400e3ffe3ffe3fee3fee3fde3fde3fce3fce3fbe3fbe3fae3fae3f9e3f9e3f8e3f8e3f7e3f7e3f6e3f6e3f5e3f5e3f4e3f4e3f3e3f2e3f2e3f1e3f1e3f0e3f0e3efe3efe3eee3eee3ede3ede3ece3ece3ebe3ebe3eae3eae3e9e3e9e3e8e3e8e3e7e3e7e3e6e3e6e3e5e3e5e3e4e3e4e3e3e3e3e3e2e3e2e3e1e3e1e3e0e3e0e3dfe3dee3dee3dde3dde3dce3dce3dbe3dbe3dae3dae3d9e3d9e3d8e3d8e3d7e3d7e3d6e3d6e3d5e3d5e3d4e3d4e3d3e3d3e3d2e3d2e3d1e3d1e3d0e3d0e3cfe3cfe3cee3cee3cde3cde3cce3cce3cbe3cae3cae3c9e3c9e3c8e3c8e3c7e3c7e3c6e3c6e3c5e3c5e3c4e3c4e3c3e3c3e3c2e3c2e3c1e3c1e3c0e3c0e3bfe3bfe3bee3bee3bde3bde3bce3bce3bbe3bbe3bae3bae3b9e3b9e3b8e3b8e3b7e3b6e3b6e3b5e3b5e3b4e3b4e3b3e3b3e3b2e3b2e3b1e3b1e3b0e3b0e3afe3afe3aee3aee3ade3ade3ace3ace3abe3abe3aae3aae3a9e3a9e3a8e3a8e3a7e3a7e3a6e3a6e3a5e3a5e3a4e3a3e3a3e3a2e3a2e3a1e3a1e3a0e3a0e39fe39fe39ee39ee39de39de39ce39ce39be39be39ae39ae399e399e398e398e397e397e396e396e395e395e394e394e393e393e392e392e391e390e390e38fe38fe38e,
  0xe494e494e493e493e492e492e491e491e490e490e48fe48fe48ee48ee48de48ce48ce48be48be48ae48ae489e489e488e488e487e487e486e486e485e485e484e484e483e483e482e482e481e481e480e480e47fe47fe47ee47ee47de47de47ce47ce47be47be47ae47ae479e479e478e478e477e477e476e475e475e474e474e473e473e472e472e471e471e470e470e46fe46fe46ee46ee46de46de46ce46ce46be46be46ae46ae469e469e468e468e467e467e466e466e465e465e464e464e463e463e462e462e461e461e460e460e45fe45ee45ee45de45de45ce45ce45be45be45ae45ae459e459e458e458e457e457e456e456e455e455e454e454e453e453e452e452e451e451e450e450e44fe44fe44ee44ee44de44de44ce44ce44be44be44ae44ae449e449e448e447e447e446e446e445e445e444e444e443e443e442e442e441e441e440e440e43fe43fe43ee43ee43de43de43ce43ce43be43be43ae43ae439e439e438e438e437e437e436e436e435e435e434e434e433e433e432e431e431e430e430e42fe42fe42ee42ee42de42de42ce42ce42be42be42ae42ae429e429e428e428e427e427e426e426e425e425e424e424e423e423e422e422e421e421e420e420e41fe41fe41ee41ee41de41ce41ce41be41be41ae41ae419e419e418e418e417e417e416e416e415e415e414e414e413e413e412e412,
  0xe517e516e516e515e515e514e514e513e513e512e512e511e511e510e510e50fe50fe50ee50ee50de50de50ce50be50be50ae50ae509e509e508e508e507e507e506e506e505e505e504e504e503e503e502e502e501e501e500e500e4ffe4ffe4fee4fee4fde4fde4fce4fce4fbe4fbe4fae4fae4f9e4f9e4f8e4f8e4f7e4f7e4f6e4f6e4f5e4f5e4f4e4f4e4f3e4f3e4f2e4f1e4f1e4f0e4f0e4efe4efe4eee4eee4ede4ede4ece4ece4ebe4ebe4eae4eae4e9e4e9e4e8e4e8e4e7e4e7e4e6e4e6e4e5e4e5e4e4e4e4e4e3e4e3e4e2e4e2e4e1e4e1e4e0e4e0e4dfe4dfe4dee4dee4dde4dde4dce4dce4dbe4dbe4dae4dae4d9e4d9e4d8e4d8e4d7e4d6e4d6e4d5e4d5e4d4e4d4e4d3e4d3e4d2e4d2e4d1e4d1e4d0e4d0e4cfe4cfe4cee4cee4cde4cde4cce4cce4cbe4cbe4cae4cae4c9e4c9e4c8e4c8e4c7e4c7e4c6e4c6e4c5e4c5e4c4e4c4e4c3e4c3e4c2e4c2e4c1e4c1e4c0e4c0e4bfe4bfe4bee4bde4bde4bce4bce4bbe4bbe4bae4bae4b9e4b9e4b8e4b8e4b7e4b7e4b6e4b6e4b5e4b5e4b4e4b4e4b3e4b3e4b2e4b2e4b1e4b1e4b0e4b0e4afe4afe4aee4aee4ade4ade4ace4ace4abe4abe4aae4aae4a9e4a9e4a8e4a8e4a7e4a7e4a6e4a6e4a5e4a4e4a4e4a3e4a3e4a2e4a2e4a1e4a1e4a0e4a0e49fe49fe49ee49ee49de49de49ce49ce49be49be49ae49ae499e499e498e498e497e497e496e496e495e495,
  0xe599e598e598e597e597e596e596e595e595e594e594e593e593e592e592e591e591e590e590e58fe58fe58ee58ee58de58de58ce58ce58be58be58ae58ae589e589e588e588e587e587e586e586e585e585e584e584e583e582e582e581e581e580e580e57fe57fe57ee57ee57de57de57ce57ce57be57be57ae57ae579e579e578e578e577e577e576e576e575e575e574e574e573e573e572e572e571e571e570e570e56fe56fe56ee56ee56de56de56ce56ce56be56be56ae56ae569e569e568e568e567e567e566e566e565e565e564e564e563e562e562e561e561e560e560e55fe55fe55ee55ee55de55de55ce55ce55be55be55ae55ae559e559e558e558e557e557e556e556e555e555e554e554e553e553e552e552e551e551e550e550e54fe54fe54ee54ee54de54de54ce54ce54be54be54ae54ae549e549e548e548e547e547e546e546e545e544e544e543e543e542e542e541e541e540e540e53fe53fe53ee53ee53de53de53ce53ce53be53be53ae53ae539e539e538e538e537e537e536e536e535e535e534e534e533e533e532e532e531e531e530e530e52fe52fe52ee52ee52de52de52ce52ce52be52be52ae52ae529e529e528e527e527e526e526e525e525e524e524e523e523e522e522e521e521e520e520e51fe51fe51ee51ee51de51de51ce51ce51be51be51ae51ae519e519e518e518e517,
  0xe61be61ae61ae619e619e618e618e617e617e616e616e615e615e614e614e613e613e612e612e611e610e610e60fe60fe60ee60ee60de60de60ce60ce60be60be60ae60ae609e609e608e608e607e607e606e606e605e605e604e604e603e603e602e602e601e601e600e600e5ffe5ffe5fee5fee5fde5fde5fce5fce5fbe5fbe5fae5fae5f9e5f9e5f8e5f8e5f7e5f7e5f6e5f6e5f5e5f5e5f4e5f4e5f3e5f3e5f2e5f2e5f1e5f1e5f0e5f0e5efe5efe5eee5eee5ede5ede5ece5ece5ebe5eae5eae5e9e5e9e5e8e5e8e5e7e5e7e5e6e5e6e5e5e5e5e5e4e5e4e5e3e5e3e5e2e5e2e5e1e5e1e5e0e5e0e5dfe5dfe5dee5dee5dde5dde5dce5dce5dbe5dbe5dae5dae5d9e5d9e5d8e5d8e5d7e5d7e5d6e5d6e5d5e5d5e5d4e5d4e5d3e5d3e5d2e5d2e5d1e5d1e5d0e5d0e5cfe5cfe5cee5cee5cde5cde5cce5cce5cbe5cbe5cae5cae5c9e5c9e5c8e5c8e5c7e5c7e5c6e5c5e5c5e5c4e5c4e5c3e5c3e5c2e5c2e5c1e5c1e5c0e5c0e5bfe5bfe5bee5bee5bde5bde5bce5bce5bbe5bbe5bae5bae5b9e5b9e5b8e5b8e5b7e5b7e5b6e5b6e5b5e5b5e5b4e5b4e5b3e5b3e5b2e5b2e5b1e5b1e5b0e5b0e5afe5afe5aee5aee5ade5ade5ace5ace5abe5abe5aae5aae5a9e5a9e5a8e5a8e5a7e5a7e5a6e5a6e5a5e5a5e5a4e5a3e5a3e5a2e5a2e5a1e5a1e5a0e5a0e59fe59fe59ee59ee59de59de59ce59ce59be59be59ae59ae599,
  0xe69ce69ce69be69ae69ae699e699e698e698e697e697e696e696e695e695e694e694e693e693e692e692e691e691e690e690e68fe68fe68ee68ee68de68de68ce68ce68be68be68ae68ae689e689e688e688e687e687e686e686e685e685e684e684e683e683e682e682e681e681e680e680e67fe67fe67ee67ee67de67de67ce67ce67be67be67ae67ae679e679e678e678e677e677e676e676e675e675e674e674e673e673e672e672e671e671e670e670e66fe66fe66ee66ee66de66de66ce66ce66be66be66ae66ae669e669e668e667e667e666e666e665e665e664e664e663e663e662e662e661e661e660e660e65fe65fe65ee65ee65de65de65ce65ce65be65be65ae65ae659e659e658e658e657e657e656e656e655e655e654e654e653e653e652e652e651e651e650e650e64fe64fe64ee64ee64de64de64ce64ce64be64be64ae64ae649e649e648e648e647e647e646e646e645e645e644e644e643e643e642e642e641e641e640e640e63fe63fe63ee63ee63de63de63ce63ce63be63ae63ae639e639e638e638e637e637e636e636e635e635e634e634e633e633e632e632e631e631e630e630e62fe62fe62ee62ee62de62de62ce62ce62be62be62ae62ae629e629e628e628e627e627e626e626e625e625e624e624e623e623e622e622e621e621e620e620e61fe61fe61ee61ee61de61de61ce61ce61b,
  0xe71de71de71ce71ce71be71be71ae71ae719e719e718e718e717e716e716e715e715e714e714e713e713e712e712e711e711e710e710e70fe70fe70ee70ee70de70de70ce70ce70be70be70ae70ae709e709e708e708e707e707e706e706e705e705e704e704e703e703e702e702e701e701e700e700e6ffe6ffe6fee6fee6fde6fde6fce6fce6fbe6fbe6fae6fae6f9e6f9e6f8e6f8e6f7e6f7e6f6e6f6e6f5e6f5e6f4e6f4e6f3e6f3e6f2e6f2e6f1e6f1e6f0e6f0e6efe6efe6eee6eee6ede6ede6ece6ece6ebe6ebe6eae6eae6e9e6e9e6e8e6e8e6e7e6e7e6e6e6e6e6e5e6e5e6e4e6e4e6e3e6e3e6e2e6e2e6e1e6e1e6e0e6e0e6dfe6dfe6dee6dee6dde6dde6dce6dce6dbe6dbe6dae6dae6d9e6d9e6d8e6d8e6d7e6d7e6d6e6d6e6d5e6d5e6d4e6d3e6d3e6d2e6d2e6d1e6d1e6d0e6d0e6cfe6cfe6cee6cee6cde6cde6cce6cce6cbe6cbe6cae6cae6c9e6c9e6c8e6c8e6c7e6c7e6c6e6c6e6c5e6c5e6c4e6c4e6c3e6c3e6c2e6c2e6c1e6c1e6c0e6c0e6bfe6bfe6bee6bee6bde6bde6bce6bce6bbe6bbe6bae6bae6b9e6b9e6b8e6b8e6b7e6b7e6b6e6b6e6b5e6b5e6b4e6b4e6b3e6b3e6b2e6b2e6b1e6b1e6b0e6b0e6afe6afe6aee6aee6ade6ade6ace6ace6abe6abe6aae6aae6a9e6a9e6a8e6a8e6a7e6a7e6a6e6a6e6a5e6a5e6a4e6a4e6a3e6a3e6a2e6a2e6a1e6a1e6a0e6a0e69fe69fe69ee69ee69de69d,
  0xe79ee79de79de79ce79ce79be79be79ae79ae799e799e798e798e797e797e796e796e795e795e794e794e793e793e792e792e791e791e790e790e78fe78fe78ee78ee78de78de78ce78ce78be78be78ae78ae789e789e788e788e787e787e786e786e785e785e784e784e783e783e782e782e781e781e780e780e77fe77fe77ee77ee77de77de77ce77ce77be77be77ae77ae779e779e778e778e777e777e776e776e775e775e774e774e773e773e772e772e771e771e770e76fe76fe76ee76ee76de76de76ce76ce76be76be76ae76ae769e769e768e768e767e767e766e766e765e765e764e764e763e763e762e762e761e761e760e760e75fe75fe75ee75ee75de75de75ce75ce75be75be75ae75ae759e759e758e758e757e757e756e756e755e755e754e754e753e753e752e752e751e751e750e750e74fe74fe74ee74ee74de74de74ce74ce74be74be74ae74ae749e749e748e748e747e747e746e746e745e745e744e744e743e743e742e742e741e741e740e740e73fe73fe73ee73ee73de73de73ce73ce73be73be73ae73ae739e739e738e738e737e737e736e736e735e735e734e734e733e733e732e732e731e731e730e730e72fe72fe72ee72ee72de72de72ce72ce72be72be72ae72ae729e729e728e728e727e727e726e726e725e725e724e724e723e723e722e722e721e721e720e720e71fe71fe71ee71e,
  0xe81ee81de81de81ce81ce81be81be81ae81ae819e819e818e818e817e817e816e816e815e815e814e814e813e813e812e812e811e811e810e810e80fe80fe80ee80ee80de80de80ce80ce80be80be80ae80ae809e809e808e808e807e807e806e806e805e805e804e804e803e803e802e802e801e801e800e800e7ffe7ffe7fee7fee7fde7fde7fce7fce7fbe7fbe7fae7fae7f9e7f9e7f8e7f8e7f7e7f7e7f6e7f6e7f5e7f5e7f4e7f4e7f3e7f3e7f2e7f2e7f1e7f1e7f0e7f0e7efe7efe7eee7eee7ede7ede7ece7ece7ebe7ebe7eae7eae7e9e7e9e7e8e7e8e7e7e7e7e7e6e7e6e7e5e7e5e7e4e7e4e7e3e7e3e7e2e7e2e7e1e7e1e7e0e7e0e7dfe7dfe7dee7dee7dde7dde7dce7dce7dbe7dbe7dae7dae7d9e7d9e7d8e7d8e7d7e7d7e7d6e7d6e7d5e7d5e7d4e7d4e7d3e7d3e7d2e7d2e7d1e7d1e7d0e7d0e7cfe7cfe7cee7cee7cde7cde7cce7cce7cbe7cbe7cae7cae7c9e7c9e7c8e7c8e7c7e7c7e7c6e7c6e7c5e7c5e7c4e7c4e7c3e7c3e7c2e7c2e7c1e7c1e7c0e7c0e7bfe7bfe7bee7bee7bde7bde7bce7bce7bbe7bbe7bae7bae7b9e7b9e7b8e7b8e7b7e7b7e7b6e7b6e7b5e7b5e7b4e7b4e7b3e7b3e7b2e7b2e7b1e7b1e7b0e7b0e7afe7afe7aee7aee7ade7ade7ace7ace7abe7abe7aae7aae7a9e7a9e7a8e7a8e7a7e7a7e7a6e7a6e7a5e7a5e7a4e7a4e7a3e7a3e7a2e7a2e7a1e7a1e7a0e7a0e79fe79fe79e,
  0xe89ee89de89de89ce89ce89be89be89ae89ae899e899e898e898e897e897e896e896e895e895e894e894e893e893e892e892e891e891e890e890e88fe88fe88ee88ee88de88de88ce88ce88be88be88ae88ae889e889e888e888e887e887e886e886e885e885e884e884e883e883e882e882e881e881e880e880e87fe87fe87ee87ee87de87de87ce87ce87be87be87ae87ae879e879e878e878e877e877e876e876e875e875e874e874e873e873e872e872e871e871e870e870e86fe86fe86ee86ee86de86de86ce86ce86be86be86ae86ae869e869e868e868e867e867e866e866e865e865e864e864e863e863e862e862e861e861e860e860e85fe85fe85ee85ee85de85de85ce85ce85be85be85ae85ae859e859e858e858e857e857e856e856e855e855e854e854e853e853e852e852e851e851e850e850e84fe84fe84ee84ee84de84de84ce84ce84be84be84ae84ae849e849e848e848e847e847e846e846e845e845e844e844e843e843e842e842e841e841e840e840e83fe83fe83ee83ee83de83de83ce83ce83be83be83ae83ae839e839e838e838e837e837e836e836e835e835e834e834e833e833e832e832e831e831e830e830e82fe82fe82ee82ee82de82de82ce82ce82be82be82ae82ae829e829e828e828e827e827e826e826e825e825e824e824e823e823e822e822e821e821e820e820e81fe81fe81e,
  0xe91de91de91ce91ce91be91be91ae91ae919e919e918e918e917e917e916e916e916e915e915e914e914e913e913e912e912e911e911e910e910e90fe90fe90ee90ee90de90de90ce90ce90be90be90ae90ae909e909e908e908e907e907e906e906e905e905e904e904e903e903e902e902e901e901e900e900e8ffe8ffe8fee8fee8fde8fde8fce8fce8fbe8fbe8fae8fae8f9e8f9e8f8e8f8e8f7e8f7e8f6e8f6e8f5e8f5e8f4e8f4e8f3e8f3e8f2e8f2e8f1e8f1e8f0e8f0e8efe8efe8eee8eee8ede8ede8ece8ece8ebe8ebe8eae8eae8e9e8e9e8e8e8e8e8e7e8e7e8e6e8e6e8e5e8e5e8e4e8e4e8e3e8e3e8e2e8e2e8e1e8e1e8e0e8e0e8dfe8dfe8dee8dee8dde8dde8dce8dce8dbe8dbe8dae8dae8d9e8d9e8d8e8d8e8d7e8d7e8d6e8d6e8d5e8d5e8d4e8d4e8d3e8d3e8d2e8d2e8d1e8d1e8d0e8d0e8cfe8cfe8cee8cee8cde8cde8cce8cce8cbe8cbe8cae8cae8c9e8c9e8c8e8c8e8c7e8c7e8c6e8c6e8c5e8c5e8c4e8c4e8c3e8c3e8c2e8c2e8c1e8c1e8c0e8c0e8bfe8bfe8bee8bee8bde8bde8bce8bce8bbe8bbe8bae8bae8b9e8b9e8b8e8b8e8b7e8b7e8b6e8b6e8b5e8b5e8b4e8b4e8b3e8b3e8b2e8b2e8b1e8b1e8b0e8b0e8afe8afe8aee8aee8ade8ade8ace8ace8abe8abe8aae8aae8a9e8a9e8a8e8a8e8a7e8a7e8a6e8a6e8a5e8a5e8a4e8a4e8a3e8a3e8a2e8a2e8a1e8a1e8a0e8a0e89fe89fe89e,
  0xe99de99ce99ce99be99be99ae99ae999e999e998e998e997e997e996e996e995e995e994e994e993e993e992e992e991e991e990e990e98fe98fe98ee98ee98de98de98ce98ce98be98be98ae98ae989e989e988e988e987e987e986e986e985e985e984e984e983e983e982e982e981e981e980e980e97fe97fe97ee97ee97de97de97ce97ce97be97be97ae97ae979e979e978e978e977e977e976e976e975e975e974e974e973e973e972e972e971e971e970e970e96fe96fe96ee96ee96ee96de96de96ce96ce96be96be96ae96ae969e969e968e968e967e967e966e966e965e965e964e964e963e963e962e962e961e961e960e960e95fe95fe95ee95ee95de95de95ce95ce95be95be95ae95ae959e959e958e958e957e957e956e956e955e955e954e954e953e953e952e952e951e951e950e950e94fe94fe94ee94ee94de94de94ce94ce94be94be94ae94ae949e949e948e948e947e947e946e946e945e945e944e944e943e943e942e942e941e941e940e940e93fe93fe93ee93ee93de93de93ce93ce93be93be93ae93ae939e939e938e938e937e937e936e936e935e935e934e934e933e933e932e932e931e931e930e930e92fe92fe92ee92ee92de92de92ce92ce92be92be92ae92ae929e929e928e928e927e927e926e926e925e925e924e924e923e923e922e922e921e921e920e920e91fe91fe91ee91e,
  0xea1cea1bea1bea1aea1aea19ea19ea18ea18ea17ea17ea16ea16ea15ea15ea14ea14ea13ea13ea12ea12ea11ea11ea10ea10ea0fea0fea0eea0eea0dea0dea0cea0cea0bea0bea0aea0aea09ea09ea08ea08ea07ea07ea06ea06ea05ea05ea04ea04ea03ea03ea02ea02ea01ea01ea00ea00e9ffe9ffe9fee9fee9fde9fde9fce9fce9fbe9fbe9fae9fae9f9e9f9e9f8e9f8e9f7e9f7e9f6e9f6e9f5e9f5e9f4e9f4e9f3e9f3e9f2e9f2e9f1e9f1e9f0e9f0e9efe9efe9eee9eee9ede9ede9ece9ece9ebe9ebe9ebe9eae9eae9e9e9e9e9e8e9e8e9e7e9e7e9e6e9e6e9e5e9e5e9e4e9e4e9e3e9e3e9e2e9e2e9e1e9e1e9e0e9e0e9dfe9dfe9dee9dee9dde9dde9dce9dce9dbe9dbe9dae9dae9d9e9d9e9d8e9d8e9d7e9d7e9d6e9d6e9d5e9d5e9d4e9d4e9d3e9d3e9d2e9d2e9d1e9d1e9d0e9d0e9cfe9cfe9cee9cee9cde9cde9cce9cce9cbe9cbe9cae9cae9c9e9c9e9c8e9c8e9c7e9c7e9c6e9c6e9c5e9c5e9c4e9c4e9c3e9c3e9c2e9c2e9c1e9c1e9c0e9c0e9bfe9bfe9bee9bee9bde9bde9bce9bce9bbe9bbe9bae9bae9b9e9b9e9b8e9b8e9b7e9b7e9b6e9b6e9b5e9b5e9b4e9b4e9b3e9b3e9b2e9b2e9b1e9b1e9b1e9b0e9b0e9afe9afe9aee9aee9ade9ade9ace9ace9abe9abe9aae9aae9a9e9a9e9a8e9a8e9a7e9a7e9a6e9a6e9a5e9a5e9a4e9a4e9a3e9a3e9a2e9a2e9a1e9a1e9a0e9a0e99fe99fe99ee99ee99d,
  0xea9aea9aea99ea99ea98ea98ea97ea97ea96ea96ea95ea95ea94ea94ea93ea93ea92ea92ea91ea91ea90ea90ea8fea8fea8eea8eea8dea8dea8cea8cea8bea8bea8aea8aea89ea89ea88ea88ea87ea87ea86ea86ea85ea85ea84ea84ea83ea83ea82ea82ea81ea81ea80ea80ea7fea7fea7eea7eea7dea7dea7cea7cea7bea7bea7aea7aea79ea79ea78ea78ea77ea77ea76ea76ea75ea75ea74ea74ea74ea73ea73ea72ea72ea71ea71ea70ea70ea6fea6fea6eea6eea6dea6dea6cea6cea6bea6bea6aea6aea69ea69ea68ea68ea67ea67ea66ea66ea65ea65ea64ea64ea63ea63ea62ea62ea61ea61ea60ea60ea5fea5fea5eea5eea5dea5dea5cea5cea5bea5bea5aea5aea59ea59ea58ea58ea57ea57ea56ea56ea55ea55ea54ea54ea53ea53ea52ea52ea51ea51ea50ea50ea4fea4fea4eea4eea4dea4dea4cea4cea4bea4bea4aea4aea4aea49ea49ea48ea48ea47ea47ea46ea46ea45ea45ea44ea44ea43ea43ea42ea42ea41ea41ea40ea40ea3fea3fea3eea3eea3dea3dea3cea3cea3bea3bea3aea3aea39ea39ea38ea38ea37ea37ea36ea36ea35ea35ea34ea34ea33ea33ea32ea32ea31ea31ea30ea30ea2fea2fea2eea2eea2dea2dea2cea2cea2bea2bea2aea2aea29ea29ea28ea28ea27ea27ea26ea26ea25ea25ea24ea24ea23ea23ea22ea22ea21ea21ea20ea20ea1fea1fea1eea1eea1dea1dea1dea1c,
  0xeb18eb18eb17eb17eb16eb16eb15eb15eb14eb14eb13eb13eb12eb12eb11eb11eb10eb10eb0feb0feb0eeb0eeb0deb0deb0ceb0ceb0beb0beb0aeb0aeb09eb09eb08eb08eb07eb07eb06eb06eb05eb05eb04eb04eb03eb03eb02eb02eb02eb01eb01eb00eb00eaffeaffeafeeafeeafdeafdeafceafceafbeafbeafaeafaeaf9eaf9eaf8eaf8eaf7eaf7eaf6eaf6eaf5eaf5eaf4eaf4eaf3eaf3eaf2eaf2eaf1eaf1eaf0eaf0eaefeaefeaeeeaeeeaedeaedeaeceaeceaebeaebeaeaeaeaeae9eae9eae8eae8eae7eae7eae6eae6eae5eae5eae4eae4eae3eae3eae2eae2eae1eae1eae1eae0eae0eadfeadfeadeeadeeaddeaddeadceadceadbeadbeadaeadaead9ead9ead8ead8ead7ead7ead6ead6ead5ead5ead4ead4ead3ead3ead2ead2ead1ead1ead0ead0eacfeacfeaceeaceeacdeacdeacceacceacbeacbeacaeacaeac9eac9eac8eac8eac7eac7eac6eac6eac5eac5eac4eac4eac3eac3eac2eac2eac1eac1eac0eac0eabfeabfeabeeabeeabeeabdeabdeabceabceabbeabbeabaeabaeab9eab9eab8eab8eab7eab7eab6eab6eab5eab5eab4eab4eab3eab3eab2eab2eab1eab1eab0eab0eaafeaafeaaeeaaeeaadeaadeaaceaaceaabeaabeaaaeaaaeaa9eaa9eaa8eaa8eaa7eaa7eaa6eaa6eaa5eaa5eaa4eaa4eaa3eaa3eaa2eaa2eaa1eaa1eaa0eaa0ea9fea9fea9eea9eea9dea9dea9cea9cea9bea9bea9a,
  0xeb96eb95eb95eb94eb94eb93eb93eb93eb92eb92eb91eb91eb90eb90eb8feb8feb8eeb8eeb8deb8deb8ceb8ceb8beb8beb8aeb8aeb89eb89eb88eb88eb87eb87eb86eb86eb85eb85eb84eb84eb83eb83eb82eb82eb81eb81eb80eb80eb7feb7feb7eeb7eeb7deb7deb7ceb7ceb7beb7beb7aeb7aeb79eb79eb78eb78eb78eb77eb77eb76eb76eb75eb75eb74eb74eb73eb73eb72eb72eb71eb71eb70eb70eb6feb6feb6eeb6eeb6deb6deb6ceb6ceb6beb6beb6aeb6aeb69eb69eb68eb68eb67eb67eb66eb66eb65eb65eb64eb64eb63eb63eb62eb62eb61eb61eb60eb60eb5feb5feb5eeb5eeb5deb5deb5ceb5ceb5ceb5beb5beb5aeb5aeb59eb59eb58eb58eb57eb57eb56eb56eb55eb55eb54eb54eb53eb53eb52eb52eb51eb51eb50eb50eb4feb4feb4eeb4eeb4deb4deb4ceb4ceb4beb4beb4aeb4aeb49eb49eb48eb48eb47eb47eb46eb46eb45eb45eb44eb44eb43eb43eb42eb42eb41eb41eb40eb40eb3feb3feb3feb3eeb3eeb3deb3deb3ceb3ceb3beb3beb3aeb3aeb39eb39eb38eb38eb37eb37eb36eb36eb35eb35eb34eb34eb33eb33eb32eb32eb31eb31eb30eb30eb2feb2feb2eeb2eeb2deb2deb2ceb2ceb2beb2beb2aeb2aeb29eb29eb28eb28eb27eb27eb26eb26eb25eb25eb24eb24eb23eb23eb22eb22eb21eb21eb21eb20eb20eb1feb1feb1eeb1eeb1deb1deb1ceb1ceb1beb1beb1aeb1aeb19eb19,
  0xec13ec13ec12ec12ec11ec11ec10ec10ec0fec0fec0eec0eec0eec0dec0dec0cec0cec0bec0bec0aec0aec09ec09ec08ec08ec07ec07ec06ec06ec05ec05ec04ec04ec03ec03ec02ec02ec01ec01ec00ec00ebffebffebfeebfeebfdebfdebfcebfcebfbebfbebfaebfaebf9ebf9ebf8ebf8ebf7ebf7ebf7ebf6ebf6ebf5ebf5ebf4ebf4ebf3ebf3ebf2ebf2ebf1ebf1ebf0ebf0ebefebefebeeebeeebedebedebecebecebebebebebeaebeaebe9ebe9ebe8ebe8ebe7ebe7ebe6ebe6ebe5ebe5ebe4ebe4ebe3ebe3ebe2ebe2ebe1ebe1ebe0ebe0ebdfebdfebdfebdeebdeebddebddebdcebdcebdbebdbebdaebdaebd9ebd9ebd8ebd8ebd7ebd7ebd6ebd6ebd5ebd5ebd4ebd4ebd3ebd3ebd2ebd2ebd1ebd1ebd0ebd0ebcfebcfebceebceebcdebcdebccebccebcbebcbebcaebcaebc9ebc9ebc8ebc8ebc7ebc7ebc6ebc6ebc6ebc5ebc5ebc4ebc4ebc3ebc3ebc2ebc2ebc1ebc1ebc0ebc0ebbfebbfebbeebbeebbdebbdebbcebbcebbbebbbebbaebbaebb9ebb9ebb8ebb8ebb7ebb7ebb6ebb6ebb5ebb5ebb4ebb4ebb3ebb3ebb2ebb2ebb1ebb1ebb0ebb0ebafebafebaeebaeebadebadebadebacebacebabebabebaaebaaeba9eba9eba8eba8eba7eba7eba6eba6eba5eba5eba4eba4eba3eba3eba2eba2eba1eba1eba0eba0eb9feb9feb9eeb9eeb9deb9deb9ceb9ceb9beb9beb9aeb9aeb99eb99eb98eb98eb97eb97eb96,
  0xec90ec90ec90ec8fec8fec8eec8eec8dec8dec8cec8cec8bec8bec8aec8aec89ec89ec88ec88ec87ec87ec86ec86ec85ec85ec84ec84ec83ec83ec82ec82ec81ec81ec80ec80ec7fec7fec7eec7eec7dec7dec7cec7cec7cec7bec7bec7aec7aec79ec79ec78ec78ec77ec77ec76ec76ec75ec75ec74ec74ec73ec73ec72ec72ec71ec71ec70ec70ec6fec6fec6eec6eec6dec6dec6cec6cec6bec6bec6aec6aec69ec69ec68ec68ec67ec67ec67ec66ec66ec65ec65ec64ec64ec63ec63ec62ec62ec61ec61ec60ec60ec5fec5fec5eec5eec5dec5dec5cec5cec5bec5bec5aec5aec59ec59ec58ec58ec57ec57ec56ec56ec55ec55ec54ec54ec53ec53ec52ec52ec51ec51ec51ec50ec50ec4fec4fec4eec4eec4dec4dec4cec4cec4bec4bec4aec4aec49ec49ec48ec48ec47ec47ec46ec46ec45ec45ec44ec44ec43ec43ec42ec42ec41ec41ec40ec40ec3fec3fec3eec3eec3dec3dec3cec3cec3bec3bec3bec3aec3aec39ec39ec38ec38ec37ec37ec36ec36ec35ec35ec34ec34ec33ec33ec32ec32ec31ec31ec30ec30ec2fec2fec2eec2eec2dec2dec2cec2cec2bec2bec2aec2aec29ec29ec28ec28ec27ec27ec26ec26ec25ec25ec25ec24ec24ec23ec23ec22ec22ec21ec21ec20ec20ec1fec1fec1eec1eec1dec1dec1cec1cec1bec1bec1aec1aec19ec19ec18ec18ec17ec17ec16ec16ec15ec15ec14ec14,
  0xed0ded0ded0ced0ced0bed0bed0aed0aed09ed09ed08ed08ed07ed07ed06ed06ed05ed05ed04ed04ed04ed03ed03ed02ed02ed01ed01ed00ed00ecffecffecfeecfeecfdecfdecfcecfcecfbecfbecfaecfaecf9ecf9ecf8ecf8ecf7ecf7ecf6ecf6ecf5ecf5ecf4ecf4ecf3ecf3ecf2ecf2ecf2ecf1ecf1ecf0ecf0ecefecefeceeeceeecedecedecececececebecebeceaeceaece9ece9ece8ece8ece7ece7ece6ece6ece5ece5ece4ece4ece3ece3ece2ece2ece1ece1ece0ece0ecdfecdfecdfecdeecdeecddecddecdcecdcecdbecdbecdaecdaecd9ecd9ecd8ecd8ecd7ecd7ecd6ecd6ecd5ecd5ecd4ecd4ecd3ecd3ecd2ecd2ecd1ecd1ecd0ecd0eccfeccfecceecceeccdeccdeccceccceccceccbeccbeccaeccaecc9ecc9ecc8ecc8ecc7ecc7ecc6ecc6ecc5ecc5ecc4ecc4ecc3ecc3ecc2ecc2ecc1ecc1ecc0ecc0ecbfecbfecbeecbeecbdecbdecbcecbcecbbecbbecbaecbaecb9ecb9ecb8ecb8ecb8ecb7ecb7ecb6ecb6ecb5ecb5ecb4ecb4ecb3ecb3ecb2ecb2ecb1ecb1ecb0ecb0ecafecafecaeecaeecadecadecacecacecabecabecaaecaaeca9eca9eca8eca8eca7eca7eca6eca6eca5eca5eca4eca4eca4eca3eca3eca2eca2eca1eca1eca0eca0ec9fec9fec9eec9eec9dec9dec9cec9cec9bec9bec9aec9aec99ec99ec98ec98ec97ec97ec96ec96ec95ec95ec94ec94ec93ec93ec92ec92ec91ec91,
  0xed8aed89ed89ed88ed88ed87ed87ed86ed86ed85ed85ed84ed84ed83ed83ed82ed82ed81ed81ed80ed80ed7fed7fed7fed7eed7eed7ded7ded7ced7ced7bed7bed7aed7aed79ed79ed78ed78ed77ed77ed76ed76ed75ed75ed74ed74ed73ed73ed72ed72ed71ed71ed70ed70ed6fed6fed6eed6eed6eed6ded6ded6ced6ced6bed6bed6aed6aed69ed69ed68ed68ed67ed67ed66ed66ed65ed65ed64ed64ed63ed63ed62ed62ed61ed61ed60ed60ed5fed5fed5eed5eed5ded5ded5ded5ced5ced5bed5bed5aed5aed59ed59ed58ed58ed57ed57ed56ed56ed55ed55ed54ed54ed53ed53ed52ed52ed51ed51ed50ed50ed4fed4fed4eed4eed4ded4ded4ced4ced4ced4bed4bed4aed4aed49ed49ed48ed48ed47ed47ed46ed46ed45ed45ed44ed44ed43ed43ed42ed42ed41ed41ed40ed40ed3fed3fed3eed3eed3ded3ded3ced3ced3bed3bed3aed3aed3aed39ed39ed38ed38ed37ed37ed36ed36ed35ed35ed34ed34ed33ed33ed32ed32ed31ed31ed30ed30ed2fed2fed2eed2eed2ded2ded2ced2ced2bed2bed2aed2aed29ed29ed29ed28ed28ed27ed27ed26ed26ed25ed25ed24ed24ed23ed23ed22ed22ed21ed21ed20ed20ed1fed1fed1eed1eed1ded1ded1ced1ced1bed1bed1aed1aed19ed19ed18ed18ed17ed17ed17ed16ed16ed15ed15ed14ed14ed13ed13ed12ed12ed11ed11ed10ed10ed0fed0fed0eed0e,
  0xee06ee05ee05ee04ee04ee03ee03ee02ee02ee01ee01ee00ee00edffedffedffedfeedfeedfdedfdedfcedfcedfbedfbedfaedfaedf9edf9edf8edf8edf7edf7edf6edf6edf5edf5edf4edf4edf3edf3edf2edf2edf1edf1edf0edf0edefedefedefedeeedeeedededededecedecedebedebedeaedeaede9ede9ede8ede8ede7ede7ede6ede6ede5ede5ede4ede4ede3ede3ede2ede2ede1ede1ede0ede0ede0eddfeddfeddeeddeedddedddeddceddceddbeddbeddaeddaedd9edd9edd8edd8edd7edd7edd6edd6edd5edd5edd4edd4edd3edd3edd2edd2edd1edd1edd0edd0edd0edcfedcfedceedceedcdedcdedccedccedcbedcbedcaedcaedc9edc9edc8edc8edc7edc7edc6edc6edc5edc5edc4edc4edc3edc3edc2edc2edc1edc1edc0edc0edc0edbfedbfedbeedbeedbdedbdedbcedbcedbbedbbedbaedbaedb9edb9edb8edb8edb7edb7edb6edb6edb5edb5edb4edb4edb3edb3edb2edb2edb1edb1edb0edb0edb0edafedafedaeedaeedadedadedacedacedabedabedaaedaaeda9eda9eda8eda8eda7eda7eda6eda6eda5eda5eda4eda4eda3eda3eda2eda2eda1eda1eda0eda0eda0ed9fed9fed9eed9eed9ded9ded9ced9ced9bed9bed9aed9aed99ed99ed98ed98ed97ed97ed96ed96ed95ed95ed94ed94ed93ed93ed92ed92ed91ed91ed90ed90ed90ed8fed8fed8eed8eed8ded8ded8ced8ced8bed8bed8a,
  0xee82ee81ee81ee80ee80ee7fee7fee7eee7eee7dee7dee7cee7cee7bee7bee7aee7aee79ee79ee78ee78ee77ee77ee76ee76ee75ee75ee74ee74ee74ee73ee73ee72ee72ee71ee71ee70ee70ee6fee6fee6eee6eee6dee6dee6cee6cee6bee6bee6aee6aee69ee69ee68ee68ee67ee67ee66ee66ee66ee65ee65ee64ee64ee63ee63ee62ee62ee61ee61ee60ee60ee5fee5fee5eee5eee5dee5dee5cee5cee5bee5bee5aee5aee59ee59ee58ee58ee58ee57ee57ee56ee56ee55ee55ee54ee54ee53ee53ee52ee52ee51ee51ee50ee50ee4fee4fee4eee4eee4dee4dee4cee4cee4bee4bee4aee4aee49ee49ee49ee48ee48ee47ee47ee46ee46ee45ee45ee44ee44ee43ee43ee42ee42ee41ee41ee40ee40ee3fee3fee3eee3eee3dee3dee3cee3cee3bee3bee3bee3aee3aee39ee39ee38ee38ee37ee37ee36ee36ee35ee35ee34ee34ee33ee33ee32ee32ee31ee31ee30ee30ee2fee2fee2eee2eee2dee2dee2cee2cee2cee2bee2bee2aee2aee29ee29ee28ee28ee27ee27ee26ee26ee25ee25ee24ee24ee23ee23ee22ee22ee21ee21ee20ee20ee1fee1fee1eee1eee1dee1dee1dee1cee1cee1bee1bee1aee1aee19ee19ee18ee18ee17ee17ee16ee16ee15ee15ee14ee14ee13ee13ee12ee12ee11ee11ee10ee10ee0fee0fee0eee0eee0eee0dee0dee0cee0cee0bee0bee0aee0aee09ee09ee08ee08ee07ee07ee06,
  0xeefdeefceefceefceefbeefbeefaeefaeef9eef9eef8eef8eef7eef7eef6eef6eef5eef5eef4eef4eef3eef3eef2eef2eef1eef1eef0eef0eeefeeefeeefeeeeeeeeeeedeeedeeeceeeceeebeeebeeeaeeeaeee9eee9eee8eee8eee7eee7eee6eee6eee5eee5eee4eee4eee3eee3eee2eee2eee2eee1eee1eee0eee0eedfeedfeedeeedeeeddeeddeedceedceedbeedbeedaeedaeed9eed9eed8eed8eed7eed7eed6eed6eed5eed5eed4eed4eed4eed3eed3eed2eed2eed1eed1eed0eed0eecfeecfeeceeeceeecdeecdeecceecceecbeecbeecaeecaeec9eec9eec8eec8eec7eec7eec7eec6eec6eec5eec5eec4eec4eec3eec3eec2eec2eec1eec1eec0eec0eebfeebfeebeeebeeebdeebdeebceebceebbeebbeebaeebaeeb9eeb9eeb9eeb8eeb8eeb7eeb7eeb6eeb6eeb5eeb5eeb4eeb4eeb3eeb3eeb2eeb2eeb1eeb1eeb0eeb0eeafeeafeeaeeeaeeeadeeadeeaceeaceeaceeabeeabeeaaeeaaeea9eea9eea8eea8eea7eea7eea6eea6eea5eea5eea4eea4eea3eea3eea2eea2eea1eea1eea0eea0ee9fee9fee9eee9eee9eee9dee9dee9cee9cee9bee9bee9aee9aee99ee99ee98ee98ee97ee97ee96ee96ee95ee95ee94ee94ee93ee93ee92ee92ee91ee91ee90ee90ee90ee8fee8fee8eee8eee8dee8dee8cee8cee8bee8bee8aee8aee89ee89ee88ee88ee87ee87ee86ee86ee85ee85ee84ee84ee83ee83ee82ee82,
  0xef78ef78ef77ef77ef76ef76ef75ef75ef74ef74ef73ef73ef72ef72ef71ef71ef70ef70ef6fef6fef6eef6eef6def6def6def6cef6cef6bef6bef6aef6aef69ef69ef68ef68ef67ef67ef66ef66ef65ef65ef64ef64ef63ef63ef62ef62ef61ef61ef61ef60ef60ef5fef5fef5eef5eef5def5def5cef5cef5bef5bef5aef5aef59ef59ef58ef58ef57ef57ef56ef56ef55ef55ef55ef54ef54ef53ef53ef52ef52ef51ef51ef50ef50ef4fef4fef4eef4eef4def4def4cef4cef4bef4bef4aef4aef49ef49ef48ef48ef48ef47ef47ef46ef46ef45ef45ef44ef44ef43ef43ef42ef42ef41ef41ef40ef40ef3fef3fef3eef3eef3def3def3cef3cef3cef3bef3bef3aef3aef39ef39ef38ef38ef37ef37ef36ef36ef35ef35ef34ef34ef33ef33ef32ef32ef31ef31ef30ef30ef2fef2fef2fef2eef2eef2def2def2cef2cef2bef2bef2aef2aef29ef29ef28ef28ef27ef27ef26ef26ef25ef25ef24ef24ef23ef23ef22ef22ef22ef21ef21ef20ef20ef1fef1fef1eef1eef1def1def1cef1cef1bef1bef1aef1aef19ef19ef18ef18ef17ef17ef16ef16ef16ef15ef15ef14ef14ef13ef13ef12ef12ef11ef11ef10ef10ef0fef0fef0eef0eef0def0def0cef0cef0bef0bef0aef0aef09ef09ef09ef08ef08ef07ef07ef06ef06ef05ef05ef04ef04ef03ef03ef02ef02ef01ef01ef00ef00eeffeeffeefeeefeeefd,
  0xeff3eff2eff2eff1eff1eff0eff0efefefefefefefeeefeeefedefedefecefecefebefebefeaefeaefe9efe9efe8efe8efe7efe7efe6efe6efe5efe5efe4efe4efe3efe3efe3efe2efe2efe1efe1efe0efe0efdfefdfefdeefdeefddefddefdcefdcefdbefdbefdaefdaefd9efd9efd8efd8efd8efd7efd7efd6efd6efd5efd5efd4efd4efd3efd3efd2efd2efd1efd1efd0efd0efcfefcfefceefceefcdefcdefccefccefccefcbefcbefcaefcaefc9efc9efc8efc8efc7efc7efc6efc6efc5efc5efc4efc4efc3efc3efc2efc2efc1efc1efc1efc0efc0efbfefbfefbeefbeefbdefbdefbcefbcefbbefbbefbaefbaefb9efb9efb8efb8efb7efb7efb6efb6efb5efb5efb5efb4efb4efb3efb3efb2efb2efb1efb1efb0efb0efafefafefaeefaeefadefadefacefacefabefabefaaefaaefa9efa9efa9efa8efa8efa7efa7efa6efa6efa5efa5efa4efa4efa3efa3efa2efa2efa1efa1efa0efa0ef9fef9fef9eef9eef9def9def9def9cef9cef9bef9bef9aef9aef99ef99ef98ef98ef97ef97ef96ef96ef95ef95ef94ef94ef93ef93ef92ef92ef91ef91ef91ef90ef90ef8fef8fef8eef8eef8def8def8cef8cef8bef8bef8aef8aef89ef89ef88ef88ef87ef87ef86ef86ef85ef85ef85ef84ef84ef83ef83ef82ef82ef81ef81ef80ef80ef7fef7fef7eef7eef7def7def7cef7cef7bef7bef7aef7aef79ef79ef79,
  0xf06df06df06cf06cf06bf06bf06af06af069f069f068f068f068f067f067f066f066f065f065f064f064f063f063f062f062f061f061f060f060f05ff05ff05ef05ef05ef05df05df05cf05cf05bf05bf05af05af059f059f058f058f057f057f056f056f055f055f054f054f053f053f053f052f052f051f051f050f050f04ff04ff04ef04ef04df04df04cf04cf04bf04bf04af04af049f049f048f048f048f047f047f046f046f045f045f044f044f043f043f042f042f041f041f040f040f03ff03ff03ef03ef03df03df03df03cf03cf03bf03bf03af03af039f039f038f038f037f037f036f036f035f035f034f034f033f033f032f032f032f031f031f030f030f02ff02ff02ef02ef02df02df02cf02cf02bf02bf02af02af029f029f028f028f027f027f027f026f026f025f025f024f024f023f023f022f022f021f021f020f020f01ff01ff01ef01ef01df01df01cf01cf01cf01bf01bf01af01af019f019f018f018f017f017f016f016f015f015f014f014f013f013f012f012f011f011f011f010f010f00ff00ff00ef00ef00df00df00cf00cf00bf00bf00af00af009f009f008f008f007f007f006f006f006f005f005f004f004f003f003f002f002f001f001f000f000efffefffeffeeffeeffdeffdeffceffceffbeffbeffaeffaeffaeff9eff9eff8eff8eff7eff7eff6eff6eff5eff5eff4eff4eff3,
  0xf0e7f0e7f0e6f0e6f0e5f0e5f0e5f0e4f0e4f0e3f0e3f0e2f0e2f0e1f0e1f0e0f0e0f0dff0dff0def0def0ddf0ddf0dcf0dcf0dbf0dbf0dbf0daf0daf0d9f0d9f0d8f0d8f0d7f0d7f0d6f0d6f0d5f0d5f0d4f0d4f0d3f0d3f0d2f0d2f0d1f0d1f0d1f0d0f0d0f0cff0cff0cef0cef0cdf0cdf0ccf0ccf0cbf0cbf0caf0caf0c9f0c9f0c8f0c8f0c7f0c7f0c7f0c6f0c6f0c5f0c5f0c4f0c4f0c3f0c3f0c2f0c2f0c1f0c1f0c0f0c0f0bff0bff0bef0bef0bdf0bdf0bdf0bcf0bcf0bbf0bbf0baf0baf0b9f0b9f0b8f0b8f0b7f0b7f0b6f0b6f0b5f0b5f0b4f0b4f0b3f0b3f0b2f0b2f0b2f0b1f0b1f0b0f0b0f0aff0aff0aef0aef0adf0adf0acf0acf0abf0abf0aaf0aaf0a9f0a9f0a8f0a8f0a8f0a7f0a7f0a6f0a6f0a5f0a5f0a4f0a4f0a3f0a3f0a2f0a2f0a1f0a1f0a0f0a0f09ff09ff09ef09ef09df09df09df09cf09cf09bf09bf09af09af099f099f098f098f097f097f096f096f095f095f094f094f093f093f093f092f092f091f091f090f090f08ff08ff08ef08ef08df08df08cf08cf08bf08bf08af08af089f089f088f088f088f087f087f086f086f085f085f084f084f083f083f082f082f081f081f080f080f07ff07ff07ef07ef07ef07df07df07cf07cf07bf07bf07af07af079f079f078f078f077f077f076f076f075f075f074f074f073f073f073f072f072f071f071f070f070f06ff06ff06ef06e,
  0xf161f161f160f160f15ff15ff15ef15ef15df15df15cf15cf15cf15bf15bf15af15af159f159f158f158f157f157f156f156f155f155f154f154f153f153f152f152f152f151f151f150f150f14ff14ff14ef14ef14df14df14cf14cf14bf14bf14af14af149f149f148f148f148f147f147f146f146f145f145f144f144f143f143f142f142f141f141f140f140f13ff13ff13ff13ef13ef13df13df13cf13cf13bf13bf13af13af139f139f138f138f137f137f136f136f135f135f135f134f134f133f133f132f132f131f131f130f130f12ff12ff12ef12ef12df12df12cf12cf12bf12bf12bf12af12af129f129f128f128f127f127f126f126f125f125f124f124f123f123f122f122f121f121f121f120f120f11ff11ff11ef11ef11df11df11cf11cf11bf11bf11af11af119f119f118f118f117f117f117f116f116f115f115f114f114f113f113f112f112f111f111f110f110f10ff10ff10ef10ef10ef10df10df10cf10cf10bf10bf10af10af109f109f108f108f107f107f106f106f105f105f104f104f104f103f103f102f102f101f101f100f100f0fff0fff0fef0fef0fdf0fdf0fcf0fcf0fbf0fbf0faf0faf0faf0f9f0f9f0f8f0f8f0f7f0f7f0f6f0f6f0f5f0f5f0f4f0f4f0f3f0f3f0f2f0f2f0f1f0f1f0f0f0f0f0f0f0eff0eff0eef0eef0edf0edf0ecf0ecf0ebf0ebf0eaf0eaf0e9f0e9f0e8f0e8,
  0xf1dbf1daf1daf1d9f1d9f1d8f1d8f1d7f1d7f1d6f1d6f1d5f1d5f1d5f1d4f1d4f1d3f1d3f1d2f1d2f1d1f1d1f1d0f1d0f1cff1cff1cef1cef1cdf1cdf1ccf1ccf1ccf1cbf1cbf1caf1caf1c9f1c9f1c8f1c8f1c7f1c7f1c6f1c6f1c5f1c5f1c4f1c4f1c3f1c3f1c3f1c2f1c2f1c1f1c1f1c0f1c0f1bff1bff1bef1bef1bdf1bdf1bcf1bcf1bbf1bbf1baf1baf1baf1b9f1b9f1b8f1b8f1b7f1b7f1b6f1b6f1b5f1b5f1b4f1b4f1b3f1b3f1b2f1b2f1b1f1b1f1b1f1b0f1b0f1aff1aff1aef1aef1adf1adf1acf1acf1abf1abf1aaf1aaf1a9f1a9f1a8f1a8f1a7f1a7f1a7f1a6f1a6f1a5f1a5f1a4f1a4f1a3f1a3f1a2f1a2f1a1f1a1f1a0f1a0f19ff19ff19ef19ef19ef19df19df19cf19cf19bf19bf19af19af199f199f198f198f197f197f196f196f195f195f195f194f194f193f193f192f192f191f191f190f190f18ff18ff18ef18ef18df18df18cf18cf18bf18bf18bf18af18af189f189f188f188f187f187f186f186f185f185f184f184f183f183f182f182f182f181f181f180f180f17ff17ff17ef17ef17df17df17cf17cf17bf17bf17af17af179f179f178f178f178f177f177f176f176f175f175f174f174f173f173f172f172f171f171f170f170f16ff16ff16ff16ef16ef16df16df16cf16cf16bf16bf16af16af169f169f168f168f167f167f166f166f165f165f165f164f164f163f163f162f162,
  0xf254f253f253f252f252f252f251f251f250f250f24ff24ff24ef24ef24df24df24cf24cf24bf24bf24af24af249f249f249f248f248f247f247f246f246f245f245f244f244f243f243f242f242f241f241f240f240f240f23ff23ff23ef23ef23df23df23cf23cf23bf23bf23af23af239f239f238f238f238f237f237f236f236f235f235f234f234f233f233f232f232f231f231f230f230f22ff22ff22ff22ef22ef22df22df22cf22cf22bf22bf22af22af229f229f228f228f227f227f226f226f226f225f225f224f224f223f223f222f222f221f221f220f220f21ff21ff21ef21ef21df21df21df21cf21cf21bf21bf21af21af219f219f218f218f217f217f216f216f215f215f214f214f214f213f213f212f212f211f211f210f210f20ff20ff20ef20ef20df20df20cf20cf20bf20bf20bf20af20af209f209f208f208f207f207f206f206f205f205f204f204f203f203f202f202f202f201f201f200f200f1fff1fff1fef1fef1fdf1fdf1fcf1fcf1fbf1fbf1faf1faf1f9f1f9f1f9f1f8f1f8f1f7f1f7f1f6f1f6f1f5f1f5f1f4f1f4f1f3f1f3f1f2f1f2f1f1f1f1f1f0f1f0f1f0f1eff1eff1eef1eef1edf1edf1ecf1ecf1ebf1ebf1eaf1eaf1e9f1e9f1e8f1e8f1e7f1e7f1e7f1e6f1e6f1e5f1e5f1e4f1e4f1e3f1e3f1e2f1e2f1e1f1e1f1e0f1e0f1dff1dff1def1def1def1ddf1ddf1dcf1dcf1db,
  0xf2cdf2ccf2ccf2cbf2cbf2caf2caf2c9f2c9f2c9f2c8f2c8f2c7f2c7f2c6f2c6f2c5f2c5f2c4f2c4f2c3f2c3f2c2f2c2f2c1f2c1f2c0f2c0f2c0f2bff2bff2bef2bef2bdf2bdf2bcf2bcf2bbf2bbf2baf2baf2b9f2b9f2b8f2b8f2b8f2b7f2b7f2b6f2b6f2b5f2b5f2b4f2b4f2b3f2b3f2b2f2b2f2b1f2b1f2b0f2b0f2aff2aff2aff2aef2aef2adf2adf2acf2acf2abf2abf2aaf2aaf2a9f2a9f2a8f2a8f2a7f2a7f2a7f2a6f2a6f2a5f2a5f2a4f2a4f2a3f2a3f2a2f2a2f2a1f2a1f2a0f2a0f29ff29ff29ff29ef29ef29df29df29cf29cf29bf29bf29af29af299f299f298f298f297f297f296f296f296f295f295f294f294f293f293f292f292f291f291f290f290f28ff28ff28ef28ef28ef28df28df28cf28cf28bf28bf28af28af289f289f288f288f287f287f286f286f285f285f285f284f284f283f283f282f282f281f281f280f280f27ff27ff27ef27ef27df27df27df27cf27cf27bf27bf27af27af279f279f278f278f277f277f276f276f275f275f274f274f274f273f273f272f272f271f271f270f270f26ff26ff26ef26ef26df26df26cf26cf26cf26bf26bf26af26af269f269f268f268f267f267f266f266f265f265f264f264f263f263f263f262f262f261f261f260f260f25ff25ff25ef25ef25df25df25cf25cf25bf25bf25af25af25af259f259f258f258f257f257f256f256f255f255f254,
  0xf345f345f344f344f343f343f342f342f342f341f341f340f340f33ff33ff33ef33ef33df33df33cf33cf33bf33bf33af33af33af339f339f338f338f337f337f336f336f335f335f334f334f333f333f332f332f332f331f331f330f330f32ff32ff32ef32ef32df32df32cf32cf32bf32bf32af32af32af329f329f328f328f327f327f326f326f325f325f324f324f323f323f322f322f322f321f321f320f320f31ff31ff31ef31ef31df31df31cf31cf31bf31bf31af31af31af319f319f318f318f317f317f316f316f315f315f314f314f313f313f312f312f312f311f311f310f310f30ff30ff30ef30ef30df30df30cf30cf30bf30bf30af30af30af309f309f308f308f307f307f306f306f305f305f304f304f303f303f302f302f302f301f301f300f300f2fff2fff2fef2fef2fdf2fdf2fcf2fcf2fbf2fbf2faf2faf2faf2f9f2f9f2f8f2f8f2f7f2f7f2f6f2f6f2f5f2f5f2f4f2f4f2f3f2f3f2f2f2f2f2f2f2f1f2f1f2f0f2f0f2eff2eff2eef2eef2edf2edf2ecf2ecf2ebf2ebf2eaf2eaf2eaf2e9f2e9f2e8f2e8f2e7f2e7f2e6f2e6f2e5f2e5f2e4f2e4f2e3f2e3f2e2f2e2f2e1f2e1f2e1f2e0f2e0f2dff2dff2def2def2ddf2ddf2dcf2dcf2dbf2dbf2daf2daf2d9f2d9f2d9f2d8f2d8f2d7f2d7f2d6f2d6f2d5f2d5f2d4f2d4f2d3f2d3f2d2f2d2f2d1f2d1f2d1f2d0f2d0f2cff2cff2cef2cef2cd,
  0xf3bef3bdf3bdf3bcf3bcf3bbf3bbf3baf3baf3b9f3b9f3b8f3b8f3b7f3b7f3b7f3b6f3b6f3b5f3b5f3b4f3b4f3b3f3b3f3b2f3b2f3b1f3b1f3b0f3b0f3aff3aff3aff3aef3aef3adf3adf3acf3acf3abf3abf3aaf3aaf3a9f3a9f3a8f3a8f3a7f3a7f3a7f3a6f3a6f3a5f3a5f3a4f3a4f3a3f3a3f3a2f3a2f3a1f3a1f3a0f3a0f3a0f39ff39ff39ef39ef39df39df39cf39cf39bf39bf39af39af399f399f398f398f398f397f397f396f396f395f395f394f394f393f393f392f392f391f391f390f390f390f38ff38ff38ef38ef38df38df38cf38cf38bf38bf38af38af389f389f389f388f388f387f387f386f386f385f385f384f384f383f383f382f382f381f381f381f380f380f37ff37ff37ef37ef37df37df37cf37cf37bf37bf37af37af379f379f379f378f378f377f377f376f376f375f375f374f374f373f373f372f372f371f371f371f370f370f36ff36ff36ef36ef36df36df36cf36cf36bf36bf36af36af36af369f369f368f368f367f367f366f366f365f365f364f364f363f363f362f362f362f361f361f360f360f35ff35ff35ef35ef35df35df35cf35cf35bf35bf35af35af35af359f359f358f358f357f357f356f356f355f355f354f354f353f353f352f352f352f351f351f350f350f34ff34ff34ef34ef34df34df34cf34cf34bf34bf34af34af34af349f349f348f348f347f347f346f346,
  0xf435f435f435f434f434f433f433f432f432f431f431f430f430f42ff42ff42ef42ef42ef42df42df42cf42cf42bf42bf42af42af429f429f428f428f427f427f427f426f426f425f425f424f424f423f423f422f422f421f421f420f420f41ff41ff41ff41ef41ef41df41df41cf41cf41bf41bf41af41af419f419f418f418f418f417f417f416f416f415f415f414f414f413f413f412f412f411f411f411f410f410f40ff40ff40ef40ef40df40df40cf40cf40bf40bf40af40af409f409f409f408f408f407f407f406f406f405f405f404f404f403f403f402f402f402f401f401f400f400f3fff3fff3fef3fef3fdf3fdf3fcf3fcf3fbf3fbf3faf3faf3faf3f9f3f9f3f8f3f8f3f7f3f7f3f6f3f6f3f5f3f5f3f4f3f4f3f3f3f3f3f3f3f2f3f2f3f1f3f1f3f0f3f0f3eff3eff3eef3eef3edf3edf3ecf3ecf3ebf3ebf3ebf3eaf3eaf3e9f3e9f3e8f3e8f3e7f3e7f3e6f3e6f3e5f3e5f3e4f3e4f3e4f3e3f3e3f3e2f3e2f3e1f3e1f3e0f3e0f3dff3dff3def3def3ddf3ddf3dcf3dcf3dcf3dbf3dbf3daf3daf3d9f3d9f3d8f3d8f3d7f3d7f3d6f3d6f3d5f3d5f3d5f3d4f3d4f3d3f3d3f3d2f3d2f3d1f3d1f3d0f3d0f3cff3cff3cef3cef3cdf3cdf3cdf3ccf3ccf3cbf3cbf3caf3caf3c9f3c9f3c8f3c8f3c7f3c7f3c6f3c6f3c6f3c5f3c5f3c4f3c4f3c3f3c3f3c2f3c2f3c1f3c1f3c0f3c0f3bff3bff3bef3be,
  0xf4adf4adf4acf4acf4abf4abf4aaf4aaf4a9f4a9f4a8f4a8f4a8f4a7f4a7f4a6f4a6f4a5f4a5f4a4f4a4f4a3f4a3f4a2f4a2f4a1f4a1f4a1f4a0f4a0f49ff49ff49ef49ef49df49df49cf49cf49bf49bf49af49af49af499f499f498f498f497f497f496f496f495f495f494f494f493f493f493f492f492f491f491f490f490f48ff48ff48ef48ef48df48df48cf48cf48cf48bf48bf48af48af489f489f488f488f487f487f486f486f485f485f484f484f484f483f483f482f482f481f481f480f480f47ff47ff47ef47ef47df47df47df47cf47cf47bf47bf47af47af479f479f478f478f477f477f476f476f476f475f475f474f474f473f473f472f472f471f471f470f470f46ff46ff46ff46ef46ef46df46df46cf46cf46bf46bf46af46af469f469f468f468f468f467f467f466f466f465f465f464f464f463f463f462f462f461f461f461f460f460f45ff45ff45ef45ef45df45df45cf45cf45bf45bf45af45af459f459f459f458f458f457f457f456f456f455f455f454f454f453f453f452f452f452f451f451f450f450f44ff44ff44ef44ef44df44df44cf44cf44bf44bf44bf44af44af449f449f448f448f447f447f446f446f445f445f444f444f444f443f443f442f442f441f441f440f440f43ff43ff43ef43ef43df43df43df43cf43cf43bf43bf43af43af439f439f438f438f437f437f436f436,
  0xf524f524f524f523f523f522f522f521f521f520f520f51ff51ff51ef51ef51df51df51df51cf51cf51bf51bf51af51af519f519f518f518f517f517f516f516f516f515f515f514f514f513f513f512f512f511f511f510f510f510f50ff50ff50ef50ef50df50df50cf50cf50bf50bf50af50af509f509f509f508f508f507f507f506f506f505f505f504f504f503f503f502f502f502f501f501f500f500f4fff4fff4fef4fef4fdf4fdf4fcf4fcf4fbf4fbf4fbf4faf4faf4f9f4f9f4f8f4f8f4f7f4f7f4f6f4f6f4f5f4f5f4f4f4f4f4f4f4f3f4f3f4f2f4f2f4f1f4f1f4f0f4f0f4eff4eff4eef4eef4edf4edf4edf4ecf4ecf4ebf4ebf4eaf4eaf4e9f4e9f4e8f4e8f4e7f4e7f4e6f4e6f4e6f4e5f4e5f4e4f4e4f4e3f4e3f4e2f4e2f4e1f4e1f4e0f4e0f4e0f4dff4dff4def4def4ddf4ddf4dcf4dcf4dbf4dbf4daf4daf4d9f4d9f4d9f4d8f4d8f4d7f4d7f4d6f4d6f4d5f4d5f4d4f4d4f4d3f4d3f4d2f4d2f4d2f4d1f4d1f4d0f4d0f4cff4cff4cef4cef4cdf4cdf4ccf4ccf4cbf4cbf4cbf4caf4caf4c9f4c9f4c8f4c8f4c7f4c7f4c6f4c6f4c5f4c5f4c4f4c4f4c4f4c3f4c3f4c2f4c2f4c1f4c1f4c0f4c0f4bff4bff4bef4bef4bdf4bdf4bdf4bcf4bcf4bbf4bbf4baf4baf4b9f4b9f4b8f4b8f4b7f4b7f4b6f4b6f4b6f4b5f4b5f4b4f4b4f4b3f4b3f4b2f4b2f4b1f4b1f4b0f4b0f4aff4aff4aff4aef4ae,
  0xf59bf59bf59bf59af59af599f599f598f598f597f597f596f596f595f595f595f594f594f593f593f592f592f591f591f590f590f58ff58ff58ef58ef58ef58df58df58cf58cf58bf58bf58af58af589f589f588f588f588f587f587f586f586f585f585f584f584f583f583f582f582f581f581f581f580f580f57ff57ff57ef57ef57df57df57cf57cf57bf57bf57bf57af57af579f579f578f578f577f577f576f576f575f575f574f574f574f573f573f572f572f571f571f570f570f56ff56ff56ef56ef56df56df56df56cf56cf56bf56bf56af56af569f569f568f568f567f567f567f566f566f565f565f564f564f563f563f562f562f561f561f560f560f560f55ff55ff55ef55ef55df55df55cf55cf55bf55bf55af55af55af559f559f558f558f557f557f556f556f555f555f554f554f553f553f553f552f552f551f551f550f550f54ff54ff54ef54ef54df54df54cf54cf54cf54bf54bf54af54af549f549f548f548f547f547f546f546f546f545f545f544f544f543f543f542f542f541f541f540f540f53ff53ff53ff53ef53ef53df53df53cf53cf53bf53bf53af53af539f539f538f538f538f537f537f536f536f535f535f534f534f533f533f532f532f531f531f531f530f530f52ff52ff52ef52ef52df52df52cf52cf52bf52bf52bf52af52af529f529f528f528f527f527f526f526f525f525,
  0xf612f612f611f611f610f610f60ff60ff60ff60ef60ef60df60df60cf60cf60bf60bf60af60af609f609f608f608f608f607f607f606f606f605f605f604f604f603f603f602f602f602f601f601f600f600f5fff5fff5fef5fef5fdf5fdf5fcf5fcf5fcf5fbf5fbf5faf5faf5f9f5f9f5f8f5f8f5f7f5f7f5f6f5f6f5f5f5f5f5f5f5f4f5f4f5f3f5f3f5f2f5f2f5f1f5f1f5f0f5f0f5eff5eff5eff5eef5eef5edf5edf5ecf5ecf5ebf5ebf5eaf5eaf5e9f5e9f5e9f5e8f5e8f5e7f5e7f5e6f5e6f5e5f5e5f5e4f5e4f5e3f5e3f5e2f5e2f5e2f5e1f5e1f5e0f5e0f5dff5dff5def5def5ddf5ddf5dcf5dcf5dcf5dbf5dbf5daf5daf5d9f5d9f5d8f5d8f5d7f5d7f5d6f5d6f5d6f5d5f5d5f5d4f5d4f5d3f5d3f5d2f5d2f5d1f5d1f5d0f5d0f5cff5cff5cff5cef5cef5cdf5cdf5ccf5ccf5cbf5cbf5caf5caf5c9f5c9f5c9f5c8f5c8f5c7f5c7f5c6f5c6f5c5f5c5f5c4f5c4f5c3f5c3f5c2f5c2f5c2f5c1f5c1f5c0f5c0f5bff5bff5bef5bef5bdf5bdf5bcf5bcf5bcf5bbf5bbf5baf5baf5b9f5b9f5b8f5b8f5b7f5b7f5b6f5b6f5b5f5b5f5b5f5b4f5b4f5b3f5b3f5b2f5b2f5b1f5b1f5b0f5b0f5aff5aff5aff5aef5aef5adf5adf5acf5acf5abf5abf5aaf5aaf5a9f5a9f5a8f5a8f5a8f5a7f5a7f5a6f5a6f5a5f5a5f5a4f5a4f5a3f5a3f5a2f5a2f5a2f5a1f5a1f5a0f5a0f59ff59ff59ef59ef59df59df59cf59c,
  0xf689f688f688f687f687f686f686f685f685f685f684f684f683f683f682f682f681f681f680f680f67ff67ff67ff67ef67ef67df67df67cf67cf67bf67bf67af67af679f679f678f678f678f677f677f676f676f675f675f674f674f673f673f672f672f672f671f671f670f670f66ff66ff66ef66ef66df66df66cf66cf66cf66bf66bf66af66af669f669f668f668f667f667f666f666f666f665f665f664f664f663f663f662f662f661f661f660f660f660f65ff65ff65ef65ef65df65df65cf65cf65bf65bf65af65af65af659f659f658f658f657f657f656f656f655f655f654f654f653f653f653f652f652f651f651f650f650f64ff64ff64ef64ef64df64df64df64cf64cf64bf64bf64af64af649f649f648f648f647f647f647f646f646f645f645f644f644f643f643f642f642f641f641f641f640f640f63ff63ff63ef63ef63df63df63cf63cf63bf63bf63bf63af63af639f639f638f638f637f637f636f636f635f635f634f634f634f633f633f632f632f631f631f630f630f62ff62ff62ef62ef62ef62df62df62cf62cf62bf62bf62af62af629f629f628f628f628f627f627f626f626f625f625f624f624f623f623f622f622f622f621f621f620f620f61ff61ff61ef61ef61df61df61cf61cf61bf61bf61bf61af61af619f619f618f618f617f617f616f616f615f615f615f614f614f613f613,
  0xf6fff6fef6fef6fdf6fdf6fdf6fcf6fcf6fbf6fbf6faf6faf6f9f6f9f6f8f6f8f6f7f6f7f6f7f6f6f6f6f6f5f6f5f6f4f6f4f6f3f6f3f6f2f6f2f6f1f6f1f6f1f6f0f6f0f6eff6eff6eef6eef6edf6edf6ecf6ecf6ebf6ebf6ebf6eaf6eaf6e9f6e9f6e8f6e8f6e7f6e7f6e6f6e6f6e5f6e5f6e5f6e4f6e4f6e3f6e3f6e2f6e2f6e1f6e1f6e0f6e0f6dff6dff6dff6def6def6ddf6ddf6dcf6dcf6dbf6dbf6daf6daf6d9f6d9f6d9f6d8f6d8f6d7f6d7f6d6f6d6f6d5f6d5f6d4f6d4f6d3f6d3f6d3f6d2f6d2f6d1f6d1f6d0f6d0f6cff6cff6cef6cef6cdf6cdf6cdf6ccf6ccf6cbf6cbf6caf6caf6c9f6c9f6c8f6c8f6c7f6c7f6c7f6c6f6c6f6c5f6c5f6c4f6c4f6c3f6c3f6c2f6c2f6c1f6c1f6c1f6c0f6c0f6bff6bff6bef6bef6bdf6bdf6bcf6bcf6bbf6bbf6bbf6baf6baf6b9f6b9f6b8f6b8f6b7f6b7f6b6f6b6f6b5f6b5f6b5f6b4f6b4f6b3f6b3f6b2f6b2f6b1f6b1f6b0f6b0f6aff6aff6aff6aef6aef6adf6adf6acf6acf6abf6abf6aaf6aaf6a9f6a9f6a9f6a8f6a8f6a7f6a7f6a6f6a6f6a5f6a5f6a4f6a4f6a3f6a3f6a3f6a2f6a2f6a1f6a1f6a0f6a0f69ff69ff69ef69ef69df69df69df69cf69cf69bf69bf69af69af699f699f698f698f697f697f697f696f696f695f695f694f694f693f693f692f692f691f691f691f690f690f68ff68ff68ef68ef68df68df68cf68cf68bf68bf68bf68af68af689,
  0xf775f774f774f773f773f772f772f771f771f771f770f770f76ff76ff76ef76ef76df76df76cf76cf76bf76bf76bf76af76af769f769f768f768f767f767f766f766f766f765f765f764f764f763f763f762f762f761f761f760f760f760f75ff75ff75ef75ef75df75df75cf75cf75bf75bf75af75af75af759f759f758f758f757f757f756f756f755f755f754f754f754f753f753f752f752f751f751f750f750f74ff74ff74ef74ef74ef74df74df74cf74cf74bf74bf74af74af749f749f749f748f748f747f747f746f746f745f745f744f744f743f743f743f742f742f741f741f740f740f73ff73ff73ef73ef73df73df73df73cf73cf73bf73bf73af73af739f739f738f738f737f737f737f736f736f735f735f734f734f733f733f732f732f731f731f731f730f730f72ff72ff72ef72ef72df72df72cf72cf72cf72bf72bf72af72af729f729f728f728f727f727f726f726f726f725f725f724f724f723f723f722f722f721f721f720f720f720f71ff71ff71ef71ef71df71df71cf71cf71bf71bf71af71af71af719f719f718f718f717f717f716f716f715f715f714f714f714f713f713f712f712f711f711f710f710f70ff70ff70ef70ef70ef70df70df70cf70cf70bf70bf70af70af709f709f709f708f708f707f707f706f706f705f705f704f704f703f703f703f702f702f701f701f700f700f6ff,
  0xf7eaf7eaf7e9f7e9f7e8f7e8f7e7f7e7f7e7f7e6f7e6f7e5f7e5f7e4f7e4f7e3f7e3f7e2f7e2f7e2f7e1f7e1f7e0f7e0f7dff7dff7def7def7ddf7ddf7dcf7dcf7dcf7dbf7dbf7daf7daf7d9f7d9f7d8f7d8f7d7f7d7f7d7f7d6f7d6f7d5f7d5f7d4f7d4f7d3f7d3f7d2f7d2f7d1f7d1f7d1f7d0f7d0f7cff7cff7cef7cef7cdf7cdf7ccf7ccf7cbf7cbf7cbf7caf7caf7c9f7c9f7c8f7c8f7c7f7c7f7c6f7c6f7c6f7c5f7c5f7c4f7c4f7c3f7c3f7c2f7c2f7c1f7c1f7c0f7c0f7c0f7bff7bff7bef7bef7bdf7bdf7bcf7bcf7bbf7bbf7bbf7baf7baf7b9f7b9f7b8f7b8f7b7f7b7f7b6f7b6f7b5f7b5f7b5f7b4f7b4f7b3f7b3f7b2f7b2f7b1f7b1f7b0f7b0f7aff7aff7aff7aef7aef7adf7adf7acf7acf7abf7abf7aaf7aaf7aaf7a9f7a9f7a8f7a8f7a7f7a7f7a6f7a6f7a5f7a5f7a4f7a4f7a4f7a3f7a3f7a2f7a2f7a1f7a1f7a0f7a0f79ff79ff79ef79ef79ef79df79df79cf79cf79bf79bf79af79af799f799f799f798f798f797f797f796f796f795f795f794f794f793f793f793f792f792f791f791f790f790f78ff78ff78ef78ef78df78df78df78cf78cf78bf78bf78af78af789f789f788f788f788f787f787f786f786f785f785f784f784f783f783f782f782f782f781f781f780f780f77ff77ff77ef77ef77df77df77cf77cf77cf77bf77bf77af77af779f779f778f778f777f777f777f776f776f775,
  0xf860f85ff85ff85ef85ef85df85df85cf85cf85bf85bf85af85af85af859f859f858f858f857f857f856f856f855f855f855f854f854f853f853f852f852f851f851f850f850f850f84ff84ff84ef84ef84df84df84cf84cf84bf84bf84af84af84af849f849f848f848f847f847f846f846f845f845f845f844f844f843f843f842f842f841f841f840f840f83ff83ff83ff83ef83ef83df83df83cf83cf83bf83bf83af83af83af839f839f838f838f837f837f836f836f835f835f834f834f834f833f833f832f832f831f831f830f830f82ff82ff82ff82ef82ef82df82df82cf82cf82bf82bf82af82af829f829f829f828f828f827f827f826f826f825f825f824f824f824f823f823f822f822f821f821f820f820f81ff81ff81ff81ef81ef81df81df81cf81cf81bf81bf81af81af819f819f819f818f818f817f817f816f816f815f815f814f814f814f813f813f812f812f811f811f810f810f80ff80ff80ef80ef80ef80df80df80cf80cf80bf80bf80af80af809f809f809f808f808f807f807f806f806f805f805f804f804f803f803f803f802f802f801f801f800f800f7fff7fff7fef7fef7fef7fdf7fdf7fcf7fcf7fbf7fbf7faf7faf7f9f7f9f7f8f7f8f7f8f7f7f7f7f7f6f7f6f7f5f7f5f7f4f7f4f7f3f7f3f7f2f7f2f7f2f7f1f7f1f7f0f7f0f7eff7eff7eef7eef7edf7edf7edf7ecf7ecf7ebf7eb,
  0xf8d5f8d4f8d4f8d3f8d3f8d2f8d2f8d1f8d1f8d0f8d0f8cff8cff8cff8cef8cef8cdf8cdf8ccf8ccf8cbf8cbf8caf8caf8caf8c9f8c9f8c8f8c8f8c7f8c7f8c6f8c6f8c5f8c5f8c5f8c4f8c4f8c3f8c3f8c2f8c2f8c1f8c1f8c0f8c0f8c0f8bff8bff8bef8bef8bdf8bdf8bcf8bcf8bbf8bbf8baf8baf8baf8b9f8b9f8b8f8b8f8b7f8b7f8b6f8b6f8b5f8b5f8b5f8b4f8b4f8b3f8b3f8b2f8b2f8b1f8b1f8b0f8b0f8b0f8aff8aff8aef8aef8adf8adf8acf8acf8abf8abf8abf8aaf8aaf8a9f8a9f8a8f8a8f8a7f8a7f8a6f8a6f8a5f8a5f8a5f8a4f8a4f8a3f8a3f8a2f8a2f8a1f8a1f8a0f8a0f8a0f89ff89ff89ef89ef89df89df89cf89cf89bf89bf89bf89af89af899f899f898f898f897f897f896f896f895f895f895f894f894f893f893f892f892f891f891f890f890f890f88ff88ff88ef88ef88df88df88cf88cf88bf88bf88bf88af88af889f889f888f888f887f887f886f886f885f885f885f884f884f883f883f882f882f881f881f880f880f880f87ff87ff87ef87ef87df87df87cf87cf87bf87bf87bf87af87af879f879f878f878f877f877f876f876f875f875f875f874f874f873f873f872f872f871f871f870f870f870f86ff86ff86ef86ef86df86df86cf86cf86bf86bf86af86af86af869f869f868f868f867f867f866f866f865f865f865f864f864f863f863f862f862f861f861f860f860,
  0xf949f949f948f948f947f947f946f946f946f945f945f944f944f943f943f942f942f941f941f941f940f940f93ff93ff93ef93ef93df93df93cf93cf93cf93bf93bf93af93af939f939f938f938f937f937f937f936f936f935f935f934f934f933f933f932f932f932f931f931f930f930f92ff92ff92ef92ef92df92df92df92cf92cf92bf92bf92af92af929f929f928f928f928f927f927f926f926f925f925f924f924f923f923f923f922f922f921f921f920f920f91ff91ff91ef91ef91df91df91df91cf91cf91bf91bf91af91af919f919f918f918f918f917f917f916f916f915f915f914f914f913f913f913f912f912f911f911f910f910f90ff90ff90ef90ef90ef90df90df90cf90cf90bf90bf90af90af909f909f909f908f908f907f907f906f906f905f905f904f904f904f903f903f902f902f901f901f900f900f8fff8fff8fef8fef8fef8fdf8fdf8fcf8fcf8fbf8fbf8faf8faf8f9f8f9f8f9f8f8f8f8f8f7f8f7f8f6f8f6f8f5f8f5f8f4f8f4f8f4f8f3f8f3f8f2f8f2f8f1f8f1f8f0f8f0f8eff8eff8eff8eef8eef8edf8edf8ecf8ecf8ebf8ebf8eaf8eaf8eaf8e9f8e9f8e8f8e8f8e7f8e7f8e6f8e6f8e5f8e5f8e4f8e4f8e4f8e3f8e3f8e2f8e2f8e1f8e1f8e0f8e0f8dff8dff8dff8def8def8ddf8ddf8dcf8dcf8dbf8dbf8daf8daf8daf8d9f8d9f8d8f8d8f8d7f8d7f8d6f8d6f8d5f8d5,
  0xf9bef9bdf9bdf9bcf9bcf9bbf9bbf9baf9baf9baf9b9f9b9f9b8f9b8f9b7f9b7f9b6f9b6f9b5f9b5f9b5f9b4f9b4f9b3f9b3f9b2f9b2f9b1f9b1f9b0f9b0f9b0f9aff9aff9aef9aef9adf9adf9acf9acf9abf9abf9abf9aaf9aaf9a9f9a9f9a8f9a8f9a7f9a7f9a6f9a6f9a6f9a5f9a5f9a4f9a4f9a3f9a3f9a2f9a2f9a1f9a1f9a1f9a0f9a0f99ff99ff99ef99ef99df99df99cf99cf99cf99bf99bf99af99af999f999f998f998f997f997f997f996f996f995f995f994f994f993f993f992f992f992f991f991f990f990f98ff98ff98ef98ef98df98df98df98cf98cf98bf98bf98af98af989f989f988f988f988f987f987f986f986f985f985f984f984f983f983f983f982f982f981f981f980f980f97ff97ff97ef97ef97ef97df97df97cf97cf97bf97bf97af97af979f979f979f978f978f977f977f976f976f975f975f974f974f974f973f973f972f972f971f971f970f970f96ff96ff96ff96ef96ef96df96df96cf96cf96bf96bf96af96af96af969f969f968f968f967f967f966f966f965f965f965f964f964f963f963f962f962f961f961f960f960f960f95ff95ff95ef95ef95df95df95cf95cf95bf95bf95bf95af95af959f959f958f958f957f957f956f956f956f955f955f954f954f953f953f952f952f951f951f951f950f950f94ff94ff94ef94ef94df94df94cf94cf94cf94bf94bf94af94a,
  0xfa32fa31fa31fa30fa30fa30fa2ffa2ffa2efa2efa2dfa2dfa2cfa2cfa2bfa2bfa2bfa2afa2afa29fa29fa28fa28fa27fa27fa26fa26fa26fa25fa25fa24fa24fa23fa23fa22fa22fa21fa21fa21fa20fa20fa1ffa1ffa1efa1efa1dfa1dfa1cfa1cfa1cfa1bfa1bfa1afa1afa19fa19fa18fa18fa18fa17fa17fa16fa16fa15fa15fa14fa14fa13fa13fa13fa12fa12fa11fa11fa10fa10fa0ffa0ffa0efa0efa0efa0dfa0dfa0cfa0cfa0bfa0bfa0afa0afa09fa09fa09fa08fa08fa07fa07fa06fa06fa05fa05fa04fa04fa04fa03fa03fa02fa02fa01fa01fa00fa00f9fff9fff9fff9fef9fef9fdf9fdf9fcf9fcf9fbf9fbf9faf9faf9faf9f9f9f9f9f8f9f8f9f7f9f7f9f6f9f6f9f5f9f5f9f5f9f4f9f4f9f3f9f3f9f2f9f2f9f1f9f1f9f0f9f0f9f0f9eff9eff9eef9eef9edf9edf9ecf9ecf9ecf9ebf9ebf9eaf9eaf9e9f9e9f9e8f9e8f9e7f9e7f9e7f9e6f9e6f9e5f9e5f9e4f9e4f9e3f9e3f9e2f9e2f9e2f9e1f9e1f9e0f9e0f9dff9dff9def9def9ddf9ddf9ddf9dcf9dcf9dbf9dbf9daf9daf9d9f9d9f9d8f9d8f9d8f9d7f9d7f9d6f9d6f9d5f9d5f9d4f9d4f9d3f9d3f9d3f9d2f9d2f9d1f9d1f9d0f9d0f9cff9cff9cef9cef9cef9cdf9cdf9ccf9ccf9cbf9cbf9caf9caf9c9f9c9f9c9f9c8f9c8f9c7f9c7f9c6f9c6f9c5f9c5f9c4f9c4f9c4f9c3f9c3f9c2f9c2f9c1f9c1f9c0f9c0f9bff9bff9bff9be,
  0xfaa6faa5faa5faa4faa4faa3faa3faa3faa2faa2faa1faa1faa0faa0fa9ffa9ffa9efa9efa9efa9dfa9dfa9cfa9cfa9bfa9bfa9afa9afa99fa99fa99fa98fa98fa97fa97fa96fa96fa95fa95fa94fa94fa94fa93fa93fa92fa92fa91fa91fa90fa90fa90fa8ffa8ffa8efa8efa8dfa8dfa8cfa8cfa8bfa8bfa8bfa8afa8afa89fa89fa88fa88fa87fa87fa86fa86fa86fa85fa85fa84fa84fa83fa83fa82fa82fa81fa81fa81fa80fa80fa7ffa7ffa7efa7efa7dfa7dfa7dfa7cfa7cfa7bfa7bfa7afa7afa79fa79fa78fa78fa78fa77fa77fa76fa76fa75fa75fa74fa74fa73fa73fa73fa72fa72fa71fa71fa70fa70fa6ffa6ffa6efa6efa6efa6dfa6dfa6cfa6cfa6bfa6bfa6afa6afa69fa69fa69fa68fa68fa67fa67fa66fa66fa65fa65fa65fa64fa64fa63fa63fa62fa62fa61fa61fa60fa60fa60fa5ffa5ffa5efa5efa5dfa5dfa5cfa5cfa5bfa5bfa5bfa5afa5afa59fa59fa58fa58fa57fa57fa56fa56fa56fa55fa55fa54fa54fa53fa53fa52fa52fa52fa51fa51fa50fa50fa4ffa4ffa4efa4efa4dfa4dfa4dfa4cfa4cfa4bfa4bfa4afa4afa49fa49fa48fa48fa48fa47fa47fa46fa46fa45fa45fa44fa44fa43fa43fa43fa42fa42fa41fa41fa40fa40fa3ffa3ffa3efa3efa3efa3dfa3dfa3cfa3cfa3bfa3bfa3afa3afa39fa39fa39fa38fa38fa37fa37fa36fa36fa35fa35fa35fa34fa34fa33fa33fa32,
  0xfb19fb19fb18fb18fb17fb17fb17fb16fb16fb15fb15fb14fb14fb13fb13fb12fb12fb12fb11fb11fb10fb10fb0ffb0ffb0efb0efb0efb0dfb0dfb0cfb0cfb0bfb0bfb0afb0afb09fb09fb09fb08fb08fb07fb07fb06fb06fb05fb05fb05fb04fb04fb03fb03fb02fb02fb01fb01fb00fb00fb00fafffafffafefafefafdfafdfafcfafcfafbfafbfafbfafafafafaf9faf9faf8faf8faf7faf7faf7faf6faf6faf5faf5faf4faf4faf3faf3faf2faf2faf2faf1faf1faf0faf0faeffaeffaeefaeefaedfaedfaedfaecfaecfaebfaebfaeafaeafae9fae9fae9fae8fae8fae7fae7fae6fae6fae5fae5fae4fae4fae4fae3fae3fae2fae2fae1fae1fae0fae0fadffadffadffadefadefaddfaddfadcfadcfadbfadbfadbfadafadafad9fad9fad8fad8fad7fad7fad6fad6fad6fad5fad5fad4fad4fad3fad3fad2fad2fad1fad1fad1fad0fad0facffacffacefacefacdfacdfacdfaccfaccfacbfacbfacafacafac9fac9fac8fac8fac8fac7fac7fac6fac6fac5fac5fac4fac4fac3fac3fac3fac2fac2fac1fac1fac0fac0fabffabffabffabefabefabdfabdfabcfabcfabbfabbfabafabafabafab9fab9fab8fab8fab7fab7fab6fab6fab5fab5fab5fab4fab4fab3fab3fab2fab2fab1fab1fab1fab0fab0faaffaaffaaefaaefaadfaadfaacfaacfaacfaabfaabfaaafaaafaa9faa9faa8faa8faa7faa7faa7faa6,
  0xfb8dfb8cfb8cfb8bfb8bfb8afb8afb89fb89fb89fb88fb88fb87fb87fb86fb86fb85fb85fb84fb84fb84fb83fb83fb82fb82fb81fb81fb80fb80fb80fb7ffb7ffb7efb7efb7dfb7dfb7cfb7cfb7bfb7bfb7bfb7afb7afb79fb79fb78fb78fb77fb77fb77fb76fb76fb75fb75fb74fb74fb73fb73fb72fb72fb72fb71fb71fb70fb70fb6ffb6ffb6efb6efb6efb6dfb6dfb6cfb6cfb6bfb6bfb6afb6afb69fb69fb69fb68fb68fb67fb67fb66fb66fb65fb65fb65fb64fb64fb63fb63fb62fb62fb61fb61fb60fb60fb60fb5ffb5ffb5efb5efb5dfb5dfb5cfb5cfb5cfb5bfb5bfb5afb5afb59fb59fb58fb58fb57fb57fb57fb56fb56fb55fb55fb54fb54fb53fb53fb53fb52fb52fb51fb51fb50fb50fb4ffb4ffb4efb4efb4efb4dfb4dfb4cfb4cfb4bfb4bfb4afb4afb49fb49fb49fb48fb48fb47fb47fb46fb46fb45fb45fb45fb44fb44fb43fb43fb42fb42fb41fb41fb40fb40fb40fb3ffb3ffb3efb3efb3dfb3dfb3cfb3cfb3cfb3bfb3bfb3afb3afb39fb39fb38fb38fb37fb37fb37fb36fb36fb35fb35fb34fb34fb33fb33fb33fb32fb32fb31fb31fb30fb30fb2ffb2ffb2efb2efb2efb2dfb2dfb2cfb2cfb2bfb2bfb2afb2afb29fb29fb29fb28fb28fb27fb27fb26fb26fb25fb25fb25fb24fb24fb23fb23fb22fb22fb21fb21fb20fb20fb20fb1ffb1ffb1efb1efb1dfb1dfb1cfb1cfb1cfb1bfb1bfb1afb1a,
  0xfc00fbfffbfffbfefbfefbfdfbfdfbfcfbfcfbfcfbfbfbfbfbfafbfafbf9fbf9fbf8fbf8fbf8fbf7fbf7fbf6fbf6fbf5fbf5fbf4fbf4fbf3fbf3fbf3fbf2fbf2fbf1fbf1fbf0fbf0fbeffbeffbeffbeefbeefbedfbedfbecfbecfbebfbebfbebfbeafbeafbe9fbe9fbe8fbe8fbe7fbe7fbe6fbe6fbe6fbe5fbe5fbe4fbe4fbe3fbe3fbe2fbe2fbe2fbe1fbe1fbe0fbe0fbdffbdffbdefbdefbddfbddfbddfbdcfbdcfbdbfbdbfbdafbdafbd9fbd9fbd9fbd8fbd8fbd7fbd7fbd6fbd6fbd5fbd5fbd5fbd4fbd4fbd3fbd3fbd2fbd2fbd1fbd1fbd0fbd0fbd0fbcffbcffbcefbcefbcdfbcdfbccfbccfbccfbcbfbcbfbcafbcafbc9fbc9fbc8fbc8fbc7fbc7fbc7fbc6fbc6fbc5fbc5fbc4fbc4fbc3fbc3fbc3fbc2fbc2fbc1fbc1fbc0fbc0fbbffbbffbbefbbefbbefbbdfbbdfbbcfbbcfbbbfbbbfbbafbbafbbafbb9fbb9fbb8fbb8fbb7fbb7fbb6fbb6fbb5fbb5fbb5fbb4fbb4fbb3fbb3fbb2fbb2fbb1fbb1fbb1fbb0fbb0fbaffbaffbaefbaefbadfbadfbadfbacfbacfbabfbabfbaafbaafba9fba9fba8fba8fba8fba7fba7fba6fba6fba5fba5fba4fba4fba4fba3fba3fba2fba2fba1fba1fba0fba0fb9ffb9ffb9ffb9efb9efb9dfb9dfb9cfb9cfb9bfb9bfb9bfb9afb9afb99fb99fb98fb98fb97fb97fb96fb96fb96fb95fb95fb94fb94fb93fb93fb92fb92fb92fb91fb91fb90fb90fb8ffb8ffb8efb8efb8dfb8d,
  0xfc72fc72fc71fc71fc71fc70fc70fc6ffc6ffc6efc6efc6dfc6dfc6dfc6cfc6cfc6bfc6bfc6afc6afc69fc69fc69fc68fc68fc67fc67fc66fc66fc65fc65fc65fc64fc64fc63fc63fc62fc62fc61fc61fc60fc60fc60fc5ffc5ffc5efc5efc5dfc5dfc5cfc5cfc5cfc5bfc5bfc5afc5afc59fc59fc58fc58fc58fc57fc57fc56fc56fc55fc55fc54fc54fc53fc53fc53fc52fc52fc51fc51fc50fc50fc4ffc4ffc4ffc4efc4efc4dfc4dfc4cfc4cfc4bfc4bfc4bfc4afc4afc49fc49fc48fc48fc47fc47fc46fc46fc46fc45fc45fc44fc44fc43fc43fc42fc42fc42fc41fc41fc40fc40fc3ffc3ffc3efc3efc3efc3dfc3dfc3cfc3cfc3bfc3bfc3afc3afc39fc39fc39fc38fc38fc37fc37fc36fc36fc35fc35fc35fc34fc34fc33fc33fc32fc32fc31fc31fc31fc30fc30fc2ffc2ffc2efc2efc2dfc2dfc2cfc2cfc2cfc2bfc2bfc2afc2afc29fc29fc28fc28fc28fc27fc27fc26fc26fc25fc25fc24fc24fc24fc23fc23fc22fc22fc21fc21fc20fc20fc1ffc1ffc1ffc1efc1efc1dfc1dfc1cfc1cfc1bfc1bfc1bfc1afc1afc19fc19fc18fc18fc17fc17fc17fc16fc16fc15fc15fc14fc14fc13fc13fc12fc12fc12fc11fc11fc10fc10fc0ffc0ffc0efc0efc0efc0dfc0dfc0cfc0cfc0bfc0bfc0afc0afc09fc09fc09fc08fc08fc07fc07fc06fc06fc05fc05fc05fc04fc04fc03fc03fc02fc02fc01fc01fc01fc00,
  0xfce5fce4fce4fce4fce3fce3fce2fce2fce1fce1fce0fce0fce0fcdffcdffcdefcdefcddfcddfcdcfcdcfcdcfcdbfcdbfcdafcdafcd9fcd9fcd8fcd8fcd7fcd7fcd7fcd6fcd6fcd5fcd5fcd4fcd4fcd3fcd3fcd3fcd2fcd2fcd1fcd1fcd0fcd0fccffccffccffccefccefccdfccdfcccfcccfccbfccbfccbfccafccafcc9fcc9fcc8fcc8fcc7fcc7fcc7fcc6fcc6fcc5fcc5fcc4fcc4fcc3fcc3fcc2fcc2fcc2fcc1fcc1fcc0fcc0fcbffcbffcbefcbefcbefcbdfcbdfcbcfcbcfcbbfcbbfcbafcbafcbafcb9fcb9fcb8fcb8fcb7fcb7fcb6fcb6fcb6fcb5fcb5fcb4fcb4fcb3fcb3fcb2fcb2fcb1fcb1fcb1fcb0fcb0fcaffcaffcaefcaefcadfcadfcadfcacfcacfcabfcabfcaafcaafca9fca9fca9fca8fca8fca7fca7fca6fca6fca5fca5fca5fca4fca4fca3fca3fca2fca2fca1fca1fca0fca0fca0fc9ffc9ffc9efc9efc9dfc9dfc9cfc9cfc9cfc9bfc9bfc9afc9afc99fc99fc98fc98fc98fc97fc97fc96fc96fc95fc95fc94fc94fc94fc93fc93fc92fc92fc91fc91fc90fc90fc8ffc8ffc8ffc8efc8efc8dfc8dfc8cfc8cfc8bfc8bfc8bfc8afc8afc89fc89fc88fc88fc87fc87fc87fc86fc86fc85fc85fc84fc84fc83fc83fc83fc82fc82fc81fc81fc80fc80fc7ffc7ffc7efc7efc7efc7dfc7dfc7cfc7cfc7bfc7bfc7afc7afc7afc79fc79fc78fc78fc77fc77fc76fc76fc76fc75fc75fc74fc74fc73fc73,
  0xfd57fd57fd56fd56fd55fd55fd54fd54fd54fd53fd53fd52fd52fd51fd51fd50fd50fd50fd4ffd4ffd4efd4efd4dfd4dfd4cfd4cfd4cfd4bfd4bfd4afd4afd49fd49fd48fd48fd48fd47fd47fd46fd46fd45fd45fd44fd44fd44fd43fd43fd42fd42fd41fd41fd40fd40fd3ffd3ffd3ffd3efd3efd3dfd3dfd3cfd3cfd3bfd3bfd3bfd3afd3afd39fd39fd38fd38fd37fd37fd37fd36fd36fd35fd35fd34fd34fd33fd33fd33fd32fd32fd31fd31fd30fd30fd2ffd2ffd2ffd2efd2efd2dfd2dfd2cfd2cfd2bfd2bfd2bfd2afd2afd29fd29fd28fd28fd27fd27fd27fd26fd26fd25fd25fd24fd24fd23fd23fd23fd22fd22fd21fd21fd20fd20fd1ffd1ffd1efd1efd1efd1dfd1dfd1cfd1cfd1bfd1bfd1afd1afd1afd19fd19fd18fd18fd17fd17fd16fd16fd16fd15fd15fd14fd14fd13fd13fd12fd12fd12fd11fd11fd10fd10fd0ffd0ffd0efd0efd0efd0dfd0dfd0cfd0cfd0bfd0bfd0afd0afd0afd09fd09fd08fd08fd07fd07fd06fd06fd05fd05fd05fd04fd04fd03fd03fd02fd02fd01fd01fd01fd00fd00fcfffcfffcfefcfefcfdfcfdfcfdfcfcfcfcfcfbfcfbfcfafcfafcf9fcf9fcf9fcf8fcf8fcf7fcf7fcf6fcf6fcf5fcf5fcf5fcf4fcf4fcf3fcf3fcf2fcf2fcf1fcf1fcf1fcf0fcf0fceffceffceefceefcedfcedfcecfcecfcecfcebfcebfceafceafce9fce9fce8fce8fce8fce7fce7fce6fce6fce5,
  0xfdc9fdc9fdc8fdc8fdc7fdc7fdc6fdc6fdc6fdc5fdc5fdc4fdc4fdc3fdc3fdc2fdc2fdc2fdc1fdc1fdc0fdc0fdbffdbffdbefdbefdbefdbdfdbdfdbcfdbcfdbbfdbbfdbafdbafdbafdb9fdb9fdb8fdb8fdb7fdb7fdb6fdb6fdb6fdb5fdb5fdb4fdb4fdb3fdb3fdb2fdb2fdb2fdb1fdb1fdb0fdb0fdaffdaffdaefdaefdaefdadfdadfdacfdacfdabfdabfdaafdaafdaafda9fda9fda8fda8fda7fda7fda6fda6fda6fda5fda5fda4fda4fda3fda3fda2fda2fda1fda1fda1fda0fda0fd9ffd9ffd9efd9efd9dfd9dfd9dfd9cfd9cfd9bfd9bfd9afd9afd99fd99fd99fd98fd98fd97fd97fd96fd96fd95fd95fd95fd94fd94fd93fd93fd92fd92fd91fd91fd91fd90fd90fd8ffd8ffd8efd8efd8dfd8dfd8dfd8cfd8cfd8bfd8bfd8afd8afd89fd89fd89fd88fd88fd87fd87fd86fd86fd85fd85fd85fd84fd84fd83fd83fd82fd82fd81fd81fd81fd80fd80fd7ffd7ffd7efd7efd7dfd7dfd7dfd7cfd7cfd7bfd7bfd7afd7afd79fd79fd79fd78fd78fd77fd77fd76fd76fd75fd75fd75fd74fd74fd73fd73fd72fd72fd71fd71fd71fd70fd70fd6ffd6ffd6efd6efd6dfd6dfd6dfd6cfd6cfd6bfd6bfd6afd6afd69fd69fd69fd68fd68fd67fd67fd66fd66fd65fd65fd64fd64fd64fd63fd63fd62fd62fd61fd61fd60fd60fd60fd5ffd5ffd5efd5efd5dfd5dfd5cfd5cfd5cfd5bfd5bfd5afd5afd59fd59fd58fd58fd58,
  0xfe3bfe3afe3afe39fe39fe39fe38fe38fe37fe37fe36fe36fe35fe35fe35fe34fe34fe33fe33fe32fe32fe31fe31fe31fe30fe30fe2ffe2ffe2efe2efe2dfe2dfe2dfe2cfe2cfe2bfe2bfe2afe2afe29fe29fe29fe28fe28fe27fe27fe26fe26fe25fe25fe25fe24fe24fe23fe23fe22fe22fe22fe21fe21fe20fe20fe1ffe1ffe1efe1efe1efe1dfe1dfe1cfe1cfe1bfe1bfe1afe1afe1afe19fe19fe18fe18fe17fe17fe16fe16fe16fe15fe15fe14fe14fe13fe13fe12fe12fe12fe11fe11fe10fe10fe0ffe0ffe0efe0efe0efe0dfe0dfe0cfe0cfe0bfe0bfe0afe0afe0afe09fe09fe08fe08fe07fe07fe06fe06fe06fe05fe05fe04fe04fe03fe03fe02fe02fe02fe01fe01fe00fe00fdfffdfffdfefdfefdfefdfdfdfdfdfcfdfcfdfbfdfbfdfafdfafdfafdf9fdf9fdf8fdf8fdf7fdf7fdf6fdf6fdf6fdf5fdf5fdf4fdf4fdf3fdf3fdf2fdf2fdf2fdf1fdf1fdf0fdf0fdeffdeffdeefdeefdeefdedfdedfdecfdecfdebfdebfdeafdeafdeafde9fde9fde8fde8fde7fde7fde6fde6fde6fde5fde5fde4fde4fde3fde3fde2fde2fde2fde1fde1fde0fde0fddffddffddefddefddefdddfdddfddcfddcfddbfddbfddafddafddafdd9fdd9fdd8fdd8fdd7fdd7fdd6fdd6fdd6fdd5fdd5fdd4fdd4fdd3fdd3fdd2fdd2fdd2fdd1fdd1fdd0fdd0fdcffdcffdcefdcefdcefdcdfdcdfdccfdccfdcbfdcbfdcafdcafdca,
  0xfeacfeacfeabfeabfeaafeaafeaafea9fea9fea8fea8fea7fea7fea6fea6fea6fea5fea5fea4fea4fea3fea3fea2fea2fea2fea1fea1fea0fea0fe9ffe9ffe9ffe9efe9efe9dfe9dfe9cfe9cfe9bfe9bfe9bfe9afe9afe99fe99fe98fe98fe97fe97fe97fe96fe96fe95fe95fe94fe94fe93fe93fe93fe92fe92fe91fe91fe90fe90fe8ffe8ffe8ffe8efe8efe8dfe8dfe8cfe8cfe8bfe8bfe8bfe8afe8afe89fe89fe88fe88fe87fe87fe87fe86fe86fe85fe85fe84fe84fe84fe83fe83fe82fe82fe81fe81fe80fe80fe80fe7ffe7ffe7efe7efe7dfe7dfe7cfe7cfe7cfe7bfe7bfe7afe7afe79fe79fe78fe78fe78fe77fe77fe76fe76fe75fe75fe74fe74fe74fe73fe73fe72fe72fe71fe71fe70fe70fe70fe6ffe6ffe6efe6efe6dfe6dfe6cfe6cfe6cfe6bfe6bfe6afe6afe69fe69fe68fe68fe68fe67fe67fe66fe66fe65fe65fe64fe64fe64fe63fe63fe62fe62fe61fe61fe60fe60fe60fe5ffe5ffe5efe5efe5dfe5dfe5cfe5cfe5cfe5bfe5bfe5afe5afe59fe59fe59fe58fe58fe57fe57fe56fe56fe55fe55fe55fe54fe54fe53fe53fe52fe52fe51fe51fe51fe50fe50fe4ffe4ffe4efe4efe4dfe4dfe4dfe4cfe4cfe4bfe4bfe4afe4afe49fe49fe49fe48fe48fe47fe47fe46fe46fe45fe45fe45fe44fe44fe43fe43fe42fe42fe41fe41fe41fe40fe40fe3ffe3ffe3efe3efe3dfe3dfe3dfe3cfe3cfe3b,
  0xff1dff1dff1dff1cff1cff1bff1bff1aff1aff19ff19ff19ff18ff18ff17ff17ff16ff16ff15ff15ff15ff14ff14ff13ff13ff12ff12ff11ff11ff11ff10ff10ff0fff0fff0eff0eff0eff0dff0dff0cff0cff0bff0bff0aff0aff0aff09ff09ff08ff08ff07ff07ff06ff06ff06ff05ff05ff04ff04ff03ff03ff02ff02ff02ff01ff01ff00ff00fefffefffefefefefefefefdfefdfefcfefcfefbfefbfefbfefafefafef9fef9fef8fef8fef7fef7fef7fef6fef6fef5fef5fef4fef4fef3fef3fef3fef2fef2fef1fef1fef0fef0feeffeeffeeffeeefeeefeedfeedfeecfeecfeebfeebfeebfeeafeeafee9fee9fee8fee8fee8fee7fee7fee6fee6fee5fee5fee4fee4fee4fee3fee3fee2fee2fee1fee1fee0fee0fee0fedffedffedefedefeddfeddfedcfedcfedcfedbfedbfedafedafed9fed9fed8fed8fed8fed7fed7fed6fed6fed5fed5fed5fed4fed4fed3fed3fed2fed2fed1fed1fed1fed0fed0fecffecffecefecefecdfecdfecdfeccfeccfecbfecbfecafecafec9fec9fec9fec8fec8fec7fec7fec6fec6fec5fec5fec5fec4fec4fec3fec3fec2fec2fec1fec1fec1fec0fec0febffebffebefebefebdfebdfebdfebcfebcfebbfebbfebafebafebafeb9feb9feb8feb8feb7feb7feb6feb6feb6feb5feb5feb4feb4feb3feb3feb2feb2feb2feb1feb1feb0feb0feaffeaffeaefeaefeaefeadfead,
  0xff8eff8eff8dff8dff8dff8cff8cff8bff8bff8aff8aff89ff89ff89ff88ff88ff87ff87ff86ff86ff86ff85ff85ff84ff84ff83ff83ff82ff82ff82ff81ff81ff80ff80ff7fff7fff7eff7eff7eff7dff7dff7cff7cff7bff7bff7bff7aff7aff79ff79ff78ff78ff77ff77ff77ff76ff76ff75ff75ff74ff74ff73ff73ff73ff72ff72ff71ff71ff70ff70ff6fff6fff6fff6eff6eff6dff6dff6cff6cff6cff6bff6bff6aff6aff69ff69ff68ff68ff68ff67ff67ff66ff66ff65ff65ff64ff64ff64ff63ff63ff62ff62ff61ff61ff60ff60ff60ff5fff5fff5eff5eff5dff5dff5dff5cff5cff5bff5bff5aff5aff59ff59ff59ff58ff58ff57ff57ff56ff56ff55ff55ff55ff54ff54ff53ff53ff52ff52ff52ff51ff51ff50ff50ff4fff4fff4eff4eff4eff4dff4dff4cff4cff4bff4bff4aff4aff4aff49ff49ff48ff48ff47ff47ff46ff46ff46ff45ff45ff44ff44ff43ff43ff43ff42ff42ff41ff41ff40ff40ff3fff3fff3fff3eff3eff3dff3dff3cff3cff3bff3bff3bff3aff3aff39ff39ff38ff38ff37ff37ff37ff36ff36ff35ff35ff34ff34ff33ff33ff33ff32ff32ff31ff31ff30ff30ff30ff2fff2fff2eff2eff2dff2dff2cff2cff2cff2bff2bff2aff2aff29ff29ff28ff28ff28ff27ff27ff26ff26ff25ff25ff24ff24ff24ff23ff23ff22ff22ff21ff21ff21ff20ff20ff1fff1fff1eff1e,
  0xfffffffffffefffefffdfffdfffcfffcfffbfffbfffbfffafffafff9fff9fff8fff8fff8fff7fff7fff6fff6fff5fff5fff4fff4fff4fff3fff3fff2fff2fff1fff1fff0fff0fff0ffefffefffeeffeeffedffedffedffecffecffebffebffeaffeaffe9ffe9ffe9ffe8ffe8ffe7ffe7ffe6ffe6ffe5ffe5ffe5ffe4ffe4ffe3ffe3ffe2ffe2ffe2ffe1ffe1ffe0ffe0ffdfffdfffdeffdeffdeffddffddffdcffdcffdbffdbffdaffdaffdaffd9ffd9ffd8ffd8ffd7ffd7ffd7ffd6ffd6ffd5ffd5ffd4ffd4ffd3ffd3ffd3ffd2ffd2ffd1ffd1ffd0ffd0ffcfffcfffcfffceffceffcdffcdffccffccffccffcbffcbffcaffcaffc9ffc9ffc8ffc8ffc8ffc7ffc7ffc6ffc6ffc5ffc5ffc4ffc4ffc4ffc3ffc3ffc2ffc2ffc1ffc1ffc1ffc0ffc0ffbfffbfffbeffbeffbdffbdffbdffbcffbcffbbffbbffbaffbaffb9ffb9ffb9ffb8ffb8ffb7ffb7ffb6ffb6ffb6ffb5ffb5ffb4ffb4ffb3ffb3ffb2ffb2ffb2ffb1ffb1ffb0ffb0ffafffafffaeffaeffaeffadffadffacffacffabffabffabffaaffaaffa9ffa9ffa8ffa8ffa7ffa7ffa7ffa6ffa6ffa5ffa5ffa4ffa4ffa3ffa3ffa3ffa2ffa2ffa1ffa1ffa0ffa0ffa0ff9fff9fff9eff9eff9dff9dff9cff9cff9cff9bff9bff9aff9aff99ff99ff98ff98ff98ff97ff97ff96ff96ff95ff95ff94ff94ff94ff93ff93ff92ff92ff91ff91ff91ff90ff90ff8fff8f]

/-- complete-domain check: end points fixed, every consecutive pair ordered -/
theorem srgb_bwd_u16_u16_ok : Fir.tableOk 65536 16 srgb_bwd_u16_u16 = true :=
  Fir.Proofs.tableOk_of_tableAsc (by decide +kernel)

end Fir.Gen.Color
