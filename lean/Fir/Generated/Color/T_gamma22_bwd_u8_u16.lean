/-
  GENERATED by /verif/tools/extract_tables.py from the tables of the running implementation - do not edit.
-/
import Fir.Proofs.ColorLemmas
namespace Fir.Gen.Color

/-- table `gamma22_bwd_u8_u16` (256 entries of 16 bits), packed 256 entries per numeral -/
def gamma22_bwd_u8_u16 : List Nat := [
  0xffffff8aff15fe9ffe2afdb4fd3efcc7fc50fbd9fb62faebfa73f9fbf982f90af891f818f79ef725f6abf630f5b6f53bf4c0f444f3c9f34df2d0f254f1d7f159f0dcf05eefe0ef61eee3ee64ede4ed64ece4ec64ebe3eb62eae1ea5fe9dde95be8d8e855e7d2e74ee6cae645e5c0e53be4b6e430e3a9e323e29ce214e18de104e07cdff3df6adee0de56ddcbdd40dcb5dc29db9ddb10da83d9f6d968d8d9d84bd7bbd72cd69cd60bd57ad4e8d456d3c4d331d29ed20ad175d0e1d04bcfb5cf1fce88cdf1cd59ccc0cc27cb8ecaf4ca59c9bec922c886c7e9c74bc6adc60fc56fc4d0c42fc38ec2ecc24ac1a7c104c05fbfbabf15be6ebdc7bd20bc77bbcebb25ba7ab9cfb923b876b7c9b71bb66bb5bcb50bb45ab3a7b2f4b240b18bb0d6b01faf68aeb0adf6ad3cac81abc5ab08aa4aa98ba8cba80aa748a684a5c0a4fba434a36da2a4a1daa10fa0439f759ea69dd69d059c329b5e9a8999b298da980097259648956a948b93a992c691e290fc90148f2a8e3e8d518c628b708a7d898888918798869c859e849e839c8297819080867f7a7e6b7d597c447b2d7a1278f477d476af7588745d732e71fb70c56f8b6e4c6d096bc16a75692367cd6671651063a8623b60c75f4c5dca5c405aaf5914577155c4540d524b507d4ea24cb94ac248b9469f4471422d3fcf3d563abc37fd351231f22e912adc26ba21fb1c43149f0000]

/-- complete-domain check: end points fixed, every consecutive pair ordered -/
theorem gamma22_bwd_u8_u16_ok : Fir.tableOk 256 16 gamma22_bwd_u8_u16 = true :=
  Fir.Proofs.tableOk_of_tableAsc (by decide +kernel)

end Fir.Gen.Color
