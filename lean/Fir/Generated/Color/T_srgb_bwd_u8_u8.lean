/-
  GENERATED by /verif/tools/extract_tables.py from the tables of the running implementation - do not edit.
-/
import Fir.Proofs.ColorLemmas
namespace Fir.Gen.Color

/-- table `srgb_bwd_u8_u8` (256 entries of 8 bits), packed 256 entries per numeral -/
def srgb_bwd_u8_u8 : List Nat := [
  0xfffffefefdfdfcfcfbfbfbfafaf9f9f8f8f7f7f6f6f6f5f5f4f4f3f3f2f2f1f1f0f0efefeeeeeeededececebebeaeae9e9e8e8e7e7e6e6e5e5e4e4e3e3e2e2e1e0e0dfdfdededddddcdcdbdbdadad9d8d8d7d7d6d6d5d5d4d4d3d2d2d1d1d0d0cfcececdcdcccbcbcacac9c8c8c7c7c6c5c5c4c4c3c2c2c1c0c0bfbebebdbdbcbbbbbab9b9b8b7b6b6b5b4b4b3b2b2b1b0afafaeadadacabaaaaa9a8a7a7a6a5a4a3a3a2a1a09f9f9e9d9c9b9b9a99989796959494939291908f8e8d8c8b8a898887868584838281807f7e7d7c7a7978777675737271706e6d6c6a696866656362605f5d5c5a58565553514f4d4b49474542403d3b3835322e2a26221c160d00]

/-- complete-domain check: end points fixed, every consecutive pair ordered -/
theorem srgb_bwd_u8_u8_ok : Fir.tableOk 256 8 srgb_bwd_u8_u8 = true :=
  Fir.Proofs.tableOk_of_tableAsc (by decide +kernel)

end Fir.Gen.Color
