/-
  Fir.Model.SoftF32 - a small exact model of IEEE-754 binary32 rounding over the naturals.

  Lean's `Float32` is opaque to the kernel, so theorems about float conversions are stated about
  this model; the correspondence check compares it with the hardware (`Float32`) and with the Rust
  implementation on complete u8/u16 ramps and dense f32 samples.

  A non-negative binary32 value is carried as a dyadic `(m, eb)` meaning `m * 2^(eb - bias)`;
  only `Nat` operations with kernel (GMP) acceleration are used so that evaluation in the
  kernel (`decide +kernel`) stays cheap.
-/
namespace Fir.Soft

/-- exponent bias of the dyadic representation -/
def bias : Nat := 200

/-- round-to-nearest-even of the non-negative rational `n / d` (d > 0) to an integer -/
def rneDiv (n d : Nat) : Nat :=
  let q := n / d
  let r := n % d
  if 2 * r > d then q + 1
  else if 2 * r = d then (if q % 2 = 1 then q + 1 else q)
  else q

/-- one step of the binary search for the bit length -/
@[inline] def lgStep (k : Nat) (x : Nat × Nat) : Nat × Nat :=
  if x.1 ≥ 2 ^ k then (x.1 / 2 ^ k, x.2 + k) else x

/-- `⌊log2 n⌋` for `0 < n < 2^512` by binary search (`Nat.log2` is a well-founded recursion that the
    kernel evaluates slowly; this uses accelerated comparisons and divisions only) -/
def lg2 (n : Nat) : Nat :=
  (lgStep 1 (lgStep 2 (lgStep 4 (lgStep 8 (lgStep 16 (lgStep 32 (lgStep 64 (lgStep 128 (lgStep 256 (n, 0)))))))))).2

/-- `⌊log2 (n/d)⌋ + bias` for n, d > 0 (and n/d > 2^-bias) -/
def floorLog2Ratio (n d : Nat) : Nat :=
  let ln := lg2 n
  let ld := lg2 d
  -- 2^(ln-ld-1) < n/d < 2^(ln-ld+1);  n/d ≥ 2^(ln-ld)  ⟺  n·2^ld ≥ d·2^ln
  if n * 2 ^ ld ≥ d * 2 ^ ln then ln + bias - ld else ln + bias - ld - 1

/-- binary32 rounding (round-to-nearest-even, gradual underflow; no overflow handling: callers stay
    far below 2^128) of the non-negative rational `n / d`; result `(m, eb)`, `m < 2^24` -/
def rnd24 (n d : Nat) : Nat × Nat :=
  if n = 0 ∨ d = 0 then (0, bias) else
  let E := floorLog2Ratio n d
  let sh := (if E < bias - 126 then bias - 126 else E) - 23     -- (biased) exponent of one ulp
  let m := if sh ≥ bias then rneDiv n (d * 2 ^ (sh - bias)) else rneDiv (n * 2 ^ (bias - sh)) d
  if m = 16777216 then (8388608, sh + 1) else (m, sh)

/-- IEEE bit pattern of the non-negative dyadic produced by `rnd24` -/
def toBits (x : Nat × Nat) : Nat :=
  if x.1 = 0 then 0
  else if x.1 < 8388608 then x.1                       -- subnormal (eb = bias - 149)
  else ((x.2 + 23 + 127 - bias) * 8388608) + (x.1 - 8388608)

/-- decode a non-negative, finite binary32 bit pattern into a dyadic -/
def ofBits (b : Nat) : Nat × Nat :=
  let ex := (b / 8388608) % 256
  let fr := b % 8388608
  if ex = 0 then (fr, bias - 149) else (fr + 8388608, ex + bias - 127 - 23)

/-- Rust's `f32::round` (half away from zero) followed by a saturating `as uN` cast, for a
    non-negative dyadic; `max` is the saturation bound -/
def roundSat (x : Nat × Nat) (max : Nat) : Nat :=
  let v := if x.2 ≥ bias then x.1 * 2 ^ (x.2 - bias)
           else (x.1 + 2 ^ (bias - x.2 - 1)) / 2 ^ (bias - x.2)
  min v max

/-- `(x as f32) / (max as f32)` for an unsigned component `x ≤ max < 2^24` (both casts are exact) -/
def unsignedToF32 (max x : Nat) : Nat × Nat := rnd24 x max

/-- `(f.clamp(0., 1.) * max as f32).round() as uN` for a non-negative finite `f` given as a dyadic -/
def f32ToUnsigned (max : Nat) (x : Nat × Nat) : Nat :=
  -- clamp to [0, 1]
  let one : Bool := if x.2 ≥ bias then decide (x.1 * 2 ^ (x.2 - bias) ≥ 1) else decide (x.1 ≥ 2 ^ (bias - x.2))
  let y : Nat × Nat := if one then (8388608, bias - 23) else x
  -- multiply by `max` (exact product, then one rounding)
  let p := if y.2 ≥ bias then rnd24 (y.1 * max * 2 ^ (y.2 - bias)) 1 else rnd24 (y.1 * max) (2 ^ (bias - y.2))
  roundSat p max

end Fir.Soft
