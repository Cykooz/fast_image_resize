/-
  Fir.Proofs.ImageLemmas - from one window to whole images.  Every component of `horizPass` / `vertPass`
  (the functions the correspondence check compares with the implementation) is `passInt` of the window it
  reads (`horizPass_get`, `vertPass_get`); the image-level statements of C01 / C10 / C18 are the window
  lemmas of FixedLemmas read through these two equations.
-/
import Fir.Proofs.ErrLemmas
import Fir.Proofs.StructLemmas
namespace Fir.Proofs

/-- quantised coefficients the model uses for a pass over components of kind `k` -/
def qOf (k : CKind) (c : Coeffs) : QCoeffs := (prepare k c).q

/-- window `i` of a pass: first source index and integer coefficients -/
def chunkAt (k : CKind) (c : Coeffs) (i : Nat) : Nat × Array Int := (qOf k c).chunks.getD i (0, #[])

/-- the samples window `x` of a horizontal pass reads for destination row `y`, channel `ch` -/
def hWindow (k : CKind) (src : Img) (offset : Nat) (c : Coeffs) (x y ch : Nat) : List Int :=
  window (chunkAt k c x).2.size fun j => src.get ((chunkAt k c x).1 + j) (offset + y) ch

/-- the samples window `y` of a vertical pass reads for destination column `x`, channel `ch` -/
def vWindow (k : CKind) (src : Img) (offset : Nat) (c : Coeffs) (x y ch : Nat) : List Int :=
  window (chunkAt k c y).2.size fun j => src.get (offset + x) ((chunkAt k c y).1 + j) ch

/-! ### `window n px` is the list `px 0, …, px (n-1)`; `hWindow` and `vWindow` are such lists -/

theorem window_length (n : Nat) (px : Nat → Int) : (window n px).length = n := by
  simp [window]

theorem window_getD (n : Nat) (px : Nat → Int) (i : Nat) (hi : i < n) : (window n px).getD i 0 = px i := by
  simp [window, List.getD_eq_getElem?_getD, hi]

theorem forall_mem_window {n : Nat} {px : Nat → Int} {P : Int → Prop} (h : ∀ j, j < n → P (px j)) :
    ∀ s ∈ window n px, P s := by
  intro s hs
  obtain ⟨j, hj, rfl⟩ := List.mem_map.mp hs
  exact h j (List.mem_range.mp hj)

/-- pointwise order of two windows, in the form `passInt_mono` takes -/
theorem window_le {n : Nat} {px py : Nat → Int} (h : ∀ j, j < n → px j ≤ py j) :
    (window n px).length = (window n py).length ∧
      ∀ i, i < (window n px).length → (window n px).getD i 0 ≤ (window n py).getD i 0 := by
  refine ⟨by rw [window_length, window_length], fun i hi => ?_⟩
  rw [window_length] at hi
  rw [window_getD _ _ _ hi, window_getD _ _ _ hi]
  exact h i hi

theorem hWindow_length (k : CKind) (src : Img) (offset : Nat) (c : Coeffs) (x y ch : Nat) :
    (hWindow k src offset c x y ch).length = (chunkAt k c x).2.toList.length := by
  simp [hWindow, window]

theorem vWindow_length (k : CKind) (src : Img) (offset : Nat) (c : Coeffs) (x y ch : Nat) :
    (vWindow k src offset c x y ch).length = (chunkAt k c y).2.toList.length := by
  simp [vWindow, window]

theorem horizPass_get {k : CKind} (hk : k = .u8 ∨ k = .u16) {src : Img} {dstW dstH offset : Nat} {c : Coeffs}
    {x y ch : Nat} (hx : x < dstW) (hy : y < dstH) (hc : ch < src.n) :
    (horizPass k src dstW dstH offset c).get x y ch =
      passInt k (chunkAt k c x).2.toList (hWindow k src offset c x y ch) (qOf k c).precision := by
  simp only [horizPass]
  rw [ofFn_get dstW dstH src.n _ x y ch hx hy hc]
  simp only [mul_add_div hc, Nat.mul_add_mod_of_lt hc, mul_add_div hx, Nat.mul_add_mod_of_lt hx]
  rcases hk with rfl | rfl <;> rfl

theorem vertPass_get {k : CKind} (hk : k = .u8 ∨ k = .u16) {src : Img} {dstW dstH offset : Nat} {c : Coeffs}
    {x y ch : Nat} (hx : x < dstW) (hy : y < dstH) (hc : ch < src.n) :
    (vertPass k src dstW dstH offset c).get x y ch =
      passInt k (chunkAt k c y).2.toList (vWindow k src offset c x y ch) (qOf k c).precision := by
  simp only [vertPass]
  rw [ofFn_get dstW dstH src.n _ x y ch hx hy hc]
  simp only [mul_add_div hc, Nat.mul_add_mod_of_lt hc, mul_add_div hx, Nat.mul_add_mod_of_lt hx]
  rcases hk with rfl | rfl <;> rfl

/-- `hq`: the inequalities of `Fir.C10.QuantOK` at `v`, written out (the module that defines it imports this one) -/
theorem horizPass_uniform_u8 (src : Img) (dstW dstH offset : Nat) (c : Coeffs) (v : Int)
    (hv0 : 0 ≤ v) (hv : v ≤ 255) (hp1 : 1 ≤ (qOf .u8 c).precision) (hp : (qOf .u8 c).precision ≤ 22)
    (hread : ∀ x y ch, x < dstW → y < dstH → ch < src.n → ∀ s ∈ hWindow .u8 src offset c x y ch, s = v)
    (hq : ∀ x, x < dstW →
      -(2 ^ ((qOf .u8 c).precision - 1) : Int) ≤ v * ((chunkAt .u8 c x).2.toList.sum - 2 ^ (qOf .u8 c).precision) ∧
      v * ((chunkAt .u8 c x).2.toList.sum - 2 ^ (qOf .u8 c).precision) < 2 ^ ((qOf .u8 c).precision - 1))
    (x y ch : Nat) (hx : x < dstW) (hy : y < dstH) (hc : ch < src.n) :
    (horizPass .u8 src dstW dstH offset c).get x y ch = v := by
  rw [horizPass_get (.inl rfl) hx hy hc]
  exact passInt_uniform (.inl rfl) hp1 hp hv0 hv (hWindow_length ..) (hread x y ch hx hy hc) (hq x hx)

theorem vertPass_uniform_u8 (src : Img) (dstW dstH offset : Nat) (c : Coeffs) (v : Int)
    (hv0 : 0 ≤ v) (hv : v ≤ 255) (hp1 : 1 ≤ (qOf .u8 c).precision) (hp : (qOf .u8 c).precision ≤ 22)
    (hread : ∀ x y ch, x < dstW → y < dstH → ch < src.n → ∀ s ∈ vWindow .u8 src offset c x y ch, s = v)
    (hq : ∀ y, y < dstH →
      -(2 ^ ((qOf .u8 c).precision - 1) : Int) ≤ v * ((chunkAt .u8 c y).2.toList.sum - 2 ^ (qOf .u8 c).precision) ∧
      v * ((chunkAt .u8 c y).2.toList.sum - 2 ^ (qOf .u8 c).precision) < 2 ^ ((qOf .u8 c).precision - 1))
    (x y ch : Nat) (hx : x < dstW) (hy : y < dstH) (hc : ch < src.n) :
    (vertPass .u8 src dstW dstH offset c).get x y ch = v := by
  rw [vertPass_get (.inl rfl) hx hy hc]
  exact passInt_uniform (.inl rfl) hp1 hp hv0 hv (vWindow_length ..) (hread x y ch hx hy hc) (hq y hy)

/-- 8-bit accumulators stay inside i32 (`AccOK .u8` of FixedLemmas written out: the lemmas generic in the kind take it as it is) -/
def AccOK8 (ks xs : List Int) (p : Nat) : Prop :=
  -(2 ^ 31 : Int) ≤ 2 ^ (p - 1) + dotL ks xs ∧ 2 ^ (p - 1) + dotL ks xs < 2 ^ 31

/-- 16-bit accumulators stay inside i64 (`AccOK .u16` written out) -/
def AccOK16 (ks xs : List Int) (p : Nat) : Prop :=
  -(2 ^ 63 : Int) ≤ 2 ^ (p - 1) + dotL ks xs ∧ 2 ^ (p - 1) + dotL ks xs < 2 ^ 63

theorem horizPass_monotone_u8 (src src' : Img) (dstW dstH offset : Nat) (c : Coeffs) (hn : src.n = src'.n)
    (hp : (qOf .u8 c).precision < 32)
    (hk : ∀ x, x < dstW → ∀ k ∈ (chunkAt .u8 c x).2.toList, 0 ≤ k)
    (hle : ∀ x y ch j, src.get ((chunkAt .u8 c x).1 + j) (offset + y) ch ≤ src'.get ((chunkAt .u8 c x).1 + j) (offset + y) ch)
    (hacc : ∀ x y ch, x < dstW → y < dstH → ch < src.n →
      AccOK8 (chunkAt .u8 c x).2.toList (hWindow .u8 src offset c x y ch) (qOf .u8 c).precision ∧
      AccOK8 (chunkAt .u8 c x).2.toList (hWindow .u8 src' offset c x y ch) (qOf .u8 c).precision)
    (x y ch : Nat) (hx : x < dstW) (hy : y < dstH) (hc : ch < src.n) :
    (horizPass .u8 src dstW dstH offset c).get x y ch ≤ (horizPass .u8 src' dstW dstH offset c).get x y ch := by
  rw [horizPass_get (.inl rfl) hx hy hc, horizPass_get (.inl rfl) hx hy (hn ▸ hc)]
  exact passInt_mono (.inl rfl) (hk x hx) (window_le fun j _ => hle x y ch j)
    (hacc x y ch hx hy hc).1 (hacc x y ch hx hy hc).2

theorem vertPass_monotone_u8 (src src' : Img) (dstW dstH offset : Nat) (c : Coeffs) (hn : src.n = src'.n)
    (hp : (qOf .u8 c).precision < 32)
    (hk : ∀ y, y < dstH → ∀ k ∈ (chunkAt .u8 c y).2.toList, 0 ≤ k)
    (hle : ∀ x y ch j, src.get (offset + x) ((chunkAt .u8 c y).1 + j) ch ≤ src'.get (offset + x) ((chunkAt .u8 c y).1 + j) ch)
    (hacc : ∀ x y ch, x < dstW → y < dstH → ch < src.n →
      AccOK8 (chunkAt .u8 c y).2.toList (vWindow .u8 src offset c x y ch) (qOf .u8 c).precision ∧
      AccOK8 (chunkAt .u8 c y).2.toList (vWindow .u8 src' offset c x y ch) (qOf .u8 c).precision)
    (x y ch : Nat) (hx : x < dstW) (hy : y < dstH) (hc : ch < src.n) :
    (vertPass .u8 src dstW dstH offset c).get x y ch ≤ (vertPass .u8 src' dstW dstH offset c).get x y ch := by
  rw [vertPass_get (.inl rfl) hx hy hc, vertPass_get (.inl rfl) hx hy (hn ▸ hc)]
  exact passInt_mono (.inl rfl) (hk y hy) (window_le fun j _ => hle x y ch j)
    (hacc x y ch hx hy hc).1 (hacc x y ch hx hy hc).2

/-- `hqlo`, `hqhi`: `QuantOK` at `lo` and at `hi` -/
theorem horizPass_range_u8 (src : Img) (dstW dstH offset : Nat) (c : Coeffs) (lo hi : Int)
    (hlo0 : 0 ≤ lo) (hlh : lo ≤ hi) (hhi : hi ≤ 255)
    (hp1 : 1 ≤ (qOf .u8 c).precision) (hp : (qOf .u8 c).precision ≤ 22)
    (hk : ∀ x, x < dstW → ∀ k ∈ (chunkAt .u8 c x).2.toList, 0 ≤ k)
    (hread : ∀ x y ch, x < dstW → y < dstH → ch < src.n → ∀ s ∈ hWindow .u8 src offset c x y ch, lo ≤ s ∧ s ≤ hi)
    (hqlo : ∀ x, x < dstW →
      -(2 ^ ((qOf .u8 c).precision - 1) : Int) ≤ lo * ((chunkAt .u8 c x).2.toList.sum - 2 ^ (qOf .u8 c).precision) ∧
      lo * ((chunkAt .u8 c x).2.toList.sum - 2 ^ (qOf .u8 c).precision) < 2 ^ ((qOf .u8 c).precision - 1))
    (hqhi : ∀ x, x < dstW →
      -(2 ^ ((qOf .u8 c).precision - 1) : Int) ≤ hi * ((chunkAt .u8 c x).2.toList.sum - 2 ^ (qOf .u8 c).precision) ∧
      hi * ((chunkAt .u8 c x).2.toList.sum - 2 ^ (qOf .u8 c).precision) < 2 ^ ((qOf .u8 c).precision - 1))
    (x y ch : Nat) (hx : x < dstW) (hy : y < dstH) (hc : ch < src.n) :
    lo ≤ (horizPass .u8 src dstW dstH offset c).get x y ch ∧ (horizPass .u8 src dstW dstH offset c).get x y ch ≤ hi := by
  rw [horizPass_get (.inl rfl) hx hy hc]
  exact passInt_between (.inl rfl) hp1 hp (hk x hx) (hWindow_length ..) hlo0 hhi (hread x y ch hx hy hc) (hqlo x hx) (hqhi x hx)

theorem vertPass_range_u8 (src : Img) (dstW dstH offset : Nat) (c : Coeffs) (lo hi : Int)
    (hlo0 : 0 ≤ lo) (hlh : lo ≤ hi) (hhi : hi ≤ 255)
    (hp1 : 1 ≤ (qOf .u8 c).precision) (hp : (qOf .u8 c).precision ≤ 22)
    (hk : ∀ y, y < dstH → ∀ k ∈ (chunkAt .u8 c y).2.toList, 0 ≤ k)
    (hread : ∀ x y ch, x < dstW → y < dstH → ch < src.n → ∀ s ∈ vWindow .u8 src offset c x y ch, lo ≤ s ∧ s ≤ hi)
    (hqlo : ∀ y, y < dstH →
      -(2 ^ ((qOf .u8 c).precision - 1) : Int) ≤ lo * ((chunkAt .u8 c y).2.toList.sum - 2 ^ (qOf .u8 c).precision) ∧
      lo * ((chunkAt .u8 c y).2.toList.sum - 2 ^ (qOf .u8 c).precision) < 2 ^ ((qOf .u8 c).precision - 1))
    (hqhi : ∀ y, y < dstH →
      -(2 ^ ((qOf .u8 c).precision - 1) : Int) ≤ hi * ((chunkAt .u8 c y).2.toList.sum - 2 ^ (qOf .u8 c).precision) ∧
      hi * ((chunkAt .u8 c y).2.toList.sum - 2 ^ (qOf .u8 c).precision) < 2 ^ ((qOf .u8 c).precision - 1))
    (x y ch : Nat) (hx : x < dstW) (hy : y < dstH) (hc : ch < src.n) :
    lo ≤ (vertPass .u8 src dstW dstH offset c).get x y ch ∧ (vertPass .u8 src dstW dstH offset c).get x y ch ≤ hi := by
  rw [vertPass_get (.inl rfl) hx hy hc]
  exact passInt_between (.inl rfl) hp1 hp (hk y hy) (vWindow_length ..) hlo0 hhi (hread x y ch hx hy hc) (hqlo y hy) (hqhi y hy)

/-- ideal value `Σ wᵢ·xᵢ` (same definition as `Fir.C01.idealDot`) -/
def idealDotQ (ws : List ℚ) (xs : List Int) : ℚ := (List.zipWith (fun (w : ℚ) (x : Int) => w * (x : ℚ)) ws xs).sum

theorem passInt_err {k : CKind} (hk : k = .u8 ∨ k = .u16) (ws : List ℚ) {ks xs : List Int} {p : Nat} (hp1 : 1 ≤ p)
    (hlen : ks.length = ws.length) (hlen2 : xs.length = ws.length)
    (hq : ∀ i, i < ws.length → |(ks.getD i 0 : ℚ) - ws.getD i 0 * 2 ^ p| ≤ 1 / 2)
    (hx : ∀ x ∈ xs, 0 ≤ x ∧ x ≤ k.maxVal) (hacc : AccOK k ks xs p) :
    |((passInt k ks xs p : Int) : ℚ) - max 0 (min (k.maxVal : ℚ) (idealDotQ ws xs))|
      ≤ 1 / 2 + (ws.length : ℚ) * k.maxVal / 2 ^ (p + 1) := by
  have hM : (0 : ℚ) ≤ k.maxVal := by exact_mod_cast (passInt_range hk hacc).1.trans (passInt_range hk hacc).2
  rw [passInt_eq_clamp hk hacc, Int.cast_max, Int.cast_min, Int.cast_zero]
  refine (clamp_lipschitz 0 _ hM _ _).trans (pass_err ws ks xs p hp1 _ hlen hlen2 hq fun x hx' => ?_)
  rw [abs_of_nonneg (by exact_mod_cast (hx x hx').1)]
  exact_mod_cast (hx x hx').2

theorem passInt_err_u8 (ws : List ℚ) (ks xs : List Int) (p : Nat) (hp1 : 1 ≤ p) (hp : p < 32)
    (hlen : ks.length = ws.length) (hlen2 : xs.length = ws.length)
    (hq : ∀ i, i < ws.length → |(ks.getD i 0 : ℚ) - ws.getD i 0 * 2 ^ p| ≤ 1 / 2)
    (hx : ∀ x ∈ xs, 0 ≤ x ∧ x ≤ 255) (hacc : AccOK8 ks xs p) :
    |((passInt .u8 ks xs p : Int) : ℚ) - max 0 (min 255 (idealDotQ ws xs))| ≤ 1 / 2 + (ws.length : ℚ) * 255 / 2 ^ (p + 1) := by
  have h := passInt_err (.inl rfl) ws hp1 hlen hlen2 hq hx hacc
  rwa [show ((CKind.u8.maxVal : Int) : ℚ) = 255 from Int.cast_ofNat 255] at h

theorem horizPass_err_u8 (src : Img) (dstW dstH offset : Nat) (c : Coeffs) (ws : Nat → List ℚ)
    (hp1 : 1 ≤ (qOf .u8 c).precision) (hp : (qOf .u8 c).precision < 32)
    (hlen : ∀ x, x < dstW → (chunkAt .u8 c x).2.toList.length = (ws x).length)
    (hq : ∀ x, x < dstW → ∀ i, i < (ws x).length →
      |(((chunkAt .u8 c x).2.toList.getD i 0 : Int) : ℚ) - (ws x).getD i 0 * 2 ^ (qOf .u8 c).precision| ≤ 1 / 2)
    (hsamp : ∀ x y ch, x < dstW → y < dstH → ch < src.n → ∀ s ∈ hWindow .u8 src offset c x y ch, 0 ≤ s ∧ s ≤ 255)
    (hacc : ∀ x y ch, x < dstW → y < dstH → ch < src.n →
      AccOK8 (chunkAt .u8 c x).2.toList (hWindow .u8 src offset c x y ch) (qOf .u8 c).precision)
    (x y ch : Nat) (hx : x < dstW) (hy : y < dstH) (hc : ch < src.n) :
    |(((horizPass .u8 src dstW dstH offset c).get x y ch : Int) : ℚ)
        - max 0 (min 255 (idealDotQ (ws x) (hWindow .u8 src offset c x y ch)))|
      ≤ 1 / 2 + ((ws x).length : ℚ) * 255 / 2 ^ ((qOf .u8 c).precision + 1) := by
  rw [horizPass_get (.inl rfl) hx hy hc]
  exact passInt_err_u8 (ws x) _ _ _ hp1 hp (hlen x hx)
    ((hWindow_length ..).trans (hlen x hx)) (hq x hx) (hsamp x y ch hx hy hc) (hacc x y ch hx hy hc)

theorem vertPass_err_u8 (src : Img) (dstW dstH offset : Nat) (c : Coeffs) (ws : Nat → List ℚ)
    (hp1 : 1 ≤ (qOf .u8 c).precision) (hp : (qOf .u8 c).precision < 32)
    (hlen : ∀ y, y < dstH → (chunkAt .u8 c y).2.toList.length = (ws y).length)
    (hq : ∀ y, y < dstH → ∀ i, i < (ws y).length →
      |(((chunkAt .u8 c y).2.toList.getD i 0 : Int) : ℚ) - (ws y).getD i 0 * 2 ^ (qOf .u8 c).precision| ≤ 1 / 2)
    (hsamp : ∀ x y ch, x < dstW → y < dstH → ch < src.n → ∀ s ∈ vWindow .u8 src offset c x y ch, 0 ≤ s ∧ s ≤ 255)
    (hacc : ∀ x y ch, x < dstW → y < dstH → ch < src.n →
      AccOK8 (chunkAt .u8 c y).2.toList (vWindow .u8 src offset c x y ch) (qOf .u8 c).precision)
    (x y ch : Nat) (hx : x < dstW) (hy : y < dstH) (hc : ch < src.n) :
    |(((vertPass .u8 src dstW dstH offset c).get x y ch : Int) : ℚ)
        - max 0 (min 255 (idealDotQ (ws y) (vWindow .u8 src offset c x y ch)))|
      ≤ 1 / 2 + ((ws y).length : ℚ) * 255 / 2 ^ ((qOf .u8 c).precision + 1) := by
  rw [vertPass_get (.inl rfl) hx hy hc]
  exact passInt_err_u8 (ws y) _ _ _ hp1 hp (hlen y hy)
    ((vWindow_length ..).trans (hlen y hy)) (hq y hy) (hsamp x y ch hx hy hc) (hacc x y ch hx hy hc)

/-- the 16-bit instance of `passInt_err`, constants as numerals -/
theorem passInt_err_u16 (ws : List ℚ) (ks xs : List Int) (p : Nat) (hp1 : 1 ≤ p)
    (hlen : ks.length = ws.length) (hlen2 : xs.length = ws.length)
    (hq : ∀ i, i < ws.length → |(ks.getD i 0 : ℚ) - ws.getD i 0 * 2 ^ p| ≤ 1 / 2)
    (hx : ∀ x ∈ xs, 0 ≤ x ∧ x ≤ 65535) (hacc : AccOK16 ks xs p) :
    |((passInt .u16 ks xs p : Int) : ℚ) - max 0 (min 65535 (idealDotQ ws xs))| ≤ 1 / 2 + (ws.length : ℚ) * 65535 / 2 ^ (p + 1) := by
  have h := passInt_err (.inr rfl) ws hp1 hlen hlen2 hq hx hacc
  rwa [show ((CKind.u16.maxVal : Int) : ℚ) = 65535 from Int.cast_ofNat 65535] at h

theorem horizPass_err_u16 (src : Img) (dstW dstH offset : Nat) (c : Coeffs) (ws : Nat → List ℚ)
    (hp1 : 1 ≤ (qOf .u16 c).precision) (hp : (qOf .u16 c).precision < 64)
    (hlen : ∀ x, x < dstW → (chunkAt .u16 c x).2.toList.length = (ws x).length)
    (hq : ∀ x, x < dstW → ∀ i, i < (ws x).length →
      |(((chunkAt .u16 c x).2.toList.getD i 0 : Int) : ℚ) - (ws x).getD i 0 * 2 ^ (qOf .u16 c).precision| ≤ 1 / 2)
    (hsamp : ∀ x y ch, x < dstW → y < dstH → ch < src.n → ∀ s ∈ hWindow .u16 src offset c x y ch, 0 ≤ s ∧ s ≤ 65535)
    (hacc : ∀ x y ch, x < dstW → y < dstH → ch < src.n →
      AccOK16 (chunkAt .u16 c x).2.toList (hWindow .u16 src offset c x y ch) (qOf .u16 c).precision)
    (x y ch : Nat) (hx : x < dstW) (hy : y < dstH) (hc : ch < src.n) :
    |(((horizPass .u16 src dstW dstH offset c).get x y ch : Int) : ℚ)
        - max 0 (min 65535 (idealDotQ (ws x) (hWindow .u16 src offset c x y ch)))|
      ≤ 1 / 2 + ((ws x).length : ℚ) * 65535 / 2 ^ ((qOf .u16 c).precision + 1) := by
  rw [horizPass_get (.inr rfl) hx hy hc]
  exact passInt_err_u16 (ws x) _ _ _ hp1 (hlen x hx)
    ((hWindow_length ..).trans (hlen x hx)) (hq x hx) (hsamp x y ch hx hy hc) (hacc x y ch hx hy hc)

theorem vertPass_err_u16 (src : Img) (dstW dstH offset : Nat) (c : Coeffs) (ws : Nat → List ℚ)
    (hp1 : 1 ≤ (qOf .u16 c).precision) (hp : (qOf .u16 c).precision < 64)
    (hlen : ∀ y, y < dstH → (chunkAt .u16 c y).2.toList.length = (ws y).length)
    (hq : ∀ y, y < dstH → ∀ i, i < (ws y).length →
      |(((chunkAt .u16 c y).2.toList.getD i 0 : Int) : ℚ) - (ws y).getD i 0 * 2 ^ (qOf .u16 c).precision| ≤ 1 / 2)
    (hsamp : ∀ x y ch, x < dstW → y < dstH → ch < src.n → ∀ s ∈ vWindow .u16 src offset c x y ch, 0 ≤ s ∧ s ≤ 65535)
    (hacc : ∀ x y ch, x < dstW → y < dstH → ch < src.n →
      AccOK16 (chunkAt .u16 c y).2.toList (vWindow .u16 src offset c x y ch) (qOf .u16 c).precision)
    (x y ch : Nat) (hx : x < dstW) (hy : y < dstH) (hc : ch < src.n) :
    |(((vertPass .u16 src dstW dstH offset c).get x y ch : Int) : ℚ)
        - max 0 (min 65535 (idealDotQ (ws y) (vWindow .u16 src offset c x y ch)))|
      ≤ 1 / 2 + ((ws y).length : ℚ) * 65535 / 2 ^ ((qOf .u16 c).precision + 1) := by
  rw [vertPass_get (.inr rfl) hx hy hc]
  exact passInt_err_u16 (ws y) _ _ _ hp1 (hlen y hy)
    ((vWindow_length ..).trans (hlen y hy)) (hq y hy) (hsamp x y ch hx hy hc) (hacc x y ch hx hy hc)

end Fir.Proofs
