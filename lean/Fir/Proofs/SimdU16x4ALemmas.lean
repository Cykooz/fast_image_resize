/-
  Fir.Proofs.SimdU16x4ALemmas - the AVX2 one-row horizontal kernel for RGBA16 (src/convolution/u16x4/avx2.rs,
  `Fir.Model.SimdU16x4A`) equals the portable kernel: each half of its masks is the SSE4.1 mask, so each half of a step is an
  SSE4.1 step (`Lanes.Step.pair`); channel `c` is lane `c` of the two halves together, which gain the dot product of the
  coefficients consumed (`specA`).
-/
import Fir.Model.SimdU16x4A
import Fir.Proofs.SimdU16x4Lemmas

namespace Fir.Proofs.U16x4A
open Fir.SimdU16x4 Fir.SimdU16x4A Fir.Gen Fir.Proofs.Lanes Fir.Proofs.U16x4
open Fir.SimdU8x4 (pshufb)
open Fir.SimdVertU16 (add64 mulEpi32)

theorem masks_lo : u16x4_avx2_one_rg02_lo = u16x4_sse4_rg0 ∧ u16x4_avx2_one_rg13_lo = u16x4_sse4_rg1 ∧
    u16x4_avx2_one_ba02_lo = u16x4_sse4_ba0 ∧ u16x4_avx2_one_ba13_lo = u16x4_sse4_ba1 := by
  refine ⟨?_, ?_, ?_, ?_⟩ <;> decide

theorem masks_hi : u16x4_avx2_one_rg02_hi = u16x4_sse4_rg0 ∧ u16x4_avx2_one_rg13_hi = u16x4_sse4_rg1 ∧
    u16x4_avx2_one_ba02_hi = u16x4_sse4_ba0 ∧ u16x4_avx2_one_ba13_hi = u16x4_sse4_ba1 := by
  refine ⟨?_, ?_, ?_, ?_⟩ <;> decide

theorem half2_sse (s : St) (row : List Int) (x : Nat) (k0 k1 : Int) :
    half2 u16x4_sse4_rg0 u16x4_sse4_rg1 u16x4_sse4_ba0 u16x4_sse4_ba1 s (src4 row x 2) k0 k1 = SimdU16x4.acc2 s row x k0 k1 := rfl

theorem half1_sse (s : St) (row : List Int) (x : Nat) (k : Int) :
    half1 u16x4_sse4_rg0 u16x4_sse4_ba0 s (src4 row x 1) k = SimdU16x4.acc1 s row x k := rfl

abbrev encA (t : Nat → Int) : St × St := (enc fun c => t (2 * c), enc fun c => t (2 * c + 1))

def specA (row : List Int) : Spec :=
  .sums (fun δ c => δ (2 * c) + δ (2 * c + 1)) (dotC16 row) (fun _ _ => by funext c; simp only [Pi.add_apply]; ac_rfl)
    (fun _ _ => rfl) (fun _ _ _ _ => rfl)

theorem halves {row a b : List Int} {x : Nat} {δ ε : Nat → Int} (h1 : (spec row).ok a x δ) (h2 : (spec row).ok b (x + a.length) ε) :
    (specA row).ok (a ++ b) x (ilv δ ε) := by
  obtain rfl := h1
  obtain rfl := h2
  funext c
  simp only [ilv_even, ilv_odd, dot_append (d := dotC16 row c) (fun _ => rfl) (fun _ _ _ => rfl)]

theorem step4 (row : List Int) (x : Nat) (k0 k1 k2 k3 : Int) :
    Step encA (specA row) (fun s => acc4A s row x k0 k1 k2 k3) [k0, k1, k2, k3] x := by
  simpa only [acc4A, masks_lo.1, masks_lo.2.1, masks_lo.2.2.1, masks_lo.2.2.2, masks_hi.1, masks_hi.2.1, masks_hi.2.2.1,
    masks_hi.2.2.2, half2_sse, List.cons_append, List.nil_append]
    using Step.pair halves (U16x4.step2 row x k0 k1) (U16x4.step2 row (x + 2) k2 k3)

theorem step2 (row : List Int) (x : Nat) (k0 k1 : Int) : Step encA (specA row) (fun s => acc2A s row x k0 k1) [k0, k1] x := by
  simpa only [acc2A, masks_lo.1, masks_lo.2.2.1, masks_hi.1, masks_hi.2.2.1, half1_sse, List.cons_append, List.nil_append]
    using Step.pair halves (U16x4.step1 row x k0) (U16x4.step1 row (x + 1) k1)

theorem step1 (row : List Int) (x : Nat) (k : Int) : Step encA (specA row) (fun s => acc1A s row x k) [k] x := by
  have hz : ∀ t, half1 u16x4_sse4_rg0 u16x4_sse4_ba0 (enc t) (List.replicate 16 0) 0 = enc t := fun t => by
    simp only [lanes, lanes_proc, VertU16.encV, half1, add64, mulEpi32, pshufb, u16x4_sse4_rg0, u16x4_sse4_ba0]
  simpa only [acc1A, masks_lo.1, masks_lo.2.2.1, masks_hi.1, masks_hi.2.2.1, half1_sse, List.append_nil]
    using Step.pair halves (U16x4.step1 row x k) (Step.nop (g := fun s => half1 u16x4_sse4_rg0 u16x4_sse4_ba0 s (List.replicate 16 0) 0) _ hz)

theorem loopA_ok (row : List Int) : ∀ (ks : List Int) (x : Nat), Step encA (specA row) (fun s => loopA row ks x s) ks x
  | k0 :: k1 :: k2 :: k3 :: rest, x => by
    simpa only [loopA, List.cons_append, List.nil_append] using (step4 row x k0 k1 k2 k3).comp (loopA_ok row rest (x + 4))
  | [k0, k1, k2], x => by
    simpa only [loopA, List.cons_append, List.nil_append] using (step2 row x k0 k1).comp (step1 row (x + 2) k2)
  | [k0, k1], x => by simpa only [loopA] using step2 row x k0 k1
  | [k], x => by simpa only [loopA] using step1 row x k
  | [], x => by simpa only [loopA] using Step.id x

/-- the AVX2 one-row kernel for RGBA16 equals the portable kernel -/
theorem pixelA_eq_portable (p : Nat) (row : List Int) (start : Nat) (ks : List Int) :
    pixelA p row start ks
      = [clip16 (2 ^ (p - 1) + dotC16 row 0 ks start) p, clip16 (2 ^ (p - 1) + dotC16 row 1 ks start) p,
         clip16 (2 ^ (p - 1) + dotC16 row 2 ks start) p, clip16 (2 ^ (p - 1) + dotC16 row 3 ks start) p] := by
  obtain ⟨δ, hδ, hrun⟩ := loopA_ok row ks start
  have h : loopA row ks start ([[0, 0], [0, 0]], [[0, 0], [0, 0]]) = encA δ := (hrun 0).trans (by rw [zero_add])
  -- `map` first: under its binder `wrapInt_add` fires on the outer `wrap64` before the lanes inside are seen to be `wrap64`s,
  -- which then stay
  simp only [pixelA, clip16, List.range, List.range.loop, List.map]
  simp only [h, encA, VertU16.encV, lanes, lanes_proc, List.flatten_cons, List.flatten_nil, ← congrFun hδ]
  ac_rfl

end Fir.Proofs.U16x4A
