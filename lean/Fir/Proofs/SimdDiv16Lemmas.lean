/-
  Fir.Proofs.SimdDiv16Lemmas - the SSE4.1 / AVX2 16-bit `divide_alpha` lane
  (src/alpha/u16x2/{sse4,avx2}.rs, src/alpha/u16x4/{sse4,avx2}.rs):

      s  = _mm_mul_ps(cvtepi32_ps(colour), 65535.0)          one binary32 rounding (colour·65535 < 2^32)
      q  = _mm_div_ps(s, cvtepi32_ps(alpha))                 one binary32 rounding
      r' = _mm_min_ps(q, 65535.0) & (alpha != 0)             saturation, zero for alpha = 0
      n  = _mm_cvtps_epi32(r')                               an integer nearest to r'

  under the standard model of rounding with the unit roundoff u = 2^-24 of binary32.  The conversions
  `cvtepi32_ps` of 16-bit values are exact.  Conclusion: the lane is *faithful and saturating* exactly like
  the portable `div_and_clip16`, so the two differ by at most one unit (C02) and both satisfy C06.

  The second half discharges the premises about rounding for the executable lane `Fir.Simd.simdDiv16`, the very function
  the correspondence check compares with the SSE4.1 / AVX2 kernels: both of its binary32 operations are `rnd24`, which is
  `flP 24` (`Fir.Proofs.rnd24_eq_flP`).
-/
import Mathlib.Algebra.Order.Group.MinMax
import Fir.Proofs.DivG
import Fir.Proofs.SoftLemmas

namespace Fir.Proofs
open Fir.Spec Fir.Flt Fir.Soft Fir.Ieee

/-- **a lane that computes the quotient to relative accuracy `δ`, saturates it at `m` and rounds it to a
    nearest integer is faithful**, as soon as `δ·m < 1/2` (the two errors stay below 1) and
    `m ≤ (1 − δ)(m + 1)` (a quotient beyond `m` - it is then at least `m + 1` - still saturates) -/
theorem lane_faithful (m c a : ℕ) (ha0 : 0 < a) (ham : a ≤ m) (δ : ℚ) (hδ0 : 0 ≤ δ) (hδ : δ * m < 1 / 2)
    (hsat : (m : ℚ) ≤ (1 - δ) * (m + 1)) (q : ℚ) (n : ℤ)
    (hq : |q - ((c * m : ℕ) : ℚ) / a| ≤ δ * (((c * m : ℕ) : ℚ) / a)) (hn : |(n : ℚ) - min q m| ≤ 1 / 2) :
    0 ≤ n ∧ divFaithful m c a n.toNat := by
  have haq : (0 : ℚ) < a := by exact_mod_cast ha0
  set e : ℚ := ((c * m : ℕ) : ℚ) / a with he
  have he0 : 0 ≤ e := by positivity
  have hmin : |min q m - min e m| < 1 / 2 := by
    rcases Nat.lt_or_ge a c with hca | hca
    · -- colour > alpha: `e ≥ m + 1`, both sides saturate
      have he2 : (m : ℚ) + 1 ≤ e := by
        rw [he, le_div_iff₀ haq]
        have : (m + 1) * a ≤ c * m := by have := Nat.mul_le_mul_left m hca; lia
        exact_mod_cast this
      have h1 : 0 ≤ 1 - δ := by
        have := mul_le_mul_of_nonneg_left (Nat.one_le_cast.mpr (ha0.trans_le ham) : (1 : ℚ) ≤ m) hδ0
        linarith
      have hq1 : (m : ℚ) ≤ q := by
        have := (abs_le.mp hq).1
        have := mul_le_mul_of_nonneg_left he2 h1
        linarith
      rw [min_eq_right hq1, min_eq_right (by linarith : (m : ℚ) ≤ e), sub_self, abs_zero]
      norm_num
    · have he1 : e ≤ m := by
        rw [he, div_le_iff₀ haq]
        exact_mod_cast Nat.mul_le_mul_right m hca |>.trans_eq (Nat.mul_comm a m)
      calc |min q m - min e m| ≤ |q - e| := by simpa using abs_min_sub_min_le_max q m e m
        _ ≤ δ * e := hq
        _ ≤ δ * m := mul_le_mul_of_nonneg_left he1 hδ0
        _ < 1 / 2 := hδ
  have hclose : |(n : ℚ) - min e m| < 1 :=
    calc |(n : ℚ) - min e m| ≤ |(n : ℚ) - min q m| + |min q m - min e m| := abs_sub_le ..
      _ < 1 / 2 + 1 / 2 := add_lt_add_of_le_of_lt hn hmin
      _ = 1 := by norm_num
  have hn0 : 0 ≤ n := by
    have : (-1 : ℚ) < n := (abs_lt.mp hclose).1.trans_le (sub_le_self _ (le_min he0 (Nat.cast_nonneg m)))
    have : (-1 : ℤ) < n := by exact_mod_cast this
    omega
  refine ⟨hn0, divFaithful_of_close m c a n.toNat ha0 ?_⟩
  have : ((n.toNat : ℕ) : ℚ) = (n : ℚ) := by exact_mod_cast Int.toNat_of_nonneg hn0
  rwa [this]

/-- **the SIMD 16-bit divide lane is faithful and saturating.**  `s`, `q` are the two rounded
    intermediate values (relative error at most 2^-24 each), `n` the integer `cvtps_epi32` returns
    (any integer nearest to the saturated quotient - round-to-nearest-even is one). -/
theorem simd_div16_lane_faithful (c a : ℕ) (ha0 : 0 < a) (ha : a < 65536)
    (s q : ℚ) (n : ℤ)
    (hs : |s - (c : ℚ) * 65535| ≤ 1 / 2 ^ 24 * |(c : ℚ) * 65535|)
    (hq : |q - s / a| ≤ 1 / 2 ^ 24 * |s / a|)
    (hn : |(n : ℚ) - min q 65535| ≤ 1 / 2) :
    0 ≤ n ∧ divFaithful 65535 c a n.toNat := by
  have hsa : |s / a - (c : ℚ) * 65535 / a| ≤ 1 / 2 ^ 24 * |(c : ℚ) * 65535 / a| := by
    rw [← sub_div, abs_div, abs_div, ← mul_div_assoc]
    exact div_le_div_of_nonneg_right hs (abs_nonneg _)
  -- two roundings: relative error `u·(1 + u) + u`
  have hqe := round_step (by positivity) hsa le_rfl hq
  have e0 : (0 : ℚ) ≤ (c : ℚ) * 65535 / a := by positivity
  rw [abs_of_nonneg e0] at hqe
  refine lane_faithful 65535 c a ha0 (by omega) (1 / 2 ^ 24 * (1 + 1 / 2 ^ 24) + 1 / 2 ^ 24) (by positivity)
    (by norm_num) (by norm_num) q n ?_ (by exact_mod_cast hn)
  push_cast
  linarith

-- `rnd24_eq_flP` speaks of `2 ^ 512`; Lean evaluates no power above `2 ^ 256` unasked
set_option exponentiation.threshold 600

theorem cvtps_near (x : ℕ × ℕ) (hx : valQ x < 2147483647) :
    |((Fir.Simd.cvtpsNonneg x : ℕ) : ℚ) - valQ x| ≤ 1 / 2 := by
  -- both branches round the fraction `valQ_eq_div`
  have hv : (if x.2 ≥ bias then x.1 * 2 ^ (x.2 - bias) else rneDiv x.1 (2 ^ (bias - x.2)))
      = rneDiv (x.1 * 2 ^ (x.2 - bias)) (2 ^ (bias - x.2)) := by
    split <;> rename_i h
    · rw [Nat.sub_eq_zero_of_le h, pow_zero, rneDiv_one]
    · rw [Nat.sub_eq_zero_of_le (Nat.le_of_not_ge h), pow_zero, mul_one]
  have herr := rneDiv_err (x.1 * 2 ^ (x.2 - bias)) (2 ^ (bias - x.2)) (Nat.two_pow_pos _)
  rw [← valQ_eq_div] at herr
  have hlt : rneDiv (x.1 * 2 ^ (x.2 - bias)) (2 ^ (bias - x.2)) < 2147483648 := by
    exact_mod_cast (by linarith [(abs_le.mp herr).2] : ((rneDiv _ _ : ℕ) : ℚ) < 2147483648)
  unfold Fir.Simd.cvtpsNonneg
  rwa [hv, if_neg (by omega)]

/-- the tail of the lane: saturation `_mm_min_ps` and conversion `_mm_cvtps_epi32` of the dyadic `q` -/
theorem satCvt_near (q : ℕ × ℕ) :
    |(((if Fir.Simd.dyadicGe q 65535 = true then 65535 else Fir.Simd.cvtpsNonneg q : ℕ) : ℤ) : ℚ)
      - min (valQ q) 65535| ≤ 1 / 2 := by
  split <;> rename_i hge
  · rw [min_eq_right (by exact_mod_cast (dyadicGe_iff q 65535).mp hge)]
    norm_num
  · have hlt : valQ q < 65535 := lt_of_not_ge fun h => hge ((dyadicGe_iff q 65535).mpr (by exact_mod_cast h))
    rw [min_eq_left hlt.le]
    simpa using cvtps_near q (hlt.trans (by norm_num))

/-- the model's `_mm_div_ps` of a dyadic `s ∈ [1, 2^33)` by an integer `a < 2^16` is the correctly rounded quotient -/
theorem divDyadic_eq_flP (s : ℕ × ℕ) (a : ℕ) (ha0 : 0 < a) (ha : a < 65536) (hs1 : 1 ≤ valQ s) (hs2 : valQ s < 2 ^ 33)
    (hsnd : bias - 149 ≤ s.2) :
    valQ (if s.2 ≥ bias then rnd24 (s.1 * 2 ^ (s.2 - bias)) a else rnd24 s.1 (a * 2 ^ (bias - s.2)))
      = flP 24 (valQ s / a) := by
  -- the model divides `n2 = s.1 · 2^(s.2 - bias)` by `a · k`, `k = 2^(bias - s.2)`, where one of the two powers is 1
  have hq : (if s.2 ≥ bias then rnd24 (s.1 * 2 ^ (s.2 - bias)) a else rnd24 s.1 (a * 2 ^ (bias - s.2)))
      = rnd24 (s.1 * 2 ^ (s.2 - bias)) (a * 2 ^ (bias - s.2)) := by
    split <;> rename_i h
    · rw [Nat.sub_eq_zero_of_le h, pow_zero, mul_one]
    · rw [Nat.sub_eq_zero_of_le (Nat.le_of_not_ge h), pow_zero, mul_one]
  rw [hq]
  rw [valQ_eq_div s] at hs1 hs2 ⊢
  have hk : 0 < 2 ^ (bias - s.2) := Nat.two_pow_pos _
  have hk149 : 2 ^ (bias - s.2) ≤ 2 ^ 149 := Nat.pow_le_pow_right (by norm_num) (by omega)
  generalize s.1 * 2 ^ (s.2 - bias) = n2 at hs1 hs2 ⊢
  generalize 2 ^ (bias - s.2) = k at hs1 hs2 hk hk149 ⊢
  have hkq : (0 : ℚ) < k := by exact_mod_cast hk
  -- `k ≤ n2 < 2^33 · k`: the operands are in range, the quotient is normal
  rw [le_div_iff₀ hkq, one_mul] at hs1
  rw [div_lt_iff₀ hkq] at hs2
  have hk1 : k ≤ n2 := by exact_mod_cast hs1
  have hk2 : n2 < 2 ^ 33 * k := by exact_mod_cast hs2
  rw [div_div, mul_comm (k : ℚ), ← Nat.cast_mul]
  exact rnd24_eq_flP n2 (a * k) (hk.trans_le hk1) (Nat.mul_pos ha0 hk)
    (hk2.trans ((Nat.mul_le_mul_left _ hk149).trans_lt (by norm_num)))
    ((Nat.mul_lt_mul_of_lt_of_le ha hk149 (by norm_num)).trans (by decide))
    ((Nat.mul_le_mul (by omega : a ≤ 2 ^ 126) hk1).trans_eq (Nat.mul_comm ..))

/-- **the executable SIMD 16-bit divide lane is faithful and saturating for all 2^32 (colour, alpha)
    pairs** - no premise about rounding left: both binary32 operations are evaluated exactly by `rnd24`,
    which is `flP 24`; the same function is compared with the SSE4.1 / AVX2 kernels by the
    correspondence check -/
theorem simdDiv16_faithful (c a : ℕ) (hc : c < 65536) (ha : a < 65536) :
    Fir.Spec.divFaithful 65535 c a (Fir.Simd.simdDiv16 c a) := by
  rcases Nat.eq_zero_or_pos a with rfl | ha0
  · simp [Fir.Simd.simdDiv16, Fir.Spec.divFaithful]
  rcases Nat.eq_zero_or_pos c with rfl | hc0
  · have h0 : Fir.Simd.simdDiv16 0 a = 0 := by
      simp [Fir.Simd.simdDiv16, ha0.ne', rnd24_zero, Fir.Simd.dyadicGe, Fir.Simd.cvtpsNonneg]
    simp [h0, Fir.Spec.divFaithful, ha0.ne']
  unfold Fir.Simd.simdDiv16
  rw [if_neg ha0.ne']
  -- first rounding: `s = fl(c · 65535)`, a dyadic with `1 ≤ valQ s < 2^33` and exponent at least `bias - 149`
  have hs := flP_relErr 24 (by norm_num) ((c : ℚ) * 65535)
  have hsnd := rnd24_snd_ge (c * 65535) 1
  have hS := rnd24_eq_flP_small (c * 65535) 1 (by omega) (by norm_num)
  rw [show (((c * 65535 : ℕ)) : ℚ) / ((1 : ℕ) : ℚ) = (c : ℚ) * 65535 by push_cast; ring] at hS
  rw [← hS] at hs
  generalize rnd24 (c * 65535) 1 = s at hs hsnd ⊢
  have hcq : (1 : ℚ) ≤ c ∧ (c : ℚ) ≤ 65535 := by exact_mod_cast (by omega : 1 ≤ c ∧ c ≤ 65535)
  have hb := abs_le.mp hs
  rw [abs_of_nonneg (by positivity : (0 : ℚ) ≤ (c : ℚ) * 65535)] at hb
  -- second rounding `q = fl(s / a)`, then the tail
  have hq := flP_relErr 24 (by norm_num) (valQ s / a)
  rw [← divDyadic_eq_flP s a ha0 ha (by linarith [hb.1]) (by linarith [hb.2]) hsnd] at hq
  have := (simd_div16_lane_faithful c a ha0 ha (valQ s) _ _ hs hq (satCvt_near _)).2
  rwa [Int.toNat_natCast] at this

end Fir.Proofs
