/-
  Fir.Proofs.SimdU8x2Lemmas - the SSE4.1 horizontal kernels for two-channel 8-bit images (src/convolution/u8x2/sse4.rs,
  `Fir.Model.SimdU8x2`, masks re-extracted from the source) against the portable kernel.

  Both kernels keep two partial sums per channel: of the coefficients of one 8 / 4 / 2 / 1 step, number `i` goes to partial sum
  `i / 2 % 2` (`part`).  `StepOK` says of a piece of a kernel (one step, a remainder, a whole loop) what it adds to the four
  lanes: increments `e0 .. e3` whose pairs add up to the channel's dot product over the coefficients consumed, each bounded by
  `255 * Σ|k|`.  Pieces compose (`StepOK.comp`), so the loop and every remainder branch follow from the single steps; the
  final `saturating_add` is then exact under the headroom bound.
-/
import Fir.Model.SimdU8x2
import Fir.Proofs.SimdLanes

namespace Fir.Proofs.U8x2
open Fir.SimdU8x2 Fir.Gen
open Fir.SimdU8x4 (wrap32 pshufb madd add32 i16At wrap16 kBytes clone4)

theorem byte_mul_bound (v κ : Int) : -(255 * (κ.natAbs : Int)) ≤ v % 256 * κ ∧ v % 256 * κ ≤ 255 * (κ.natAbs : Int) := by
  have h : v % 256 * (κ.natAbs : Int) ≤ 255 * κ.natAbs := Int.mul_le_mul_of_nonneg_right (by omega) (Int.natCast_nonneg _)
  have h0 : 0 ≤ v % 256 * (κ.natAbs : Int) := Int.mul_nonneg (by omega) (Int.natCast_nonneg _)
  rcases Int.natAbs_eq κ with e | e
  · rw [← e] at h h0; omega
  · generalize (κ.natAbs : Int) = n at *
    subst e
    rw [Int.mul_neg]; omega

theorem absSum_append (a b : List Int) : absSum (a ++ b) = absSum a + absSum b :=
  Lanes.dot_append (d := fun ks _ => absSum ks) (fun _ => rfl) (fun _ _ _ => rfl) a b 0

theorem dot2_append (row : List Int) (c : Nat) (a b : List Int) (x : Nat) :
    dot2 row c (a ++ b) x = dot2 row c a x + dot2 row c b (x + a.length) :=
  Lanes.dot_append (fun _ => rfl) (fun _ _ _ => rfl) a b x

theorem dot2_bound (row : List Int) (c : Nat) : ∀ (ks : List Int) (x : Nat),
    -(255 * absSum ks) ≤ dot2 row c ks x ∧ dot2 row c ks x ≤ 255 * absSum ks
  | [], _ => by simp [dot2, absSum]
  | k :: ks, x => by
    have h := byte_mul_bound (row.getD (2 * x + c) 0) (wrap16 k)
    have h' := dot2_bound row c ks (x + 1)
    simp only [dot2, absSum]
    omega

/-- partial sum `h` (0 or 1) of channel `c`: both kernels keep two per channel, and coefficient `i` of a step goes to number `i / 2 % 2` -/
def part (row : List Int) (c h : Nat) : List Int → Nat → Nat → Int
  | [], _, _ => 0
  | k :: ks, x, i => (if i / 2 % 2 = h then row.getD (2 * x + c) 0 % 256 * wrap16 k else 0) + part row c h ks (x + 1) (i + 1)

theorem part_add (row : List Int) (c : Nat) : ∀ (ks : List Int) (x i : Nat),
    part row c 0 ks x i + part row c 1 ks x i = dot2 row c ks x
  | [], _, _ => rfl
  | k :: ks, x, i => by
    simp only [part, dot2, ← part_add row c ks (x + 1) (i + 1)]
    rcases Nat.mod_two_eq_zero_or_one (i / 2) with h | h <;> simp only [h, reduceIte, Nat.reduceEqDiff] <;> omega

theorem part_bound (row : List Int) (c h : Nat) : ∀ (ks : List Int) (x i : Nat),
    -(255 * absSum ks) ≤ part row c h ks x i ∧ part row c h ks x i ≤ 255 * absSum ks
  | [], _, _ => by simp [part, absSum]
  | k :: ks, x, i => by
    have hb := byte_mul_bound (row.getD (2 * x + c) 0) (wrap16 k)
    have h' := part_bound row c h ks (x + 1) (i + 1)
    simp only [part, absSum]
    split <;> omega

/-- what a piece `f` of a kernel does to the four lanes while consuming the coefficients `ks` at pixel `x`;
    `pr = true`: lanes `[L, L, A, A]` (four-row kernel), `pr = false`: lanes `[L, A, L, A]` (one-row kernel) -/
def StepOK (pr : Bool) (row : List Int) (f : List Int → List Int) (ks : List Int) (x : Nat) : Prop :=
  ∀ a0 a1 a2 a3 : Int, ∃ e0 e1 e2 e3 : Int,
    f [wrap32 a0, wrap32 a1, wrap32 a2, wrap32 a3] = [wrap32 (a0 + e0), wrap32 (a1 + e1), wrap32 (a2 + e2), wrap32 (a3 + e3)] ∧
    (if pr then e0 + e1 else e0 + e2) = dot2 row 0 ks x ∧
    (if pr then e2 + e3 else e1 + e3) = dot2 row 1 ks x ∧
    (-(255 * absSum ks) ≤ e0 ∧ e0 ≤ 255 * absSum ks) ∧ (-(255 * absSum ks) ≤ e1 ∧ e1 ≤ 255 * absSum ks) ∧
    (-(255 * absSum ks) ≤ e2 ∧ e2 ≤ 255 * absSum ks) ∧ (-(255 * absSum ks) ≤ e3 ∧ e3 ≤ 255 * absSum ks)

theorem StepOK.id (pr : Bool) (row : List Int) (x : Nat) : StepOK pr row (fun s => s) [] x := by
  intro a0 a1 a2 a3
  refine ⟨0, 0, 0, 0, by simp, ?_, ?_, ?_⟩ <;> simp [dot2, absSum]

theorem bound_add {A B e g : Int} (he : -(255 * A) ≤ e ∧ e ≤ 255 * A) (hg : -(255 * B) ≤ g ∧ g ≤ 255 * B) :
    -(255 * (A + B)) ≤ e + g ∧ e + g ≤ 255 * (A + B) := by omega

theorem StepOK.comp {pr : Bool} {row : List Int} {f g : List Int → List Int} {ks1 ks2 : List Int} {x : Nat}
    (hf : StepOK pr row f ks1 x) (hg : StepOK pr row g ks2 (x + ks1.length)) :
    StepOK pr row (fun s => g (f s)) (ks1 ++ ks2) x := by
  intro a0 a1 a2 a3
  obtain ⟨e0, e1, e2, e3, hfe, hL, hA, b0, b1, b2, b3⟩ := hf a0 a1 a2 a3
  obtain ⟨d0, d1, d2, d3, hge, hL', hA', c0, c1, c2, c3⟩ := hg (a0 + e0) (a1 + e1) (a2 + e2) (a3 + e3)
  rw [dot2_append, dot2_append, absSum_append, ← hL, ← hL', ← hA, ← hA']
  refine ⟨e0 + d0, e1 + d1, e2 + d2, e3 + d3, by simp only [hfe, hge, add_assoc], ?_, ?_,
    bound_add b0 c0, bound_add b1 c1, bound_add b2 c2, bound_add b3 c3⟩ <;> cases pr <;> exact add_add_add_comm ..

/-- a step whose four lanes gain the partial sums of its coefficients, in the order of the kernel's lanes -/
theorem StepOK.of_parts (pr : Bool) {row : List Int} {f : List Int → List Int} {ks : List Int} {x : Nat}
    (h : ∀ a0 a1 a2 a3 : Int, f [wrap32 a0, wrap32 a1, wrap32 a2, wrap32 a3] =
      [wrap32 (a0 + part row 0 0 ks x 0), wrap32 (a1 + if pr then part row 0 1 ks x 0 else part row 1 0 ks x 0),
       wrap32 (a2 + if pr then part row 1 0 ks x 0 else part row 0 1 ks x 0), wrap32 (a3 + part row 1 1 ks x 0)]) :
    StepOK pr row f ks x := by
  intro a0 a1 a2 a3
  refine ⟨_, _, _, _, h a0 a1 a2 a3, ?_, ?_, ?_⟩
  · cases pr <;> exact part_add row 0 ks x 0
  · cases pr <;> exact part_add row 1 ks x 0
  · cases pr <;> exact ⟨part_bound .., part_bound .., part_bound .., part_bound ..⟩

theorem step8r (row : List Int) (x : Nat) (k0 k1 k2 k3 k4 k5 k6 k7 : Int) :
    StepOK true row (fun s => acc8r s row x [k0, k1, k2, k3, k4, k5, k6, k7]) [k0, k1, k2, k3, k4, k5, k6, k7] x :=
  .of_parts true fun a0 a1 a2 a3 => by
    simp only [lanes, lanes_proc, acc8r, set1x64, src2, add32, madd, pshufb, i16At, kBytes, u8x2_sse4_four_sh1, u8x2_sse4_four_sh2, part]
    ac_rfl

theorem step4r (row : List Int) (x : Nat) (k0 k1 k2 k3 : Int) :
    StepOK true row (fun s => acc4r s row x [k0, k1, k2, k3]) [k0, k1, k2, k3] x :=
  .of_parts true fun a0 a1 a2 a3 => by
    simp only [lanes, lanes_proc, acc4r, set1x64, src2, add32, madd, pshufb, i16At, kBytes, u8x2_sse4_four_sh1, part]

theorem step2r (row : List Int) (x : Nat) (k0 k1 : Int) : StepOK true row (fun s => acc2r s row x [k0, k1]) [k0, k1] x :=
  .of_parts true fun a0 a1 a2 a3 => by
    simp only [lanes, lanes_proc, acc2r, clone4, src2, add32, madd, pshufb, i16At, kBytes, u8x2_sse4_four_sh1, part]

theorem step1r (row : List Int) (x : Nat) (k : Int) : StepOK true row (fun s => acc1r s row x k) [k] x :=
  .of_parts true fun a0 a1 a2 a3 => by
    simp only [lanes, lanes_proc, acc1r, set1x32, clone4, src2, add32, madd, pshufb, i16At, u8x2_sse4_four_sh1, part]

theorem tailR0 (s row : List Int) (x : Nat) : tailR s row x [] = s := rfl
theorem tailR1 (s row : List Int) (x : Nat) (k0 : Int) : tailR s row x [k0] = acc1r s row x k0 := rfl
theorem tailR2 (s row : List Int) (x : Nat) (k0 k1 : Int) : tailR s row x [k0, k1] = acc2r s row x [k0, k1] := rfl
theorem tailR3 (s row : List Int) (x : Nat) (k0 k1 k2 : Int) :
    tailR s row x [k0, k1, k2] = acc1r (acc2r s row x [k0, k1]) row (x + 2) k2 := rfl
theorem tailR4 (s row : List Int) (x : Nat) (k0 k1 k2 k3 : Int) : tailR s row x [k0, k1, k2, k3] = acc4r s row x [k0, k1, k2, k3] := rfl
theorem tailR5 (s row : List Int) (x : Nat) (k0 k1 k2 k3 k4 : Int) :
    tailR s row x [k0, k1, k2, k3, k4] = acc1r (acc4r s row x [k0, k1, k2, k3]) row (x + 4) k4 := rfl
theorem tailR6 (s row : List Int) (x : Nat) (k0 k1 k2 k3 k4 k5 : Int) :
    tailR s row x [k0, k1, k2, k3, k4, k5] = acc2r (acc4r s row x [k0, k1, k2, k3]) row (x + 4) [k4, k5] := rfl
theorem tailR7 (s row : List Int) (x : Nat) (k0 k1 k2 k3 k4 k5 k6 : Int) :
    tailR s row x [k0, k1, k2, k3, k4, k5, k6]
      = acc1r (acc2r (acc4r s row x [k0, k1, k2, k3]) row (x + 4) [k4, k5]) row (x + 4 + 2) k6 := rfl

theorem tailR_ok (row : List Int) (x : Nat) (ks : List Int) (hlen : ks.length < 8) :
    StepOK true row (fun s => tailR s row x ks) ks x := by
  -- `simpa only [tailR3, ..]`, not `exact`: to close a case by `exact` the unifier unfolds the model's `tailR`, which is slow
  match ks, hlen with
  | [], _ => exact StepOK.id true row x
  | [k0], _ => simpa only [tailR1] using step1r row x k0
  | [k0, k1], _ => simpa only [tailR2] using step2r row x k0 k1
  | [k0, k1, k2], _ => simpa only [tailR3, List.cons_append, List.nil_append] using (step2r row x k0 k1).comp (step1r row (x + 2) k2)
  | [k0, k1, k2, k3], _ => simpa only [tailR4] using step4r row x k0 k1 k2 k3
  | [k0, k1, k2, k3, k4], _ =>
    simpa only [tailR5, List.cons_append, List.nil_append] using (step4r row x k0 k1 k2 k3).comp (step1r row (x + 4) k4)
  | [k0, k1, k2, k3, k4, k5], _ =>
    simpa only [tailR6, List.cons_append, List.nil_append] using (step4r row x k0 k1 k2 k3).comp (step2r row (x + 4) k4 k5)
  | [k0, k1, k2, k3, k4, k5, k6], _ =>
    simpa only [tailR7, List.cons_append, List.nil_append]
      using ((step4r row x k0 k1 k2 k3).comp (step2r row (x + 4) k4 k5)).comp (step1r row (x + 4 + 2) k6)
  | _ :: _ :: _ :: _ :: _ :: _ :: _ :: _ :: _, h => simp at h; omega

def pieces (pr : Bool) (row : List Int) : Lanes.Pieces (List Int) := ⟨StepOK pr row, StepOK.id pr row, StepOK.comp⟩

theorem loopR_ok (row : List Int) (ks : List Int) (x : Nat) : StepOK true row (fun s => loopR row ks x s) ks x :=
  Lanes.loop8_ok (pieces true row) (body := fun s x k => acc8r s row x k) (fin := fun s x ks => tailR s row x ks) (fun ks x s => by rw [loopR]; rfl)
    (step8r row) (tailR_ok row) ks x

/-- the 8-step is two rounds of shuffles and `madd` on one load: the first consumes coefficients 0 .. 3, the second 4 .. 7 -/
theorem step8_lo (row : List Int) (x : Nat) (k0 k1 k2 k3 k4 k5 k6 k7 : Int) :
    StepOK false row (fun s => add32 s (madd (pshufb (src2 row x 8) u8x2_sse4_one_pix_sh1)
      (pshufb (kBytes [k0, k1, k2, k3, k4, k5, k6, k7]) u8x2_sse4_one_coeff_sh1))) [k0, k1, k2, k3] x :=
  .of_parts false fun a0 a1 a2 a3 => by
    simp only [lanes, lanes_proc, src2, add32, madd, pshufb, i16At, kBytes, u8x2_sse4_one_pix_sh1, u8x2_sse4_one_coeff_sh1, part,
      Bool.false_eq_true]

theorem step8_hi (row : List Int) (x : Nat) (k0 k1 k2 k3 k4 k5 k6 k7 : Int) :
    StepOK false row (fun s => add32 s (madd (pshufb (src2 row x 8) u8x2_sse4_one_pix_sh2)
      (pshufb (kBytes [k0, k1, k2, k3, k4, k5, k6, k7]) u8x2_sse4_one_coeff_sh2))) [k4, k5, k6, k7] (x + 4) :=
  .of_parts false fun a0 a1 a2 a3 => by
    simp only [lanes, lanes_proc, src2, add32, madd, pshufb, i16At, kBytes, u8x2_sse4_one_pix_sh2, u8x2_sse4_one_coeff_sh2, part,
      Bool.false_eq_true]

theorem step8 (row : List Int) (x : Nat) (k0 k1 k2 k3 k4 k5 k6 k7 : Int) :
    StepOK false row (fun s => SimdU8x2.acc8 s row x [k0, k1, k2, k3, k4, k5, k6, k7]) [k0, k1, k2, k3, k4, k5, k6, k7] x :=
  (step8_lo row x k0 k1 k2 k3 k4 k5 k6 k7).comp (step8_hi row x k0 k1 k2 k3 k4 k5 k6 k7)

theorem step4 (row : List Int) (x : Nat) (k0 k1 k2 k3 : Int) :
    StepOK false row (fun s => SimdU8x2.acc4 s row x k0 k1 k2 k3) [k0, k1, k2, k3] x :=
  .of_parts false fun a0 a1 a2 a3 => by
    simp only [lanes, lanes_proc, SimdU8x2.acc4, src2, add32, madd, pshufb, i16At, kBytes, u8x2_sse4_one_pix_sh3, part, Bool.false_eq_true]

theorem stepRem (row : List Int) (x : Nat) : ∀ ks : List Int, 1 ≤ ks.length → ks.length ≤ 3 →
    StepOK false row (fun s => accRem s row x ks) ks x
  | [_], _, _ | [_, _], _, _ | [_, _, _], _, _ => .of_parts false fun a0 a1 a2 a3 => by
    simp only [lanes, lanes_proc, accRem, add32, madd, i16At, kBytes, part, Bool.false_eq_true, List.length_cons, List.length_nil]
  | [], h, _ => by simp at h
  | _ :: _ :: _ :: _ :: _, _, h => by simp at h

theorem tail_ok (row : List Int) (x : Nat) (ks : List Int) (hlen : ks.length < 8) :
    StepOK false row (fun s => SimdU8x2.tail s row x ks) ks x :=
  match ks, hlen with
  | [], _ => StepOK.id false row x
  | [_], _ | [_, _], _ | [_, _, _], _ => stepRem row x _ (by simp) (by simp)
  | [k0, k1, k2, k3], _ => step4 row x k0 k1 k2 k3
  | k0 :: k1 :: k2 :: k3 :: k4 :: rest, h => by
    simpa only [SimdU8x2.tail, List.isEmpty_cons, Bool.false_eq_true, if_false, List.cons_append, List.nil_append]
      using (step4 row x k0 k1 k2 k3).comp (stepRem row (x + 4) (k4 :: rest) (by simp) (by simp at h ⊢; omega))

theorem loop_ok (row : List Int) (ks : List Int) (x : Nat) : StepOK false row (fun s => SimdU8x2.loop row ks x s) ks x :=
  Lanes.loop8_ok (pieces false row) (body := fun s x k => SimdU8x2.acc8 s row x k) (fin := fun s x ks => SimdU8x2.tail s row x ks)
    (fun ks x s => by rw [SimdU8x2.loop]; rfl) (step8 row) (tail_ok row) ks x

/-- two lanes holding `u` and `v`, each the initial `1 << (PRECISION - 2)` plus a partial sum within `B`, the sum `d` of the two
    within `B` as well: nothing wraps, `saturating_add` does not saturate, and `clip` sees the portable accumulator -/
theorem join_exact (p : Nat) (hp2 : 2 ≤ p) (u v e f B d : Int) (hu : u = 2 ^ (p - 2) + e) (hv : v = 2 ^ (p - 2) + f)
    (he : -B ≤ e ∧ e ≤ B) (hf : -B ≤ f ∧ f ≤ B) (hd : -B ≤ d ∧ d ≤ B) (hsum : e + f = d)
    (hB : B + 2 ^ (p - 1) < (2 : Int) ^ 31) :
    SimdU8x2.clip (satAdd (wrap32 u) (wrap32 v)) p = clip8 (2 ^ (p - 1) + d) p := by
  have h2 : (2 : Int) ^ (p - 1) = 2 * 2 ^ (p - 2) := (pow2_pred (p - 1) (by omega)).trans (by rw [Nat.sub_sub])
  have htpos := pow2_pos (p - 2)
  obtain ⟨⟨u0, u1⟩, ⟨v0, v1⟩, huv, s0, s1⟩ : (-2 ^ 31 ≤ u ∧ u < 2 ^ 31) ∧ (-2 ^ 31 ≤ v ∧ v < 2 ^ 31) ∧ u + v = 2 ^ (p - 1) + d ∧
      -2147483648 ≤ u + v ∧ u + v ≤ 2147483647 := by omega
  have hu' : wrap32 u = u := wrapInt32_id u u0 u1
  have hv' : wrap32 v = v := wrapInt32_id v v0 v1
  have hs : satAdd u v = u + v := by unfold satAdd; rw [min_eq_right s1, max_eq_right s0]
  rw [hu', hv', hs, ← huv]
  unfold SimdU8x2.clip clip8
  rw [wrapInt32_id _ s0 (Int.lt_add_one_iff.mpr s1)]

/-- each row of the SSE4.1 four-row kernel of U8x2 equals the portable kernel under the `i32` headroom bound -/
theorem pixelR_eq_portable (p : Nat) (hp2 : 2 ≤ p) (row : List Int) (start : Nat) (ks : List Int)
    (hB : 255 * absSum ks + 2 ^ (p - 1) < (2 : Int) ^ 31) :
    pixelR p row start ks = [clip8 (2 ^ (p - 1) + dot2 row 0 ks start) p, clip8 (2 ^ (p - 1) + dot2 row 1 ks start) p] := by
  obtain ⟨e0, e1, e2, e3, hrun, hL, hA, b0, b1, b2, b3⟩ := loopR_ok row ks start (2 ^ (p - 2)) (2 ^ (p - 2)) (2 ^ (p - 2)) (2 ^ (p - 2))
  simp only [pixelR, hrun, List.getD_cons_succ, List.getD_cons_zero]
  rw [join_exact p hp2 _ _ e1 e0 _ _ rfl rfl b1 b0 (dot2_bound row 0 ks start) ((add_comm ..).trans hL) hB,
      join_exact p hp2 _ _ e3 e2 _ _ rfl rfl b3 b2 (dot2_bound row 1 ks start) ((add_comm ..).trans hA) hB]

/-- a piece of the one-row kernel run from `1 << (PRECISION - 2)` in all four lanes, and the pixel stored from its lanes -/
theorem finish {row : List Int} {f : List Int → List Int} {ks : List Int} {x : Nat} (hf : StepOK false row f ks x) (p : Nat) (hp2 : 2 ≤ p)
    (hB : 255 * absSum ks + 2 ^ (p - 1) < (2 : Int) ^ 31) :
    (fun s : List Int => [SimdU8x2.clip (satAdd (s.getD 0 0) (s.getD 2 0)) p, SimdU8x2.clip (satAdd (s.getD 1 0) (s.getD 3 0)) p])
        (f [wrap32 (2 ^ (p - 2)), wrap32 (2 ^ (p - 2)), wrap32 (2 ^ (p - 2)), wrap32 (2 ^ (p - 2))])
      = [clip8 (2 ^ (p - 1) + dot2 row 0 ks x) p, clip8 (2 ^ (p - 1) + dot2 row 1 ks x) p] := by
  obtain ⟨e0, e1, e2, e3, hrun, hL, hA, b0, b1, b2, b3⟩ := hf (2 ^ (p - 2)) (2 ^ (p - 2)) (2 ^ (p - 2)) (2 ^ (p - 2))
  simp only [hrun, List.getD_cons_succ, List.getD_cons_zero]
  rw [join_exact p hp2 _ _ e0 e2 _ _ rfl rfl b0 b2 (dot2_bound row 0 ks x) hL hB,
      join_exact p hp2 _ _ e1 e3 _ _ rfl rfl b1 b3 (dot2_bound row 1 ks x) hA hB]

/-- the SSE4.1 one-row kernel of U8x2 equals the portable kernel under the `i32` headroom bound -/
theorem pixel_eq_portable (p : Nat) (hp2 : 2 ≤ p) (row : List Int) (start : Nat) (ks : List Int)
    (hB : 255 * absSum ks + 2 ^ (p - 1) < (2 : Int) ^ 31) :
    SimdU8x2.pixel p row start ks = [clip8 (2 ^ (p - 1) + dot2 row 0 ks start) p, clip8 (2 ^ (p - 1) + dot2 row 1 ks start) p] :=
  finish (loop_ok row ks start) p hp2 hB

end Fir.Proofs.U8x2
