/-
  Fir.Proofs.FloatLemmas - the floating-point passes (I32, F32, F32x2..4: `ss += px as f64 * k` in the
  portable kernels, two / four partial f64 accumulators and a horizontal add in the SSE4.1 / AVX2 kernels)
  under the standard model of rounding.

  Lean's `Float` is opaque to the kernel, so nothing here mentions it.  A kernel is a *summation tree*:
  leaves are rounded products `fl(xᵢ·kᵢ)`, inner nodes are rounded additions `fl(a + b)`; the portable
  kernel is the left comb of depth n, a SIMD kernel is a forest of combs (one per lane) joined by the
  horizontal add.  The rounding function `fl : ℚ → ℚ` is a parameter.  Theorems take as hypotheses
    * `RelErr fl u`  : |fl y − y| ≤ u·|y|   (u = 2^-53 for binary64 in the normal range), and / or
    * `Monotone fl`
  which IEEE-754 round-to-nearest satisfies (trusted base; not proved about the hardware).
-/
import Mathlib.Tactic.Linarith
import Mathlib.Tactic.Ring
import Mathlib.Tactic.Positivity

namespace Fir.Flt

/-- the shape of a summation: which product goes where -/
inductive Shape
  | leaf (i : ℕ)
  | node (a b : Shape)

/-- rounded evaluation: every product and every addition is rounded once -/
def Shape.eval (fl : ℚ → ℚ) (x k : ℕ → ℚ) : Shape → ℚ
  | .leaf i => fl (x i * k i)
  | .node a b => fl (a.eval fl x k + b.eval fl x k)

/-- exact value `Σ xᵢ·kᵢ` over the leaves -/
def Shape.exact (x k : ℕ → ℚ) : Shape → ℚ
  | .leaf i => x i * k i
  | .node a b => a.exact x k + b.exact x k

/-- `Σ |xᵢ·kᵢ|` over the leaves -/
def Shape.absSum (x k : ℕ → ℚ) : Shape → ℚ
  | .leaf i => |x i * k i|
  | .node a b => a.absSum x k + b.absSum x k

/-- `Σ kᵢ` and `Σ |kᵢ|` over the leaves -/
def Shape.kSum (k : ℕ → ℚ) : Shape → ℚ
  | .leaf i => k i
  | .node a b => a.kSum k + b.kSum k

def Shape.kAbs (k : ℕ → ℚ) : Shape → ℚ
  | .leaf i => |k i|
  | .node a b => a.kAbs k + b.kAbs k

/-- number of additions on the longest path -/
def Shape.depth : Shape → ℕ
  | .leaf _ => 0
  | .node a b => max a.depth b.depth + 1

/-- the leaves from left to right -/
def Shape.leaves : Shape → List ℕ
  | .leaf i => [i]
  | .node a b => a.leaves ++ b.leaves

/-- standard model of rounding -/
def RelErr (fl : ℚ → ℚ) (u : ℚ) : Prop := ∀ y, |fl y - y| ≤ u * |y|

/-- accumulated relative error after `d + 1` roundings -/
def gam (u : ℚ) (d : ℕ) : ℚ := (1 + u) ^ (d + 1) - 1

theorem gam_mono (u : ℚ) (hu : 0 ≤ u) {d d' : ℕ} (h : d ≤ d') : gam u d ≤ gam u d' :=
  sub_le_sub_right (pow_le_pow_right₀ (le_add_of_nonneg_right hu) (Nat.succ_le_succ h)) 1

theorem gam_succ (u : ℚ) (d : ℕ) : (1 + u) * gam u d + u = gam u (d + 1) := by
  unfold gam
  ring

theorem gam_zero (u : ℚ) : gam u 0 = u := by unfold gam; ring

theorem round_step {u E S s s' q : ℚ} (hu : 0 ≤ u) (h : |s' - s| ≤ E) (hS : |s| ≤ S) (hq : |q - s'| ≤ u * |s'|) :
    |q - s| ≤ u * (S + E) + E := by
  have h1 : |s'| ≤ S + E := by
    have := abs_add_le s (s' - s); rw [add_sub_cancel] at this; linarith
  have h2 := abs_sub_le q s' s
  have h3 := mul_le_mul_of_nonneg_left h1 hu
  linarith

theorem absSum_nonneg (x k : ℕ → ℚ) (t : Shape) : 0 ≤ t.absSum x k := by
  induction t with
  | leaf i => exact abs_nonneg _
  | node a b iha ihb => simp only [Shape.absSum]; linarith

theorem abs_exact_le (x k : ℕ → ℚ) (t : Shape) : |t.exact x k| ≤ t.absSum x k := by
  induction t with
  | leaf i => exact le_refl _
  | node a b iha ihb =>
    simp only [Shape.exact, Shape.absSum]
    exact (abs_add_le _ _).trans (by linarith)

theorem tree_err (fl : ℚ → ℚ) (u : ℚ) (hu : 0 ≤ u) (hfl : RelErr fl u) (x k : ℕ → ℚ) (t : Shape) :
    |t.eval fl x k - t.exact x k| ≤ gam u t.depth * t.absSum x k := by
  induction t with
  | leaf i =>
    simp only [Shape.eval, Shape.exact, Shape.absSum, Shape.depth, gam_zero]
    exact hfl _
  | node a b iha ihb =>
    simp only [Shape.eval, Shape.exact, Shape.absSum, Shape.depth]
    have hEa := iha.trans (mul_le_mul_of_nonneg_right (gam_mono u hu (le_max_left a.depth b.depth)) (absSum_nonneg x k a))
    have hEb := ihb.trans (mul_le_mul_of_nonneg_right (gam_mono u hu (le_max_right a.depth b.depth)) (absSum_nonneg x k b))
    have hE := (abs_add_le _ _).trans (add_le_add hEa hEb)
    rw [← add_sub_add_comm, ← mul_add] at hE
    have hS := (abs_add_le _ _).trans (add_le_add (abs_exact_le x k a) (abs_exact_le x k b))
    refine (round_step hu hE hS (hfl _)).trans_eq ?_
    rw [← gam_succ]; ring

/-! ### the exact sum depends on the multiset of leaves only -/

theorem exact_eq_sum (x k : ℕ → ℚ) (t : Shape) : t.exact x k = (t.leaves.map fun i => x i * k i).sum := by
  induction t with
  | leaf i => simp [Shape.exact, Shape.leaves]
  | node a b iha ihb => simp [Shape.exact, Shape.leaves, iha, ihb]

theorem absSum_eq_sum (x k : ℕ → ℚ) (t : Shape) : t.absSum x k = (t.leaves.map fun i => |x i * k i|).sum := by
  induction t with
  | leaf i => simp [Shape.absSum, Shape.leaves]
  | node a b iha ihb => simp [Shape.absSum, Shape.leaves, iha, ihb]

/-- **re-association**: two summation orders over the same products (any chunking into lanes / partial
    accumulators, any order of the horizontal add) differ by at most the sum of their two error bounds -/
theorem reassoc_err (fl : ℚ → ℚ) (u : ℚ) (hu : 0 ≤ u) (hfl : RelErr fl u) (x k : ℕ → ℚ) (t t' : Shape)
    (hperm : t.leaves.Perm t'.leaves) :
    |t.eval fl x k - t'.eval fl x k| ≤ (gam u t.depth + gam u t'.depth) * t.absSum x k := by
  have he : t.exact x k = t'.exact x k := by
    rw [exact_eq_sum, exact_eq_sum]; exact (hperm.map _).sum_eq
  have hs : t.absSum x k = t'.absSum x k := by
    rw [absSum_eq_sum, absSum_eq_sum]; exact (hperm.map _).sum_eq
  have h1 := tree_err fl u hu hfl x k t
  have h2 := tree_err fl u hu hfl x k t'
  rw [← he, ← hs, abs_sub_comm] at h2
  exact (abs_sub_le _ (t.exact x k) _).trans (by linarith)

/-! ### order preservation (C18 for I32 / F32) -/

theorem eval_mono (fl : ℚ → ℚ) (hfl : Monotone fl) (k : ℕ → ℚ) (hk : ∀ i, 0 ≤ k i) (x y : ℕ → ℚ)
    (hxy : ∀ i, x i ≤ y i) (t : Shape) : t.eval fl x k ≤ t.eval fl y k := by
  induction t with
  | leaf i => exact hfl (mul_le_mul_of_nonneg_right (hxy i) (hk i))
  | node a b iha ihb => exact hfl (add_le_add iha ihb)

/-! ### constant inputs (C10 for I32 / F32) -/

theorem exact_const (v : ℚ) (k : ℕ → ℚ) (t : Shape) : t.exact (fun _ => v) k = v * t.kSum k := by
  induction t with
  | leaf i => simp [Shape.exact, Shape.kSum]
  | node a b iha ihb => simp only [Shape.exact, Shape.kSum, iha, ihb]; ring

theorem absSum_const (v : ℚ) (k : ℕ → ℚ) (t : Shape) : t.absSum (fun _ => v) k = |v| * t.kAbs k := by
  induction t with
  | leaf i => simp [Shape.absSum, Shape.kAbs, abs_mul]
  | node a b iha ihb => simp only [Shape.absSum, Shape.kAbs, iha, ihb]; ring

/-- a constant row `v` comes out as `v` up to the accumulated rounding and the defect of `Σk` from 1 -/
theorem uniform_float (fl : ℚ → ℚ) (u : ℚ) (hu : 0 ≤ u) (hfl : RelErr fl u) (v : ℚ) (k : ℕ → ℚ) (t : Shape) :
    |t.eval fl (fun _ => v) k - v| ≤ gam u t.depth * (|v| * t.kAbs k) + |v| * |t.kSum k - 1| := by
  have h := tree_err fl u hu hfl (fun _ => v) k t
  rw [exact_const, absSum_const] at h
  refine (abs_sub_le _ (v * t.kSum k) _).trans (add_le_add h ?_)
  rw [← mul_sub_one, abs_mul]

/-! ### the portable kernel: `ss = 0.0; for (k, x) { ss += x as f64 * k }` -/

/-- the accumulation loop of the native kernels, every operation rounded -/
def accF (fl : ℚ → ℚ) : List ℚ → List ℚ → ℚ → ℚ
  | k :: ks, x :: xs, s => accF fl ks xs (fl (s + fl (x * k)))
  | _, _, s => s

/-- the left comb the loop builds: leaves `j, j+1, ..` added one by one to the tree `t` -/
def comb : (n : ℕ) → (j : ℕ) → Shape → Shape
  | 0, _, t => t
  | n + 1, j, t => comb n (j + 1) (.node t (.leaf j))

theorem comb_depth (n j : ℕ) (t : Shape) : (comb n j t).depth = t.depth + n := by
  induction n generalizing j t with
  | zero => simp [comb]
  | succ n ih => simp [comb, ih, Shape.depth]; omega

theorem comb_leaves (n j : ℕ) (t : Shape) : (comb n j t).leaves = t.leaves ++ (List.range' j n) := by
  induction n generalizing j t with
  | zero => simp [comb]
  | succ n ih => simp [comb, ih, Shape.leaves, List.range'_succ]

theorem accF_eq_comb (fl : ℚ → ℚ) (ks xs : List ℚ) (hlen : ks.length = xs.length) (j : ℕ) (t : Shape)
    (x k : ℕ → ℚ) (hx : ∀ i, i < xs.length → x (j + i) = xs.getD i 0) (hk : ∀ i, i < ks.length → k (j + i) = ks.getD i 0) :
    accF fl ks xs (t.eval fl x k) = (comb ks.length j t).eval fl x k := by
  induction ks generalizing xs j t with
  | nil => simp [accF, comb]
  | cons k0 ks ih =>
    cases xs with
    | nil => simp at hlen
    | cons x0 xs =>
      have hx0 : x j = x0 := by simpa using hx 0 (by simp)
      have hk0 : k j = k0 := by simpa using hk 0 (by simp)
      simp only [accF, List.length_cons, comb]
      simpa only [Shape.eval, hx0, hk0] using ih xs (by simpa using hlen) (j + 1) (.node t (.leaf j))
        (fun i hi => by have := hx (i + 1) (by simpa using hi); simpa [Nat.add_assoc, Nat.add_comm 1 i] using this)
        (fun i hi => by have := hk (i + 1) (by simpa using hi); simpa [Nat.add_assoc, Nat.add_comm 1 i] using this)

theorem fl_zero (fl : ℚ → ℚ) (u : ℚ) (hfl : RelErr fl u) : fl 0 = 0 := by
  have := hfl 0
  simp only [abs_zero, mul_zero, sub_zero] at this
  exact abs_eq_zero.mp (le_antisymm this (abs_nonneg _))

/-- a monotone rounding does not cross a value it leaves fixed (0, the integers of the window arithmetic, every value
    already rounded): what the float-noise clauses proved "for every monotone `fl`" rest on -/
theorem le_fl {fl : ℚ → ℚ} (hfl : Monotone fl) {a x : ℚ} (ha : fl a = a) (h : a ≤ x) : a ≤ fl x := ha ▸ hfl h

theorem fl_le {fl : ℚ → ℚ} (hfl : Monotone fl) {a x : ℚ} (ha : fl a = a) (h : x ≤ a) : fl x ≤ a := ha ▸ hfl h

/-- exact dot product and sum of absolute products of two lists (common prefix) -/
def dotQ : List ℚ → List ℚ → ℚ
  | k :: ks, x :: xs => x * k + dotQ ks xs
  | _, _ => 0

def dotAbs : List ℚ → List ℚ → ℚ
  | k :: ks, x :: xs => |x * k| + dotAbs ks xs
  | _, _ => 0

theorem dotAbs_nonneg (ks xs : List ℚ) : 0 ≤ dotAbs ks xs := by
  induction ks generalizing xs with
  | nil => simp [dotAbs]
  | cons k ks ih =>
    cases xs with
    | nil => simp [dotAbs]
    | cons x xs => simp only [dotAbs]; have := ih xs; have := abs_nonneg (x * k); linarith

theorem dotQ_eq_sum (ks xs : List ℚ) (hlen : ks.length = xs.length) :
    dotQ ks xs = ((List.range ks.length).map fun i => xs.getD i 0 * ks.getD i 0).sum := by
  induction ks generalizing xs with
  | nil => simp [dotQ]
  | cons k ks ih =>
    cases xs with
    | nil => simp at hlen
    | cons x xs =>
      simp [dotQ, List.range_succ_eq_map, ih xs (by simpa using hlen), List.map_map, Function.comp_def]

theorem dotAbs_eq_sum (ks xs : List ℚ) (hlen : ks.length = xs.length) :
    dotAbs ks xs = ((List.range ks.length).map fun i => |xs.getD i 0 * ks.getD i 0|).sum := by
  induction ks generalizing xs with
  | nil => simp [dotAbs]
  | cons k ks ih =>
    cases xs with
    | nil => simp at hlen
    | cons x xs =>
      simp [dotAbs, List.range_succ_eq_map, ih xs (by simpa using hlen), List.map_map, Function.comp_def]

theorem accF_err (fl : ℚ → ℚ) (u : ℚ) (hu : 0 ≤ u) (hfl : RelErr fl u) (ks xs : List ℚ) (hlen : ks.length = xs.length) :
    |accF fl ks xs 0 - dotQ ks xs| ≤ gam u ks.length * dotAbs ks xs := by
  -- the loop started at `0.0` is the comb grown from the leaf `n`, whose product is `0 · 0`: a tree of depth `n`
  have hc := accF_eq_comb fl ks xs hlen 0 (.leaf ks.length) (fun i => xs.getD i 0) (fun i => ks.getD i 0)
    (by simp) (by simp)
  have ht := tree_err fl u hu hfl (fun i => xs.getD i 0) (fun i => ks.getD i 0) (comb ks.length 0 (.leaf ks.length))
  rw [← hc, comb_depth, exact_eq_sum, absSum_eq_sum, comb_leaves, ← List.range_eq_range'] at ht
  simp only [Shape.leaves, List.map_append, List.sum_append, ← dotQ_eq_sum ks xs hlen, ← dotAbs_eq_sum ks xs hlen] at ht
  simpa [Shape.eval, Shape.depth, fl_zero fl u hfl, ← hlen] using ht

theorem accF_mono (fl : ℚ → ℚ) (hfl : Monotone fl) (ks xs ys : List ℚ) (hk : ∀ k ∈ ks, 0 ≤ k)
    (hxy : List.Forall₂ (· ≤ ·) xs ys) (s s' : ℚ) (hs : s ≤ s') : accF fl ks xs s ≤ accF fl ks ys s' := by
  induction ks generalizing xs ys s s' with
  | nil => simpa [accF] using hs
  | cons k ks ih =>
    cases hxy with
    | nil => simpa [accF] using hs
    | cons hxy0 hrest =>
      exact ih _ _ (fun k' hk' => hk k' (List.mem_cons_of_mem _ hk')) hrest _ _
        (hfl (add_le_add hs (hfl (mul_le_mul_of_nonneg_right hxy0 (hk k (List.mem_cons_self ..))))))

end Fir.Flt
