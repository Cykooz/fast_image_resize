/-
  Fir.Proofs.SimdU8x4Lemmas - the U8x4 horizontal kernels (src/convolution/u8x4/sse4.rs and avx2.rs, `Fir.Model.SimdU8x4`,
  shuffle masks re-extracted from the source) compute exactly what the portable kernel computes.  In the SSE4.1 kernels lane `c`
  is channel `c`: every 8 / 4 / 2 / 1 coefficient step adds `dotC row c` of its coefficients to it (`spec`).  The AVX2 one-row
  kernel keeps two lanes per channel, lane `c` of either 128-bit half, and adds the halves at the end (`specA`).
-/
import Fir.Model.SimdU8x4
import Fir.Proofs.SimdLanes

namespace Fir.Proofs
open Fir.SimdU8x4 Fir.Gen Fir.Proofs.Lanes

namespace U8x4

abbrev enc : (Nat → Int) → List Int := regs 32 4

def spec (row : List Int) : Spec := .sums (fun δ => δ) (dotC row) (fun _ _ => rfl) (fun _ _ => rfl) (fun _ _ _ _ => rfl)

theorem finish {row : List Int} {f : List Int → List Int} {ks : List Int} {x : Nat} (hf : Step enc (spec row) f ks x)
    (p : Nat) (hp : p < 32) :
    (f [wrap32 (2 ^ (p - 1)), wrap32 (2 ^ (p - 1)), wrap32 (2 ^ (p - 1)), wrap32 (2 ^ (p - 1))]).map
        (fun v => packus8 (packs16 (v / 2 ^ p)))
      = [clip8 (2 ^ (p - 1) + dotC row 0 ks x) p, clip8 (2 ^ (p - 1) + dotC row 1 ks x) p,
         clip8 (2 ^ (p - 1) + dotC row 2 ks x) p, clip8 (2 ^ (p - 1) + dotC row 3 ks x) p] := by
  obtain ⟨δ, rfl, hrun⟩ := hf
  exact (congrArg _ (hrun fun _ => 2 ^ (p - 1))).trans (by simp only [lanes, lanes_proc, lane_finish _ p hp])

theorem step8 (row : List Int) (x : Nat) (k0 k1 k2 k3 k4 k5 k6 k7 : Int) :
    Step enc (spec row) (fun s => acc8 s row x [k0, k1, k2, k3, k4, k5, k6, k7]) [k0, k1, k2, k3, k4, k5, k6, k7] x := by
  refine ⟨_, rfl, fun t => ?_⟩
  simp only [lanes, lanes_proc, acc8, add32, madd, pshufb, i16At, srcBytes, kBytes, u8x4_sse4_sh1, u8x4_sse4_sh2, u8x4_sse4_sh3,
    u8x4_sse4_sh4, u8x4_sse4_sh5, u8x4_sse4_sh6, dotC]
  ac_rfl

theorem step4 (row : List Int) (x : Nat) (k0 k1 k2 k3 : Int) :
    Step enc (spec row) (fun s => acc4 s row x [k0, k1, k2, k3]) [k0, k1, k2, k3] x := by
  refine ⟨_, rfl, fun t => ?_⟩
  simp only [lanes, lanes_proc, acc4, low64, add32, madd, pshufb, i16At, srcBytes, kBytes, u8x4_sse4_sh1, u8x4_sse4_sh2,
    u8x4_sse4_sh3, u8x4_sse4_sh4, dotC]
  ac_rfl

theorem step2 (row : List Int) (x : Nat) (k0 k1 : Int) : Step enc (spec row) (fun s => acc2 s row x [k0, k1]) [k0, k1] x := by
  refine ⟨_, rfl, fun t => ?_⟩
  simp only [lanes, lanes_proc, acc2, low64, add32, madd, pshufb, i16At, srcBytes, kBytes, u8x4_sse4_sh7, dotC]

theorem step1 (row : List Int) (x : Nat) (k : Int) : Step enc (spec row) (fun s => acc1 s row x k) [k] x := by
  refine ⟨_, rfl, fun t => ?_⟩
  simp only [lanes, lanes_proc, acc1, add32, madd, i16At, srcBytes, dotC]

end U8x4

theorem tail0 (s row : List Int) (x : Nat) : tail s row x [] = s := rfl
theorem tail1 (s row : List Int) (x : Nat) (k0 : Int) : tail s row x [k0] = acc1 s row x k0 := rfl
theorem tail2 (s row : List Int) (x : Nat) (k0 k1 : Int) : tail s row x [k0, k1] = acc2 s row x [k0, k1] := rfl
theorem tail3 (s row : List Int) (x : Nat) (k0 k1 k2 : Int) :
    tail s row x [k0, k1, k2] = acc1 (acc2 s row x [k0, k1]) row (x + 2) k2 := rfl
theorem tail4 (s row : List Int) (x : Nat) (k0 k1 k2 k3 : Int) : tail s row x [k0, k1, k2, k3] = acc4 s row x [k0, k1, k2, k3] := rfl
theorem tail5 (s row : List Int) (x : Nat) (k0 k1 k2 k3 k4 : Int) :
    tail s row x [k0, k1, k2, k3, k4] = acc1 (acc4 s row x [k0, k1, k2, k3]) row (x + 4) k4 := rfl
theorem tail6 (s row : List Int) (x : Nat) (k0 k1 k2 k3 k4 k5 : Int) :
    tail s row x [k0, k1, k2, k3, k4, k5] = acc2 (acc4 s row x [k0, k1, k2, k3]) row (x + 4) [k4, k5] := rfl
theorem tail7 (s row : List Int) (x : Nat) (k0 k1 k2 k3 k4 k5 k6 : Int) :
    tail s row x [k0, k1, k2, k3, k4, k5, k6]
      = acc1 (acc2 (acc4 s row x [k0, k1, k2, k3]) row (x + 4) [k4, k5]) row (x + 4 + 2) k6 := rfl

namespace U8x4

theorem tail_ok (row : List Int) (x : Nat) (ks : List Int) (hlen : ks.length < 8) :
    Step enc (spec row) (fun s => tail s row x ks) ks x := by
  -- `simpa only [tail3, ..]`, not `exact`: to close a case by `exact` the unifier unfolds the model's `tail`, which is slow
  match ks, hlen with
  | [], _ => exact Step.id x
  | [k0], _ => simpa only [tail1] using step1 row x k0
  | [k0, k1], _ => simpa only [tail2] using step2 row x k0 k1
  | [k0, k1, k2], _ => simpa only [tail3, List.cons_append, List.nil_append] using (step2 row x k0 k1).comp (step1 row (x + 2) k2)
  | [k0, k1, k2, k3], _ => simpa only [tail4] using step4 row x k0 k1 k2 k3
  | [k0, k1, k2, k3, k4], _ =>
    simpa only [tail5, List.cons_append, List.nil_append] using (step4 row x k0 k1 k2 k3).comp (step1 row (x + 4) k4)
  | [k0, k1, k2, k3, k4, k5], _ =>
    simpa only [tail6, List.cons_append, List.nil_append] using (step4 row x k0 k1 k2 k3).comp (step2 row (x + 4) k4 k5)
  | [k0, k1, k2, k3, k4, k5, k6], _ =>
    simpa only [tail7, List.cons_append, List.nil_append]
      using ((step4 row x k0 k1 k2 k3).comp (step2 row (x + 4) k4 k5)).comp (step1 row (x + 4 + 2) k6)
  | _ :: _ :: _ :: _ :: _ :: _ :: _ :: _ :: _, h => simp at h; omega

theorem loop_ok (row : List Int) (ks : List Int) (x : Nat) : Step enc (spec row) (fun s => loop row ks x s) ks x :=
  loop8_ok (Step.pieces enc (spec row)) (body := fun s x k => acc8 s row x k) (fin := fun s x ks => tail s row x ks)
    (fun ks x s => by rw [loop]; rfl) (step8 row) (tail_ok row) ks x

end U8x4
open U8x4 in
/-- the SSE4.1 U8x4 one-row kernel equals the portable kernel, byte for byte, for every precision the
    dispatch can select, every coefficient list (any length: every 8 / 4 / 2 / 1 remainder branch) and every
    source row -/
theorem u8x4_sse4_pixel_eq_portable (p : Nat) (hp : p < 32) (row : List Int) (start : Nat) (ks : List Int) :
    pixel p row start ks = [clip8 (2 ^ (p - 1) + dotC row 0 ks start) p, clip8 (2 ^ (p - 1) + dotC row 1 ks start) p,
                            clip8 (2 ^ (p - 1) + dotC row 2 ks start) p, clip8 (2 ^ (p - 1) + dotC row 3 ks start) p] :=
  finish (loop_ok row ks start) p hp

namespace U8x4

theorem step4r (row : List Int) (x : Nat) (k0 k1 k2 k3 : Int) :
    Step enc (spec row) (fun s => acc4r s row x k0 k1 k2 k3) [k0, k1, k2, k3] x := by
  refine ⟨_, rfl, fun t => ?_⟩
  simp only [lanes, lanes_proc, acc4r, clone4, add32, madd, pshufb, i16At, srcBytes, kBytes, u8x4_sse4_four_mask_lo,
    u8x4_sse4_four_mask_hi, dotC]
  ac_rfl

theorem step2r (row : List Int) (x : Nat) (k0 k1 : Int) : Step enc (spec row) (fun s => acc2r s row x k0 k1) [k0, k1] x := by
  refine ⟨_, rfl, fun t => ?_⟩
  simp only [lanes, lanes_proc, acc2r, clone4, low64, add32, madd, pshufb, i16At, srcBytes, kBytes, u8x4_sse4_four_mask, dotC]

theorem loopR_ok (row : List Int) : ∀ (ks : List Int) (x : Nat), Step enc (spec row) (fun s => loopR row ks x s) ks x
  | k0 :: k1 :: k2 :: k3 :: rest, x => by
    simpa only [loopR, List.cons_append, List.nil_append] using (step4r row x k0 k1 k2 k3).comp (loopR_ok row rest (x + 4))
  | [], x => by simpa only [loopR, tailR] using Step.id x
  | [k0], x => by simpa only [loopR, tailR] using step1 row x k0
  | [k0, k1], x => by simpa only [loopR, tailR] using step2r row x k0 k1
  | [k0, k1, k2], x => by
    simpa only [loopR, tailR, List.cons_append, List.nil_append] using (step2r row x k0 k1).comp (step1 row (x + 2) k2)

end U8x4
open U8x4 in
/-- each row of the SSE4.1 U8x4 four-row kernel equals the portable kernel, byte for byte -/
theorem u8x4_sse4_four_rows_pixel_eq_portable (p : Nat) (hp : p < 32) (row : List Int) (start : Nat) (ks : List Int) :
    pixelR p row start ks = [clip8 (2 ^ (p - 1) + dotC row 0 ks start) p, clip8 (2 ^ (p - 1) + dotC row 1 ks start) p,
                             clip8 (2 ^ (p - 1) + dotC row 2 ks start) p, clip8 (2 ^ (p - 1) + dotC row 3 ks start) p] :=
  finish (loopR_ok row ks start) p hp

/-- hence both kernels of the pass - four-row blocks and leftover rows - store the same bytes for the same row -/
theorem u8x4_sse4_four_rows_eq_one_row (p : Nat) (hp : p < 32) (row : List Int) (start : Nat) (ks : List Int) :
    pixelR p row start ks = pixel p row start ks := by
  rw [u8x4_sse4_four_rows_pixel_eq_portable p hp, u8x4_sse4_pixel_eq_portable p hp]

namespace U8x4

abbrev encA (t : Nat → Int) : List Int × List Int := (regs 32 4 fun c => t (2 * c), regs 32 4 fun c => t (2 * c + 1))

def specA (row : List Int) : Spec :=
  .sums (fun δ c => δ (2 * c) + δ (2 * c + 1)) (dotC row) (fun _ _ => by funext c; simp only [Pi.add_apply]; ac_rfl)
    (fun _ _ => rfl) (fun _ _ _ _ => rfl)

theorem step8A (row : List Int) (x : Nat) (k0 k1 k2 k3 k4 k5 k6 k7 : Int) :
    Step encA (specA row) (fun s => acc8A s row x [k0, k1, k2, k3, k4, k5, k6, k7]) [k0, k1, k2, k3, k4, k5, k6, k7] x := by
  refine ⟨ilv (fun c => dotC row c [k0, k1, k2, k3] x) (fun c => dotC row c [k4, k5, k6, k7] (x + 4)), ?_, fun t => ?_⟩
  · funext c; simp only [lanes, lanes_proc, dotC]; ac_rfl
  · simp only [lanes, lanes_proc, encA, ilv, acc8A, add32, madd, pshufb, i16At, srcBytes, kBytes, u8x4_avx2_one_sh1_lo, u8x4_avx2_one_sh1_hi,
      u8x4_avx2_one_sh2_lo, u8x4_avx2_one_sh2_hi, u8x4_avx2_one_sh3_lo, u8x4_avx2_one_sh3_hi, u8x4_avx2_one_sh4_lo,
      u8x4_avx2_one_sh4_hi, dotC]
    ac_rfl

theorem step4A (row : List Int) (x : Nat) (k0 k1 k2 k3 : Int) :
    Step encA (specA row) (fun s => acc4A s row x [k0, k1, k2, k3]) [k0, k1, k2, k3] x := by
  refine ⟨ilv (fun c => dotC row c [k0, k1] x) (fun c => dotC row c [k2, k3] (x + 2)), ?_, fun t => ?_⟩
  · funext c; simp only [lanes, lanes_proc, dotC]; ac_rfl
  · simp only [lanes, lanes_proc, encA, ilv, acc4A, low64, add32, madd, pshufb, i16At, srcBytes, kBytes, u8x4_avx2_one_sh5_lo,
      u8x4_avx2_one_sh5_hi, u8x4_avx2_one_sh6_lo, u8x4_avx2_one_sh6_hi, dotC]

theorem step2A (row : List Int) (x : Nat) (k0 k1 : Int) : Step enc (spec row) (fun s => acc2A s row x k0 k1) [k0, k1] x := by
  refine ⟨_, rfl, fun t => ?_⟩
  simp only [lanes, lanes_proc, acc2A, clone4, low64, add32, madd, pshufb, i16At, srcBytes, kBytes, u8x4_avx2_one_sh7, dotC]

theorem loop2A_ok (row : List Int) : ∀ (ks : List Int) (x : Nat), Step enc (spec row) (fun s => loop2A row ks x s) ks x
  | k0 :: k1 :: rest, x => by
    simpa only [loop2A, List.cons_append, List.nil_append] using (step2A row x k0 k1).comp (loop2A_ok row rest (x + 2))
  | [k], x => by simpa only [loop2A] using step1 row x k
  | [], x => by simpa only [loop2A] using Step.id x

/-- the wide phase `f` run from `1 << (PRECISION - 2)` in both halves, the halves added, the narrow phase `g`, and the finish -/
theorem finishA {row : List Int} {f : List Int × List Int → List Int × List Int} {g : List Int → List Int} {a b : List Int} {x : Nat}
    (hf : Step encA (specA row) f a x) (hg : Step enc (spec row) g b (x + a.length)) (p : Nat) (hp2 : 2 ≤ p) (hp : p < 32) :
    (g (add32 (f (encA fun _ => 2 ^ (p - 2))).1 (f (encA fun _ => 2 ^ (p - 2))).2)).map (fun v => packus8 (packs16 (v / 2 ^ p)))
      = [clip8 (2 ^ (p - 1) + dotC row 0 (a ++ b) x) p, clip8 (2 ^ (p - 1) + dotC row 1 (a ++ b) x) p,
         clip8 (2 ^ (p - 1) + dotC row 2 (a ++ b) x) p, clip8 (2 ^ (p - 1) + dotC row 3 (a ++ b) x) p] := by
  obtain ⟨δ, hδ, hf⟩ := hf
  obtain ⟨ε, rfl, hg⟩ := hg
  have hj : add32 (f (encA fun _ => 2 ^ (p - 2))).1 (f (encA fun _ => 2 ^ (p - 2))).2
      = enc fun c => 2 ^ (p - 1) + dotC row c a x := by
    rw [hf]
    simp only [lanes, lanes_proc, add32, ← congrFun hδ, ← pow2_half p hp2]
    ac_rfl
  rw [hj, hg]
  simp only [lanes, lanes_proc, lane_finish _ p hp, dot_append (d := dotC row _) (fun _ => rfl) (fun _ _ _ => rfl) a b x,
    Int.add_assoc]

end U8x4
open U8x4 in
/-- the AVX2 U8x4 one-row kernel equals the portable kernel, byte for byte (precision at least 2: the kernel
    starts its two half accumulators at `1 << (PRECISION - 2)`) -/
theorem u8x4_avx2_pixel_eq_portable (p : Nat) (hp2 : 2 ≤ p) (hp : p < 32) (row : List Int) (start : Nat) (ks : List Int) :
    pixelA p row start ks = [clip8 (2 ^ (p - 1) + dotC row 0 ks start) p, clip8 (2 ^ (p - 1) + dotC row 1 ks start) p,
                             clip8 (2 ^ (p - 1) + dotC row 2 ks start) p, clip8 (2 ^ (p - 1) + dotC row 3 ks start) p] := by
  unfold pixelA
  by_cases hlen : ks.length < 8
  · simp only [hlen, if_true]
    exact finish (loop2A_ok row ks start) p hp
  · obtain ⟨f, hf, hrun⟩ := chunk_loop (Step.pieces encA (specA row)) (n := 8) (loop := loop8A row)
      (body := fun s x k => acc8A s row x k) (fin := fun s x ks => (s, x, ks)) (fun ks x s => by rw [loop8A]; rfl)
      (fun ks x h => match ks, h with
        | k0 :: k1 :: k2 :: k3 :: k4 :: k5 :: k6 :: k7 :: _, _ => step8A row x k0 k1 k2 k3 k4 k5 k6 k7)
      (ks.length / 8) ks start (by omega) (by omega)
    obtain ⟨m, hm⟩ : ∃ m, m = 8 * (ks.length / 8) := ⟨_, rfl⟩
    rw [← hm] at hf hrun
    obtain ⟨j, g, hj, hg, hopt⟩ := opt_step (Step.pieces encA (specA row)) (n := 4) (body := fun s x k => acc4A s row x k)
      (fun ks x h => match ks, h with
        | k0 :: k1 :: k2 :: k3 :: _, _ => step4A row x k0 k1 k2 k3) (ks.drop m) (start + m)
    have h1 := hf.comp_take (by omega) hg
    have hl := length_take_take start (by omega) hj
    have := finishA h1 (hl ▸ loop2A_ok row ((ks.drop m).drop j) (start + m + j)) p hp2 hp
    rw [hl, List.append_assoc, List.take_append_drop, List.take_append_drop] at this
    simp only [hlen, if_false, hrun, hopt]
    exact this

end Fir.Proofs
