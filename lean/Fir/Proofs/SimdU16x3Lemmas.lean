/-
  Fir.Proofs.SimdU16x3Lemmas - the SSE4.1 horizontal kernels for RGB16 (src/convolution/u16x3/sse4.rs, `Fir.Model.SimdU16x3`,
  masks from the source) equal the portable kernel for every row width (both branches of the width guard).  A piece of the
  kernel adds the R and G dot products to the two lanes of `rg`, and to the two lanes of `bb` increments whose sum is the B dot
  product (`spec`).
-/
import Fir.Model.SimdU16x3
import Fir.Proofs.SimdVertU16Lemmas

namespace Fir.Proofs.U16x3
open Fir.SimdU16x3 Fir.Gen Fir.Proofs.Lanes
open Fir.SimdU8x4 (wrap32 pshufb)
open Fir.SimdVertU16 (add64 mulEpi32)
open Fir.SimdU16x1 (mul2)

abbrev enc : (Nat → Int) → List (List Int) := VertU16.encV 2

/-- three channels on four lanes: not a `Spec.sums`, which would ask for a channel `c` for every `c : Nat` -/
def spec (row : List Int) : Spec where
  ok ks x δ := δ 0 = dot3 row 0 ks x ∧ δ 1 = dot3 row 1 ks x ∧ δ 2 + δ 3 = dot3 row 2 ks x
  nil _ := ⟨rfl, rfl, rfl⟩
  append := fun ⟨a0, a1, a2⟩ ⟨b0, b1, b2⟩ => by
    simp only [Pi.add_apply, dot_append (d := dot3 row _) (fun _ => rfl) (fun _ _ _ => rfl), a0, a1, ← a2, b0, b1, ← b2, true_and]
    ac_rfl

theorem step2 (row : List Int) (x : Nat) (k0 k1 : Int) : Step enc (spec row) (fun s => acc2 s row x k0 k1) [k0, k1] x := by
  refine ⟨vec [dot3 row 0 [k0, k1] x, dot3 row 1 [k0, k1] x, row.getD (3 * x + 2) 0 % 65536 * wrap32 k0,
    row.getD (3 * x + 5) 0 % 65536 * wrap32 k1], ⟨rfl, rfl, by simp only [lanes, lanes_proc, dot3]⟩, fun t => ?_⟩
  simp only [lanes, lanes_proc, VertU16.encV, acc2, src3, add64, mulEpi32, mul2, pshufb, u16x3_sse4_rg0, u16x3_sse4_rg1,
    u16x3_sse4_bb, dot3]
  ac_rfl

theorem step1 (row : List Int) (x : Nat) (k : Int) : Step enc (spec row) (fun s => acc1 s row x k) [k] x := by
  refine ⟨vec [dot3 row 0 [k] x, dot3 row 1 [k] x, dot3 row 2 [k] x, 0], ⟨rfl, rfl, add_zero _⟩, fun t => ?_⟩
  simp only [lanes, lanes_proc, VertU16.encV, acc1, add64, dot3]

theorem scalars_ok (row : List Int) : ∀ (ks : List Int) (x : Nat), Step enc (spec row) (fun s => scalars row ks x s) ks x
  | k :: ks, x => by
    simpa only [scalars, List.cons_append, List.nil_append] using (step1 row x k).comp (scalars_ok row ks (x + 1))
  | [], x => by simpa only [scalars] using Step.id x

theorem pairs_ok (row : List Int) : ∀ (ks : List Int) (x : Nat), Step enc (spec row) (fun s => pairs row ks x s) ks x
  | k0 :: k1 :: ks, x => by
    simpa only [pairs, List.cons_append, List.nil_append] using (step2 row x k0 k1).comp (pairs_ok row ks (x + 2))
  | [k], x => scalars_ok row [k] x
  | [], x => scalars_ok row [] x

theorem run_ok (w : Nat) (row : List Int) (start : Nat) (ks : List Int) :
    Step enc (spec row) (fun s => run w row start ks s) ks start := by
  by_cases h : w - (start + ks.length) ≥ 1
  · simpa only [run, h, if_true] using pairs_ok row ks start
  · simpa only [run, h, if_false] using scalars_ok row ks start

/-- the SSE4.1 one-row kernel for RGB16 equals the portable kernel, for every row width -/
theorem pixel_eq_portable (p w : Nat) (hp2 : 2 ≤ p) (row : List Int) (start : Nat) (ks : List Int) :
    SimdU16x3.pixel p w row start ks
      = [clip16 (2 ^ (p - 1) + dot3 row 0 ks start) p, clip16 (2 ^ (p - 1) + dot3 row 1 ks start) p,
         clip16 (2 ^ (p - 1) + dot3 row 2 ks start) p] := by
  obtain ⟨δ, ⟨h0, h1, h2⟩, hrun⟩ := run_ok w row start ks
  have h := hrun (vec [2 ^ (p - 1), 2 ^ (p - 1), 2 ^ (p - 2), 2 ^ (p - 2)])
  simp only [lanes, lanes_proc, VertU16.encV, ← pow2_half p hp2] at h
  simp only [SimdU16x3.pixel, clip16, h, lanes, lanes_proc, ← h0, ← h1, ← h2, ← pow2_half p hp2]
  ac_rfl

/-- each row of the SSE4.1 four-row kernel for RGB16 equals the portable kernel, for every row width -/
theorem pixelR_eq_portable (p w : Nat) (row : List Int) (start : Nat) (ks : List Int) :
    SimdU16x3.pixelR p w row start ks
      = [clip16 (2 ^ (p - 1) + dot3 row 0 ks start) p, clip16 (2 ^ (p - 1) + dot3 row 1 ks start) p,
         clip16 (2 ^ (p - 1) + dot3 row 2 ks start) p] := by
  obtain ⟨δ, ⟨h0, h1, h2⟩, hrun⟩ := run_ok w row start ks
  have h : run w row start ks [[0, 0], [0, 0]] = enc δ := (hrun 0).trans (by rw [zero_add])
  simp only [SimdU16x3.pixelR, clip16, h, VertU16.encV, lanes, lanes_proc, ← h0, ← h1, ← h2]
  ac_rfl

/-- every 128-bit load of the pair loop lies inside the row of `w` pixels (16 bytes from pixel `x`, 6 bytes per pixel) -/
theorem loads_in_row (w start : Nat) (ks : List Int) : ∀ x ∈ loads w start ks, 6 * x + 16 ≤ 6 * w := by
  intro x hx
  unfold loads at hx
  split at hx
  · rename_i h
    simp only [List.mem_map, List.mem_range] at hx
    obtain ⟨i, hi, rfl⟩ := hx
    omega
  · simp at hx

end Fir.Proofs.U16x3
