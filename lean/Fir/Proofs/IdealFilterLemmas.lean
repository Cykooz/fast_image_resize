/-
  Fir.Proofs.IdealFilterLemmas - facts about the exact rational specification `Fir.Spec.IdealFilter`:
  the ideal weights of every window form a partition of unity (C10), the box and triangle kernels are
  non-negative so their windows are convex combinations (C18), every window lies inside the source (C03),
  and replacing the weights by nearby ones moves a filtered value by at most `n·δ·m` (C01: from the
  implementation's f64 weights, compared per geometry with the ideal ones, to the ideal filter).
-/
import Fir.Spec.IdealFilter
import Fir.Proofs.ErrLemmas
namespace Fir.Proofs
open Fir.Spec

theorem qabs_eq_abs (x : ℚ) : qabs x = |x| := by
  unfold qabs
  split_ifs with h
  · exact (abs_of_neg h).symm
  · exact (abs_of_nonneg (not_lt.mp h)).symm

theorem idealWeights_eq (inSize : Nat) (in0 in1 : ℚ) (outSize : Nat) (flt : QFilter) (adaptive : Bool) (o : Nat) :
    idealWeights inSize in0 in1 outSize flt adaptive o
      = ((idealRaw inSize in0 in1 outSize flt adaptive o).1,
          normalise (idealRaw inSize in0 in1 outSize flt adaptive o).2) := rfl

theorem normalise_sum_one (ws : List ℚ) (h : ws.sum ≠ 0) : (normalise ws).sum = 1 := by
  simp only [normalise, if_neg h, div_eq_mul_inv, List.sum_map_mul_right, List.map_id', mul_inv_cancel₀ h]

theorem normalise_length (ws : List ℚ) : (normalise ws).length = ws.length := by
  simp only [normalise]
  split_ifs <;> simp

/-- C10 (ideal): the ideal weights of a window whose kernel values do not cancel sum to exactly one -/
theorem idealWeights_sum_one (inSize : Nat) (in0 in1 : ℚ) (outSize : Nat) (flt : QFilter) (adaptive : Bool) (o : Nat)
    (h : (idealRaw inSize in0 in1 outSize flt adaptive o).2.sum ≠ 0) :
    (idealWeights inSize in0 in1 outSize flt adaptive o).2.sum = 1 := by
  simp only [idealWeights_eq]
  exact normalise_sum_one _ h

theorem qBox_nonneg (x : ℚ) : 0 ≤ qBox x := by
  unfold qBox
  split_ifs <;> norm_num

theorem qBilinear_nonneg (x : ℚ) : 0 ≤ qBilinear x := by
  simp only [qBilinear, qabs_eq_abs]
  split_ifs with h
  · linarith
  · exact le_refl _

theorem qBox_le_one (x : ℚ) : qBox x ≤ 1 := by
  unfold qBox
  split_ifs <;> norm_num

theorem qBilinear_le_one (x : ℚ) : qBilinear x ≤ 1 := by
  simp only [qBilinear, qabs_eq_abs]
  have := abs_nonneg x
  split_ifs with h
  · linarith
  · norm_num

theorem qBilinear_even (x : ℚ) : qBilinear (-x) = qBilinear x := by
  simp only [qBilinear, qabs_eq_abs, abs_neg]

theorem qCatmull_even (x : ℚ) : qCatmull (-x) = qCatmull x := by
  simp only [qCatmull, qabs_eq_abs, abs_neg]

theorem qMitchell_even (x : ℚ) : qMitchell (-x) = qMitchell x := by
  simp only [qMitchell, qabs_eq_abs, abs_neg]

theorem qBilinear_support (x : ℚ) (h : 1 ≤ |x|) : qBilinear x = 0 := by
  simp only [qBilinear, qabs_eq_abs]
  rw [if_neg (not_lt.mpr h)]

theorem qCatmull_support (x : ℚ) (h : 2 ≤ |x|) : qCatmull x = 0 := by
  simp only [qCatmull, qabs_eq_abs]
  rw [if_neg (by linarith), if_neg (by linarith)]

theorem qMitchell_support (x : ℚ) (h : 2 ≤ |x|) : qMitchell x = 0 := by
  simp only [qMitchell, qabs_eq_abs]
  rw [if_neg (by linarith), if_neg (by linarith)]

theorem qCatmull_at_integers : qCatmull 0 = 1 ∧ qCatmull 1 = 0 ∧ qCatmull 2 = 0 := by
  decide +kernel

theorem qMitchell_at_integers : qMitchell 0 = 8 / 9 ∧ qMitchell 1 = 1 / 18 ∧ qMitchell 2 = 0 := by
  decide +kernel

theorem abs_translates {t : ℚ} (h0 : 0 ≤ t) (h1 : t ≤ 1) :
    |t + 1| = t + 1 ∧ |t| = t ∧ |t - 1| = 1 - t ∧ |t - 2| = 2 - t :=
  ⟨abs_of_nonneg (by linarith), abs_of_nonneg h0, by rw [abs_of_nonpos (by linarith)]; ring,
    by rw [abs_of_nonpos (by linarith)]; ring⟩

theorem qBilinear_partition (t : ℚ) (h0 : 0 ≤ t) (h1 : t ≤ 1) : qBilinear t + qBilinear (t - 1) = 1 := by
  obtain ⟨-, e1, e2, -⟩ := abs_translates h0 h1
  simp only [qBilinear, qabs_eq_abs, e1, e2]
  split_ifs <;> linarith

/-- the cubic kernels piece by piece.  The pieces agree where they meet (`|x| = 1`, `|x| = 2`), so each
    formula holds on the closed interval - which is what lets `t = 0` and `t = 1` through below -/
theorem qCatmull_inner (x : ℚ) (h : |x| ≤ 1) : qCatmull x = (3 / 2 * |x| - 5 / 2) * |x| * |x| + 1 := by
  simp only [qCatmull, qabs_eq_abs]
  split_ifs with h1 h2
  · ring
  · rw [le_antisymm h (not_lt.mp h1)]; norm_num
  · exact absurd (h.trans_lt one_lt_two) h2

theorem qCatmull_outer (x : ℚ) (h1 : 1 ≤ |x|) (h2 : |x| ≤ 2) :
    qCatmull x = (((|x| - 5) * |x| + 8) * |x| - 4) * (-1 / 2) := by
  simp only [qCatmull, qabs_eq_abs]
  split_ifs with h3 h4
  · exact absurd h3 (not_lt.mpr h1)
  · rfl
  · rw [le_antisymm h2 (not_lt.mp h4)]; norm_num

theorem qMitchell_inner (x : ℚ) (h : |x| ≤ 1) : qMitchell x = (7 * |x| / 6 - 2) * |x| * |x| + 16 / 18 := by
  simp only [qMitchell, qabs_eq_abs]
  split_ifs with h1 h2
  · rfl
  · rw [le_antisymm h (not_lt.mp h1)]; norm_num
  · exact absurd (h.trans_lt one_lt_two) h2

theorem qMitchell_outer (x : ℚ) (h1 : 1 ≤ |x|) (h2 : |x| ≤ 2) :
    qMitchell x = ((2 - 7 * |x| / 18) * |x| - 10 / 3) * |x| + 16 / 9 := by
  simp only [qMitchell, qabs_eq_abs]
  split_ifs with h3 h4
  · exact absurd h3 (not_lt.mpr h1)
  · rfl
  · rw [le_antisymm h2 (not_lt.mp h4)]; norm_num

theorem qCatmull_partition (t : ℚ) (h0 : 0 ≤ t) (h1 : t ≤ 1) :
    qCatmull (t + 1) + qCatmull t + qCatmull (t - 1) + qCatmull (t - 2) = 1 := by
  obtain ⟨e0, e1, e2, e3⟩ := abs_translates h0 h1
  rw [qCatmull_outer (t + 1) (by linarith) (by linarith), qCatmull_inner t (by linarith),
    qCatmull_inner (t - 1) (by linarith), qCatmull_outer (t - 2) (by linarith) (by linarith), e0, e1, e2, e3]
  ring

theorem qMitchell_partition (t : ℚ) (h0 : 0 ≤ t) (h1 : t ≤ 1) :
    qMitchell (t + 1) + qMitchell t + qMitchell (t - 1) + qMitchell (t - 2) = 1 := by
  obtain ⟨e0, e1, e2, e3⟩ := abs_translates h0 h1
  rw [qMitchell_outer (t + 1) (by linarith) (by linarith), qMitchell_inner t (by linarith),
    qMitchell_inner (t - 1) (by linarith), qMitchell_outer (t - 2) (by linarith) (by linarith), e0, e1, e2, e3]
  ring

/-- C18 (ideal): normalising non-negative values gives non-negative weights -/
theorem normalise_nonneg (ws : List ℚ) (h : ∀ w ∈ ws, 0 ≤ w) : ∀ w ∈ normalise ws, 0 ≤ w := by
  simp only [normalise]
  split_ifs
  · exact h
  · exact List.forall_mem_map.mpr fun v hv => div_nonneg (h v hv) (List.sum_nonneg h)

theorem idealWeights_nonneg (flt : QFilter) (hf : ∀ y, 0 ≤ flt.f y) (inSize : Nat) (in0 in1 : ℚ) (outSize : Nat)
    (adaptive : Bool) (o : Nat) : ∀ w ∈ (idealWeights inSize in0 in1 outSize flt adaptive o).2, 0 ≤ w := by
  simp only [idealWeights_eq]
  refine normalise_nonneg _ fun w hw => ?_
  -- `idealRaw` unfolds to a `List.map` of the kernel over the window
  obtain ⟨i, _, rfl⟩ := List.mem_map.mp hw
  exact hf _

theorem idealWeights_nonneg_box (inSize : Nat) (in0 in1 : ℚ) (outSize : Nat) (adaptive : Bool) (o : Nat) :
    ∀ w ∈ (idealWeights inSize in0 in1 outSize ⟨qBox, 1 / 2⟩ adaptive o).2, 0 ≤ w :=
  idealWeights_nonneg ⟨qBox, 1 / 2⟩ qBox_nonneg inSize in0 in1 outSize adaptive o

theorem idealWeights_nonneg_bilinear (inSize : Nat) (in0 in1 : ℚ) (outSize : Nat) (adaptive : Bool) (o : Nat) :
    ∀ w ∈ (idealWeights inSize in0 in1 outSize ⟨qBilinear, 1⟩ adaptive o).2, 0 ≤ w :=
  idealWeights_nonneg ⟨qBilinear, 1⟩ qBilinear_nonneg inSize in0 in1 outSize adaptive o

/-- a convex combination stays inside the range of its inputs (the ideal statement behind C18) -/
theorem convex_combination_range (ws xs : List ℚ) (lo hi : ℚ) (hlen : xs.length = ws.length)
    (hw : ∀ w ∈ ws, 0 ≤ w) (hsum : ws.sum = 1) (hx : ∀ x ∈ xs, lo ≤ x ∧ x ≤ hi) :
    lo ≤ (List.zipWith (· * ·) ws xs).sum ∧ (List.zipWith (· * ·) ws xs).sum ≤ hi := by
  have key := dot_between ws xs lo hi hw hlen hx
  rwa [hsum, mul_one, mul_one] at key

/-- C03 (ideal): every ideal window lies inside the source -/
theorem idealGeom_in_source (inSize : Nat) (in0 in1 : ℚ) (outSize : Nat) (support : ℚ) (adaptive : Bool) (o : Nat) :
    let g := idealGeom inSize in0 in1 outSize support adaptive o
    g.2.1 = 0 ∨ g.1 + g.2.1 ≤ inSize := by
  intro g
  simp only [g, idealGeom]
  omega

/-- C01: weights that differ from other weights by at most `δ` per tap move the filtered value of samples
    bounded by `m` by at most `n·δ·m` -/
theorem weights_perturbation (ws ws' : List ℚ) (xs : List ℚ) (δ m : ℚ) (hlen : ws'.length = ws.length) (hlen2 : xs.length = ws.length)
    (hδ : ∀ i, i < ws.length → |ws.getD i 0 - ws'.getD i 0| ≤ δ) (hm : ∀ x ∈ xs, |x| ≤ m) (hm0 : 0 ≤ m) :
    |(List.zipWith (· * ·) ws xs).sum - (List.zipWith (· * ·) ws' xs).sum| ≤ (ws.length : ℚ) * δ * m := by
  -- `hm0` is not needed: `δ` and `m` are forced non-negative by the other hypotheses whenever a tap exists
  rw [← hlen2, mul_assoc, ← sum_map_const]
  refine abs_sum_sub_sum_le _ _ _ ws ws' xs hlen2.symm (hlen.trans hlen2.symm) fun i hi => ?_
  have hw := hδ i (hlen2 ▸ hi)
  rw [← sub_mul, abs_mul]
  exact mul_le_mul hw (hm _ (getD_mem hi 0)) (abs_nonneg _) ((abs_nonneg _).trans hw)

end Fir.Proofs
