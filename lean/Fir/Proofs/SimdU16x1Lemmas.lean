/-
  Fir.Proofs.SimdU16x1Lemmas - the SSE4.1 horizontal kernels for single-channel 16-bit images (src/convolution/u16x1/sse4.rs,
  `Fir.Model.SimdU16x1`, masks from the source) equal the portable kernel.  The two 64-bit lanes are summed at the end, so a
  piece of the kernel may spread the products over them as it likes: its increments must add up to the dot product of the
  coefficients consumed (`spec`).
-/
import Fir.Model.SimdU16x1
import Fir.Proofs.SimdVertU16Lemmas

namespace Fir.Proofs.U16x1
open Fir.SimdU16x1 Fir.Gen Fir.Proofs.Lanes
open Fir.SimdU8x4 (wrap32 pshufb)
open Fir.SimdVertU16 (wrap64 add64)

theorem w32_zero : wrap32 0 = 0 := by decide

abbrev enc : (Nat → Int) → List Int := regs 64 2

def spec (row : List Int) : Spec :=
  .sums (fun δ _ => δ 0 + δ 1) (fun _ => dot16 row) (fun _ _ => by funext _; simp only [Pi.add_apply]; ring)
    (fun _ _ => rfl) (fun _ _ _ _ => rfl)

theorem step8 (row : List Int) (x : Nat) (k0 k1 k2 k3 k4 k5 k6 k7 : Int) :
    Step enc (spec row) (fun s => acc8 s row x [k0, k1, k2, k3, k4, k5, k6, k7]) [k0, k1, k2, k3, k4, k5, k6, k7] x := by
  refine ⟨vec [row.getD (x + 0) 0 % 65536 * wrap32 k0 + row.getD (x + 2) 0 % 65536 * wrap32 k2
                + row.getD (x + 4) 0 % 65536 * wrap32 k4 + row.getD (x + 6) 0 % 65536 * wrap32 k6,
              row.getD (x + 1) 0 % 65536 * wrap32 k1 + row.getD (x + 3) 0 % 65536 * wrap32 k3
                + row.getD (x + 5) 0 % 65536 * wrap32 k5 + row.getD (x + 7) 0 % 65536 * wrap32 k7], ?_, fun t => ?_⟩
  · funext _; simp only [lanes, lanes_proc, dot16]; ac_rfl
  · simp only [lanes, lanes_proc, acc8, src16, add64, mul2, pshufb, u16x1_sse4_l01, u16x1_sse4_l23, u16x1_sse4_l45, u16x1_sse4_l67]
    ac_rfl

theorem step4 (row : List Int) (x : Nat) (k0 k1 k2 k3 : Int) :
    Step enc (spec row) (fun s => acc4 s row x [k0, k1, k2, k3]) [k0, k1, k2, k3] x := by
  refine ⟨vec [row.getD (x + 0) 0 % 65536 * wrap32 k0 + row.getD (x + 2) 0 % 65536 * wrap32 k2,
              row.getD (x + 1) 0 % 65536 * wrap32 k1 + row.getD (x + 3) 0 % 65536 * wrap32 k3], ?_, fun t => ?_⟩
  · funext _; simp only [lanes, lanes_proc, dot16]; ac_rfl
  · simp only [lanes, lanes_proc, acc4, src16, add64, mul2, pshufb, u16x1_sse4_l01, u16x1_sse4_l23]
    ac_rfl

theorem step2 (row : List Int) (x : Nat) (k0 k1 : Int) :
    Step enc (spec row) (fun s => acc2 s row x [k0, k1]) [k0, k1] x := by
  refine ⟨vec [row.getD (x + 0) 0 % 65536 * wrap32 k0, row.getD (x + 1) 0 % 65536 * wrap32 k1], ?_, fun t => ?_⟩
  · funext _; simp only [lanes, lanes_proc, dot16]
  · simp only [lanes, lanes_proc, acc2, src16, add64, mul2, pshufb, u16x1_sse4_l01]

theorem step1 (row : List Int) (x : Nat) (k : Int) : Step enc (spec row) (fun s => acc1 s row x k) [k] x := by
  refine ⟨vec [row.getD (x + 0) 0 % 65536 * wrap32 k, 0], ?_, fun t => ?_⟩
  · funext _; simp only [lanes, lanes_proc, dot16]
  · simp only [lanes, lanes_proc, acc1, src16, add64, mul2, w32_zero]

theorem tail0 (s row : List Int) (x : Nat) : SimdU16x1.tail s row x [] = s := rfl
theorem tail1 (s row : List Int) (x : Nat) (k0 : Int) : SimdU16x1.tail s row x [k0] = acc1 s row x k0 := rfl
theorem tail2 (s row : List Int) (x : Nat) (k0 k1 : Int) : SimdU16x1.tail s row x [k0, k1] = acc2 s row x [k0, k1] := rfl
theorem tail3 (s row : List Int) (x : Nat) (k0 k1 k2 : Int) :
    SimdU16x1.tail s row x [k0, k1, k2] = acc1 (acc2 s row x [k0, k1]) row (x + 2) k2 := rfl
theorem tail4 (s row : List Int) (x : Nat) (k0 k1 k2 k3 : Int) :
    SimdU16x1.tail s row x [k0, k1, k2, k3] = acc4 s row x [k0, k1, k2, k3] := rfl
theorem tail5 (s row : List Int) (x : Nat) (k0 k1 k2 k3 k4 : Int) :
    SimdU16x1.tail s row x [k0, k1, k2, k3, k4] = acc1 (acc4 s row x [k0, k1, k2, k3]) row (x + 4) k4 := rfl
theorem tail6 (s row : List Int) (x : Nat) (k0 k1 k2 k3 k4 k5 : Int) :
    SimdU16x1.tail s row x [k0, k1, k2, k3, k4, k5] = acc2 (acc4 s row x [k0, k1, k2, k3]) row (x + 4) [k4, k5] := rfl
theorem tail7 (s row : List Int) (x : Nat) (k0 k1 k2 k3 k4 k5 k6 : Int) :
    SimdU16x1.tail s row x [k0, k1, k2, k3, k4, k5, k6]
      = acc1 (acc2 (acc4 s row x [k0, k1, k2, k3]) row (x + 4) [k4, k5]) row (x + 4 + 2) k6 := rfl

theorem tail_ok (row : List Int) (x : Nat) (ks : List Int) (hlen : ks.length < 8) :
    Step enc (spec row) (fun s => SimdU16x1.tail s row x ks) ks x := by
  -- composite cases by `simpa only [tail3, ..]`: to close one by `exact` the unifier unfolds the model's `tail`, which is slow
  match ks, hlen with
  | [], _ => exact Step.id x
  | [k0], _ => exact step1 row x k0
  | [k0, k1], _ => exact step2 row x k0 k1
  | [k0, k1, k2], _ => simpa only [tail3, List.cons_append, List.nil_append] using (step2 row x k0 k1).comp (step1 row (x + 2) k2)
  | [k0, k1, k2, k3], _ => exact step4 row x k0 k1 k2 k3
  | [k0, k1, k2, k3, k4], _ => simpa only [tail5, List.cons_append, List.nil_append] using (step4 row x k0 k1 k2 k3).comp (step1 row (x + 4) k4)
  | [k0, k1, k2, k3, k4, k5], _ => simpa only [tail6, List.cons_append, List.nil_append] using (step4 row x k0 k1 k2 k3).comp (step2 row (x + 4) k4 k5)
  | [k0, k1, k2, k3, k4, k5, k6], _ =>
    simpa only [tail7, List.cons_append, List.nil_append] using ((step4 row x k0 k1 k2 k3).comp (step2 row (x + 4) k4 k5)).comp (step1 row (x + 4 + 2) k6)
  | _ :: _ :: _ :: _ :: _ :: _ :: _ :: _ :: _, h => simp at h; omega

theorem loop_ok (row : List Int) (ks : List Int) (x : Nat) : Step enc (spec row) (fun s => SimdU16x1.loop row ks x s) ks x :=
  loop8_ok (Step.pieces enc (spec row)) (body := fun s x k => acc8 s row x k) (fin := fun s x ks => SimdU16x1.tail s row x ks)
    (fun ks x s => by rw [SimdU16x1.loop]; rfl) (step8 row) (tail_ok row) ks x

/-- the SSE4.1 kernels for single-channel 16-bit images equal the portable kernel (one row and each of four rows) -/
theorem pixel_eq_portable (p : Nat) (row : List Int) (start : Nat) (ks : List Int) :
    SimdU16x1.pixel p row start ks = clip16 (2 ^ (p - 1) + dot16 row ks start) p := by
  obtain ⟨δ, hδ, hrun⟩ := loop_ok row ks start
  have hsum : δ 0 + δ 1 = dot16 row ks start := congrFun hδ 0
  have h := hrun 0
  simp only [regs, List.range, List.range.loop, List.map, Pi.zero_apply, zero_add] at h
  unfold SimdU16x1.pixel clip16
  simp only [show ([0, 0] : List Int) = [wrap64 0, wrap64 0] from rfl, h, List.getD_cons_succ, List.getD_cons_zero,
    wrapInt_add, wrapInt_add_right, hsum, add_comm]

end Fir.Proofs.U16x1
