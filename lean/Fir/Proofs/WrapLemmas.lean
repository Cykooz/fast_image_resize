/-
  Fir.Proofs.WrapLemmas - `Fir.Gen.wrapInt` (two's-complement wrap of the translated code): the identity
  inside the range, and a congruence modulo `2^bits`.  Core Lean + omega.
-/
import Fir.Generated.Prelude
namespace Fir.Proofs

theorem wrapInt32_id (v : Int) (h1 : -(2 ^ 31 : Int) ≤ v) (h2 : v < 2 ^ 31) : Gen.wrapInt 32 v = v := by
  unfold Gen.wrapInt
  simp only []
  split <;> omega

theorem wrapInt64_id (v : Int) (h1 : -(2 ^ 63 : Int) ≤ v) (h2 : v < 2 ^ 63) : Gen.wrapInt 64 v = v := by
  unfold Gen.wrapInt
  simp only []
  split <;> omega

theorem wrapInt_emod (bits : Nat) (a : Int) : Gen.wrapInt bits a % 2 ^ bits = a % 2 ^ bits := by
  unfold Gen.wrapInt
  simp only []
  split
  · exact Int.emod_emod_of_dvd _ (Int.dvd_refl _)
  · rw [Int.sub_emod_right, Int.emod_emod_of_dvd _ (Int.dvd_refl _)]

theorem wrapInt_congr (bits : Nat) (a b : Int) (h : a % 2 ^ bits = b % 2 ^ bits) :
    Gen.wrapInt bits a = Gen.wrapInt bits b := by
  unfold Gen.wrapInt
  simp only []
  rw [h]

theorem wrapInt_add (bits : Nat) (a b : Int) :
    Gen.wrapInt bits (Gen.wrapInt bits a + b) = Gen.wrapInt bits (a + b) := by
  apply wrapInt_congr
  rw [Int.add_emod, wrapInt_emod, ← Int.add_emod]

end Fir.Proofs
