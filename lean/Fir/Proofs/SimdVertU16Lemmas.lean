/-
  Fir.Proofs.SimdVertU16Lemmas - the SSE4.1 vertical pass for 16-bit components (src/convolution/vertical_u16/sse4.rs,
  `Fir.Model.SimdVertU16`) equals the portable kernel: every row adds `component * coefficient` (mod 2^64) to the lane of its
  component (`Lanes.rows_loop`).
-/
import Fir.Model.SimdVertU16
import Fir.Proofs.SimdLanes

namespace Fir.Proofs
open Fir.SimdU8x4 Fir.SimdVertU16 Fir.Gen Fir.Proofs.Lanes

@[lanes] theorem s32_zero : s32 0 0 0 0 = 0 := by decide

@[lanes] theorem s32_u16 (v : Int) : s32 (v % 256) (v / 256 % 256) 0 0 = v % 65536 := by
  unfold s32; simp only; split <;> omega

theorem dotV16_nil_right (rows : List (List Int)) (x : Nat) : dotV16 rows [] x = 0 := by
  cases rows <;> rfl

namespace VertU16

def term (x : Nat) (row : List Int) (k : Int) : Nat → Int := fun j => row.getD (x + j) 0 % 65536 * wrap32 k

def encV (n : Nat) (t : Nat → Int) : List (List Int) := (List.range n).map fun a => regs 64 2 fun i => t (2 * a + i)

theorem row8_ok (t : Nat → Int) (row : List Int) (x : Nat) (k : Int) : row8 (encV 4 t) row x k = encV 4 (t + term x row k) := by
  simp only [lanes, lanes_proc, encV, term, row8, load8, add64, mulEpi32, pshufb, vert_u16_sse4_sh0, vert_u16_sse4_sh1,
    vert_u16_sse4_sh2, vert_u16_sse4_sh3]

theorem row4_ok (t : Nat → Int) (row : List Int) (x : Nat) (k : Int) : row4 (encV 2 t) row x k = encV 2 (t + term x row k) := by
  simp only [lanes, lanes_proc, encV, term, row4]

end VertU16
open VertU16

theorem loop8u_eq (x : Nat) (rows : List (List Int)) (ks : List Int) (h : ks.length ≤ rows.length) (t : Nat → Int) :
    SimdVertU16.loop8 x rows ks (encV 4 t) = encV 4 (t + fun j => dotV16 rows ks (x + j)) :=
  rows_loop (loop := SimdVertU16.loop8 x) (pair := fun s rA rB k0 k1 => row8 (row8 s rA x k0) rB x k1)
    (last := fun s r k => row8 s r x k) (term := term x) (dv := fun rows ks j => dotV16 rows ks (x + j))
    (fun _ _ _ _ _ _ _ => rfl) (fun r rows k s => by cases rows <;> rfl) (fun rows s => by rcases rows with _ | ⟨_, _ | _⟩ <;> rfl)
    (fun t rA rB k0 k1 => by rw [row8_ok, row8_ok, add_assoc]) (fun t r k => row8_ok t r x k) (fun _ _ _ _ => rfl)
    (fun rows => funext fun j => dotV16_nil_right rows _) rows ks t h

theorem block8u_eq (p : Nat) (rows : List (List Int)) (ks : List Int) (h : ks.length ≤ rows.length) (x : Nat) :
    block8 p rows ks x = (List.range 8).map fun j => clip16 (2 ^ (p - 1) + dotV16 rows ks (x + j)) p := by
  show ((SimdVertU16.loop8 x rows ks (encV 4 fun _ => 2 ^ (p - 1))).flatten).map (fun v => (clip32 v p : Int)) = _
  rw [loop8u_eq x rows ks h]
  simp [lanes, encV, clip16]

/-- the 16-component step of the SSE4.1 vertical pass for 16-bit components equals the portable kernel -/
theorem vert_u16_sse4_chunk16_eq (p : Nat) (rows : List (List Int)) (ks : List Int) (h : ks.length ≤ rows.length) (x : Nat) :
    chunk16 p rows ks x = (List.range 16).map fun j => clip16 (2 ^ (p - 1) + dotV16 rows ks (x + j)) p := by
  unfold chunk16
  rw [block8u_eq p rows ks h x, block8u_eq p rows ks h (x + 8)]
  simp [List.range, List.range.loop, Nat.add_assoc]

theorem loop4u_eq (x : Nat) (rows : List (List Int)) (ks : List Int) (h : ks.length ≤ rows.length) (t : Nat → Int) :
    SimdVertU16.loop4 x rows ks (encV 2 t) = encV 2 (t + fun j => dotV16 rows ks (x + j)) :=
  rows_loop (loop := SimdVertU16.loop4 x) (pair := fun s rA rB k0 k1 => row4 (row4 s rA x k0) rB x k1)
    (last := fun s r k => row4 s r x k) (term := term x) (dv := fun rows ks j => dotV16 rows ks (x + j))
    (fun _ _ _ _ _ _ _ => rfl) (fun r rows k s => by cases rows <;> rfl) (fun rows s => by rcases rows with _ | ⟨_, _ | _⟩ <;> rfl)
    (fun t rA rB k0 k1 => by rw [row4_ok, row4_ok, add_assoc]) (fun t r k => row4_ok t r x k) (fun _ _ _ _ => rfl)
    (fun rows => funext fun j => dotV16_nil_right rows _) rows ks t h

theorem vert_u16_sse4_chunk4_eq (p : Nat) (rows : List (List Int)) (ks : List Int) (h : ks.length ≤ rows.length) (x : Nat) :
    SimdVertU16.chunk4 p rows ks x = (List.range 4).map fun j => clip16 (2 ^ (p - 1) + dotV16 rows ks (x + j)) p := by
  show ((SimdVertU16.loop4 x rows ks (encV 2 fun _ => 2 ^ (p - 1))).flatten).map (fun v => (clip32 v p : Int)) = _
  rw [loop4u_eq x rows ks h]
  simp [lanes, encV, clip16]

end Fir.Proofs
