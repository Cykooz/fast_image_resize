/-
  Fir.Proofs.SimdDiv8Lemmas - the SSE4.1 / AVX2 8-bit alpha-division lane (`Fir.Simd.simdDiv8`) equals the
  portable table division: for every alpha but 1 the f32 reciprocal, converted and read as `i16`, *is* the
  entry of `RECIP_ALPHA` (256 evaluations), and `_mm_mulhrs_epi16` on Q9.7 x Q8.8 is the portable
  "multiply, add 128, shift by 8".  For alpha = 1 the Q8.8 lane is negative and the unsigned minimum saturates.
-/
import Fir.Model.SimdAlpha
import Fir.Generated.Alpha
import Mathlib.Tactic.Ring
namespace Fir.Proofs
open Fir.Simd Fir.Gen

theorem recipLane_eq_table : (List.range 256).all (fun a => a == 1 ||
    (toI16 (recipLane a) == (recip_alpha a : Int) && decide (recip_alpha a < 32768))) = true := by
  decide +kernel

theorem mulhrs_eq_div_and_clip (c r : Nat) (hc : c < 256) (hr : r < 32768) :
    min (mulhrs ((c * 128 : Nat) : Int) (r : Int)) 255 = div_and_clip c r := by
  have h : c * r < 256 * 32768 := Nat.mul_lt_mul'' hc hr
  unfold mulhrs div_and_clip
  have e : ((c * 128 : Nat) : Int) * (r : Int) = ((c * r : Nat) : Int) * 128 := by push_cast; ring
  rw [e]
  -- whichever order the source multiplies in: one name for the product, then linear arithmetic
  try simp only [Nat.mul_comm r c]
  generalize c * r = t at *
  omega

theorem simdDiv8_eq (c a : Nat) (hc : c < 256) (ha : a < 256) :
    simdDiv8 c a = div_and_clip c (recip_alpha a) := by
  by_cases h1 : a = 1
  · subst h1
    have h : ∀ c : Fin 256, simdDiv8 c.val 1 = div_and_clip c.val (recip_alpha 1) := by decide +kernel
    exact h ⟨c, hc⟩
  · have h := List.all_eq_true.mp recipLane_eq_table a (List.mem_range.mpr ha)
    simp only [Bool.or_eq_true, beq_iff_eq, h1, false_or, Bool.and_eq_true, decide_eq_true_eq] at h
    unfold simdDiv8
    simp only [h.1]
    exact mulhrs_eq_div_and_clip c _ hc h.2

end Fir.Proofs
