/-
  Fir.Proofs.IeeeLemmas - IEEE-754 round-to-nearest-even to `p` significant bits as a function ℚ → ℚ
  (unbounded exponent range: no overflow, no underflow), and the three properties the float theorems of this
  project take as premises about "the rounding function":

    * `RelErr (flP p) 2^-p`           standard model of rounding      (C01, C02, C10: error bounds)
    * `Monotone (flP p)`                                               (C03, C11, C15, C17, C18)
    * `flP p n = n` for integers |n| ≤ 2^p                             (C03 window arithmetic)

  So every theorem stated "for all `fl` with ..." holds in particular for binary64 (`p = 53`) and binary32
  (`p = 24`) arithmetic as the standard defines it; what stays trusted is that the hardware implements this
  function and that no overflow / underflow occurs (ranges here are far inside the normal range).
-/
import Mathlib.Data.Int.Log
import Mathlib.Data.Rat.Floor
import Mathlib.Algebra.Order.Field.Power
import Fir.Proofs.FloatLemmas

namespace Fir.Ieee

noncomputable def rne (y : ℚ) : ℤ :=
  if y - ⌊y⌋ < 1 / 2 then ⌊y⌋
  else if 1 / 2 < y - ⌊y⌋ then ⌊y⌋ + 1
  else if Even ⌊y⌋ then ⌊y⌋ else ⌊y⌋ + 1

theorem rne_err (y : ℚ) : |(rne y : ℚ) - y| ≤ 1 / 2 := by
  have h1 := Int.floor_le y
  have h2 := Int.lt_floor_add_one y
  unfold rne
  rw [abs_le]
  split_ifs <;> push_cast <;> constructor <;> linarith

theorem floor_le_rne (y : ℚ) : ⌊y⌋ ≤ rne y := by
  unfold rne; split_ifs <;> omega

theorem rne_le_floor_add_one (y : ℚ) : rne y ≤ ⌊y⌋ + 1 := by
  unfold rne; split_ifs <;> omega

theorem rne_int (n : ℤ) : rne (n : ℚ) = n := by
  unfold rne
  simp

theorem rne_add_frac (q : ℤ) (f : ℚ) (h0 : 0 ≤ f) (h1 : f < 1) :
    rne (q + f) = if f < 1 / 2 then q else if 1 / 2 < f then q + 1 else if Even q then q else q + 1 := by
  have hfl : ⌊(q : ℚ) + f⌋ = q := by rw [Int.floor_intCast_add, Int.floor_eq_zero_iff.mpr ⟨h0, h1⟩, add_zero]
  unfold rne
  rw [hfl, add_sub_cancel_left]

theorem rne_mono {y z : ℚ} (h : y ≤ z) : rne y ≤ rne z := by
  by_contra hlt
  -- both are nearest integers, so `rne z + 1 ≤ rne y` leaves no room between `y` and `z`
  have h1 := (abs_le.mp (rne_err y)).2
  have h2 := (abs_le.mp (rne_err z)).1
  have h3 : (rne z : ℚ) + 1 ≤ rne y := by exact_mod_cast not_le.mp hlt
  exact hlt (le_antisymm h (by linarith) ▸ le_rfl)

theorem rne_ge_of_int_le (a : ℤ) (y : ℚ) (h : (a : ℚ) ≤ y) : a ≤ rne y := by
  have := rne_mono h; rwa [rne_int] at this

theorem rne_le_of_le_int (b : ℤ) (y : ℚ) (h : y ≤ (b : ℚ)) : rne y ≤ b := by
  have := rne_mono h; rwa [rne_int] at this

/-- exponent of the last place of a `p`-bit significand for `|x| ∈ [2^e, 2^(e+1))` -/
noncomputable def lastPlace (p : ℕ) (x : ℚ) : ℤ := Int.log 2 |x| - p + 1

/-- round-to-nearest-even to `p` significant bits -/
noncomputable def flP (p : ℕ) (x : ℚ) : ℚ :=
  if x = 0 then 0
  else if 0 < x then (rne (x / 2 ^ lastPlace p x) : ℚ) * 2 ^ lastPlace p x
  else -((rne (-x / 2 ^ lastPlace p x) : ℚ) * 2 ^ lastPlace p x)

theorem lastPlace_neg (p : ℕ) (x : ℚ) : lastPlace p (-x) = lastPlace p x := by simp [lastPlace]

theorem lastPlace_of_pos (p : ℕ) {x : ℚ} (h : 0 < x) : lastPlace p x = Int.log 2 x - p + 1 := by
  rw [lastPlace, abs_of_pos h]

theorem flP_neg (p : ℕ) (x : ℚ) : flP p (-x) = -flP p x := by
  rcases lt_trichotomy x 0 with h | rfl | h
  · simp [flP, lastPlace_neg, h.ne, h.not_gt, h]
  · simp [flP]
  · simp [flP, lastPlace_neg, h.ne', h.not_gt, h]

theorem flP_zero (p : ℕ) : flP p 0 = 0 := by simp [flP]

/-- a property holds everywhere once it holds at 0 and at the positive elements and is carried over by `x ↦ -x`;
    with `flP_neg`, a fact about `flP` needs a proof for positive arguments only -/
theorem sign_cases {α : Type*} [AddCommGroup α] [LinearOrder α] [IsOrderedAddMonoid α] {motive : α → Prop}
    (zero : motive 0) (pos : ∀ x, 0 < x → motive x) (neg : ∀ x, motive x → motive (-x)) (x : α) : motive x := by
  rcases lt_trichotomy x 0 with h | rfl | h
  · exact neg_neg x ▸ neg _ (pos _ (neg_pos.mpr h))
  · exact zero
  · exact pos x h

theorem flP_pos_eq (p : ℕ) (x : ℚ) (h : 0 < x) :
    flP p x = (rne (x / 2 ^ lastPlace p x) : ℚ) * 2 ^ lastPlace p x := by
  unfold flP; rw [if_neg (ne_of_gt h), if_pos h]

theorem log_bounds (x : ℚ) (h : 0 < x) : (2 : ℚ) ^ Int.log 2 x ≤ x ∧ x < (2 : ℚ) ^ (Int.log 2 x + 1) := by
  have h1 := Int.zpow_log_le_self (b := 2) (by norm_num) h
  have h2 := Int.lt_zpow_succ_log_self (b := 2) (by norm_num) x
  exact ⟨by exact_mod_cast h1, by exact_mod_cast h2⟩

theorem zpow_log_eq (p : ℕ) (hp : 1 ≤ p) (x : ℚ) (h : 0 < x) :
    (2 : ℚ) ^ Int.log 2 x = 2 ^ (p - 1 : ℕ) * 2 ^ lastPlace p x := by
  rw [lastPlace_of_pos p h, ← zpow_natCast, ← zpow_add₀ (by norm_num)]
  congr 1
  omega

theorem zpow_log_succ_eq (p : ℕ) (x : ℚ) (h : 0 < x) :
    (2 : ℚ) ^ (Int.log 2 x + 1) = 2 ^ p * 2 ^ lastPlace p x := by
  rw [lastPlace_of_pos p h, ← zpow_natCast, ← zpow_add₀ (by norm_num)]
  congr 1
  ring

theorem significand_bounds (p : ℕ) (hp : 1 ≤ p) (x : ℚ) (h : 0 < x) :
    (2 : ℚ) ^ (p - 1 : ℕ) ≤ x / 2 ^ lastPlace p x ∧ x / 2 ^ lastPlace p x < (2 : ℚ) ^ p := by
  obtain ⟨h1, h2⟩ := log_bounds x h
  have hs : (0 : ℚ) < 2 ^ lastPlace p x := by positivity
  rw [le_div_iff₀ hs, div_lt_iff₀ hs, ← zpow_log_eq p hp x h, ← zpow_log_succ_eq p x h]
  exact ⟨h1, h2⟩

theorem rne_significand_bounds (p : ℕ) (hp : 1 ≤ p) (x : ℚ) (h : 0 < x) :
    ((2 ^ (p - 1) : ℕ) : ℤ) ≤ rne (x / 2 ^ lastPlace p x) ∧ rne (x / 2 ^ lastPlace p x) ≤ ((2 ^ p : ℕ) : ℤ) := by
  obtain ⟨hlo, hhi⟩ := significand_bounds p hp x h
  exact ⟨rne_ge_of_int_le _ _ (by push_cast; exact hlo), rne_le_of_le_int _ _ (by push_cast; exact hhi.le)⟩

theorem flP_err (p : ℕ) (x : ℚ) (h : 0 < x) : |flP p x - x| ≤ 2 ^ lastPlace p x / 2 := by
  rw [flP_pos_eq p x h]
  have hs : (0 : ℚ) < 2 ^ lastPlace p x := by positivity
  generalize (2 : ℚ) ^ lastPlace p x = s at hs ⊢
  rw [show (rne (x / s) : ℚ) * s - x = ((rne (x / s) : ℚ) - x / s) * s by field_simp, abs_mul, abs_of_pos hs]
  exact (mul_le_mul_of_nonneg_right (rne_err _) hs.le).trans_eq (by ring)

theorem flP_relErr (p : ℕ) (_hp : 1 ≤ p) : Fir.Flt.RelErr (flP p) (1 / 2 ^ p) := by
  intro y
  induction y using sign_cases with
  | zero => simp [flP_zero]
  | neg y ih => rwa [flP_neg, ← neg_sub', abs_neg, abs_neg]
  | pos x h =>
    refine (flP_err p x h).trans ?_
    -- half a unit in the last place is `2^-p · 2^e`, and `2^e ≤ x`
    have h2 := zpow_log_succ_eq p x h
    rw [zpow_add_one₀ (by norm_num)] at h2
    have key : (2 : ℚ) ^ lastPlace p x = 1 / 2 ^ p * (2 ^ Int.log 2 x * 2) := by rw [h2]; field_simp
    rw [key, mul_div_assoc, mul_div_cancel_right₀ _ two_ne_zero, abs_of_pos h]
    exact mul_le_mul_of_nonneg_left (log_bounds x h).1 (by positivity)

theorem log_eq_of_bounds {x : ℚ} {e : ℤ} (hx : 0 < x) (h1 : (2 : ℚ) ^ e ≤ x) (h2 : x < (2 : ℚ) ^ (e + 1)) :
    Int.log 2 x = e :=
  le_antisymm (Int.lt_add_one_iff.mp ((Int.lt_zpow_iff_log_lt (b := 2) (by norm_num) hx).mp (by exact_mod_cast h2)))
    ((Int.zpow_le_iff_le_log (b := 2) (by norm_num) hx).mp (by exact_mod_cast h1))

theorem flP_binade (p : ℕ) (hp : 1 ≤ p) (x : ℚ) (h : 0 < x) :
    (2 : ℚ) ^ Int.log 2 x ≤ flP p x ∧ flP p x ≤ (2 : ℚ) ^ (Int.log 2 x + 1) := by
  obtain ⟨h1, h2⟩ := rne_significand_bounds p hp x h
  have hs : (0 : ℚ) < 2 ^ lastPlace p x := by positivity
  rw [flP_pos_eq p x h, zpow_log_eq p hp x h, zpow_log_succ_eq p x h]
  exact ⟨mul_le_mul_of_nonneg_right (by exact_mod_cast h1) hs.le, mul_le_mul_of_nonneg_right (by exact_mod_cast h2) hs.le⟩

theorem flP_pos (p : ℕ) (hp : 1 ≤ p) (x : ℚ) (h : 0 < x) : 0 < flP p x :=
  lt_of_lt_of_le (by positivity) (flP_binade p hp x h).1

theorem flP_mono_pos (p : ℕ) (hp : 1 ≤ p) (x y : ℚ) (hx : 0 < x) (hxy : x ≤ y) : flP p x ≤ flP p y := by
  have hy : 0 < y := lt_of_lt_of_le hx hxy
  rcases lt_or_eq_of_le (Int.log_mono_right (b := 2) hx hxy) with hlt | heq
  · -- different binades
    calc flP p x ≤ (2 : ℚ) ^ (Int.log 2 x + 1) := (flP_binade p hp x hx).2
      _ ≤ (2 : ℚ) ^ Int.log 2 y := zpow_le_zpow_right₀ (by norm_num) (by omega)
      _ ≤ flP p y := (flP_binade p hp y hy).1
  · -- same binade, same scale
    have hl : lastPlace p x = lastPlace p y := by rw [lastPlace_of_pos p hx, lastPlace_of_pos p hy, heq]
    rw [flP_pos_eq p x hx, flP_pos_eq p y hy, hl]
    have hs : (0 : ℚ) < 2 ^ lastPlace p y := by positivity
    apply mul_le_mul_of_nonneg_right _ hs.le
    have : x / 2 ^ lastPlace p y ≤ y / 2 ^ lastPlace p y := div_le_div_of_nonneg_right hxy hs.le
    exact_mod_cast rne_mono this

theorem flP_nonneg (p : ℕ) (hp : 1 ≤ p) {x : ℚ} (h : 0 ≤ x) : 0 ≤ flP p x := by
  rcases h.eq_or_lt with rfl | h
  exacts [(flP_zero p).ge, (flP_pos p hp x h).le]

theorem flP_monotone (p : ℕ) (hp : 1 ≤ p) : Monotone (flP p) := by
  have nonneg : ∀ x y : ℚ, 0 ≤ x → x ≤ y → flP p x ≤ flP p y := fun x y hx hxy => by
    rcases hx.eq_or_lt with rfl | hx
    exacts [flP_zero p ▸ flP_nonneg p hp hxy, flP_mono_pos p hp x y hx hxy]
  -- `flP` is odd: below 0 the order is that of the negated arguments
  intro x y hxy
  rcases le_total 0 x with hx | hx
  · exact nonneg x y hx hxy
  rcases le_total 0 y with hy | hy
  · have := flP_nonneg p hp (neg_nonneg.mpr hx)
    rw [flP_neg] at this
    exact (neg_nonneg.mp this).trans (flP_nonneg p hp hy)
  · have := nonneg (-y) (-x) (neg_nonneg.mpr hy) (neg_le_neg hxy)
    rwa [flP_neg, flP_neg, neg_le_neg_iff] at this

/-! ### representable values are fixed: `flP` is idempotent -/

theorem flP_of_dyadic (p : ℕ) (hp : 1 ≤ p) (M k : ℤ) (hM : 0 < M) (hM2 : M ≤ 2 ^ p) :
    flP p ((M : ℚ) * 2 ^ k) = (M : ℚ) * 2 ^ k := by
  -- below `2^p` the last place is at most `k`, so the significand is the integer `M * 2^(k - L)`
  have strict : ∀ M k : ℤ, 0 < M → M < 2 ^ p → flP p ((M : ℚ) * 2 ^ k) = (M : ℚ) * 2 ^ k := by
    intro M k hM hM2
    have hv : (0 : ℚ) < (M : ℚ) * 2 ^ k := by positivity
    have hlog : Int.log 2 ((M : ℚ) * 2 ^ k) < p + k := by
      apply (Int.lt_zpow_iff_log_lt (b := 2) (by norm_num) hv).mp
      rw [zpow_add₀ (by norm_num), zpow_natCast]
      exact_mod_cast mul_lt_mul_of_pos_right (by exact_mod_cast hM2 : (M : ℚ) < 2 ^ p) (by positivity : (0 : ℚ) < 2 ^ k)
    have hk : lastPlace p ((M : ℚ) * 2 ^ k) ≤ k := by rw [lastPlace_of_pos p hv]; omega
    rw [flP_pos_eq p _ hv]
    generalize lastPlace p _ = L at hk ⊢
    obtain ⟨d, rfl⟩ : ∃ d : ℕ, k = L + d := ⟨(k - L).toNat, by omega⟩
    have e : (M : ℚ) * 2 ^ (L + d) / 2 ^ L = ((M * 2 ^ d : ℤ) : ℚ) := by
      rw [zpow_add₀ (by norm_num), zpow_natCast]; push_cast; field_simp
    rw [e, rne_int, zpow_add₀ (by norm_num), zpow_natCast]; push_cast; ring
  -- and `2^p · 2^k` is `2^(p-1) · 2^(k+1)`
  rcases hM2.lt_or_eq with h | rfl
  · exact strict M k hM h
  · obtain ⟨q, rfl⟩ : ∃ q, p = q + 1 := ⟨p - 1, by omega⟩
    rw [show ((2 ^ (q + 1) : ℤ) : ℚ) * 2 ^ k = ((2 ^ q : ℤ) : ℚ) * 2 ^ (k + 1) by
      rw [zpow_add_one₀ two_ne_zero]; push_cast; ring]
    exact strict (2 ^ q) (k + 1) (by positivity) (by rw [pow_succ]; linarith [pow_pos (two_pos : (0 : ℤ) < 2) q])

theorem flP_err_le (p : ℕ) (hp : 1 ≤ p) (x : ℚ) (k : ℤ) (h : 0 < x) (hk : x ≤ 2 ^ k) :
    |flP p x - x| ≤ 2 ^ (k - p) / 2 := by
  rcases lt_or_eq_of_le hk with hlt | rfl
  · refine (flP_err p x h).trans (div_le_div_of_nonneg_right (zpow_le_zpow_right₀ (by norm_num) ?_) (by norm_num))
    have : Int.log 2 x < k := (Int.lt_zpow_iff_log_lt (b := 2) (by norm_num) h).mp (by exact_mod_cast hlt)
    rw [lastPlace_of_pos p h]
    omega
  · have := flP_of_dyadic p hp 1 k one_pos (one_le_pow₀ (by norm_num))
    rw [Int.cast_one, one_mul] at this
    rw [this, sub_self, abs_zero]
    positivity

theorem flP_int (p : ℕ) (hp : 1 ≤ p) (n : ℤ) (hn : |n| ≤ 2 ^ p) : flP p (n : ℚ) = n := by
  induction n using sign_cases with
  | zero => simp [flP_zero]
  | neg n ih => rw [Int.cast_neg, flP_neg, ih (by rwa [abs_neg] at hn)]
  | pos n h => simpa using flP_of_dyadic p hp n 0 h (by rwa [abs_of_pos h] at hn)

theorem flP_idem (p : ℕ) (hp : 1 ≤ p) (x : ℚ) : flP p (flP p x) = flP p x := by
  induction x using sign_cases with
  | zero => rw [flP_zero, flP_zero]
  | neg x ih => rw [flP_neg, flP_neg, ih]
  | pos y hy =>
    obtain ⟨h1, h2⟩ := rne_significand_bounds p hp y hy
    rw [flP_pos_eq p y hy]
    have hpos : 0 < rne (y / 2 ^ lastPlace p y) := lt_of_lt_of_le (by positivity) h1
    exact flP_of_dyadic p hp _ _ hpos (by exact_mod_cast h2)

end Fir.Ieee
