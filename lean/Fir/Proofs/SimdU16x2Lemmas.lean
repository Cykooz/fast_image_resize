/-
  Fir.Proofs.SimdU16x2Lemmas - the SSE4.1 horizontal kernels for LA16 (src/convolution/u16x2/sse4.rs, `Fir.Model.SimdU16x2`,
  masks from the source) equal the portable kernel: lane `c` is channel `c`, and the 4-, 2- and 1-coefficient steps add
  `dotLA row c` of their coefficients to it (`spec`).
-/
import Fir.Model.SimdU16x2
import Fir.Proofs.SimdVertU16Lemmas

namespace Fir.Proofs.U16x2
open Fir.SimdU16x2 Fir.Gen Fir.Proofs.Lanes
open Fir.SimdU8x4 (pshufb)
open Fir.SimdVertU16 (add64 mulEpi32)

abbrev enc : (Nat → Int) → List Int := regs 64 2

def spec (row : List Int) : Spec := .sums (fun δ => δ) (dotLA row) (fun _ _ => rfl) (fun _ _ => rfl) (fun _ _ _ _ => rfl)

theorem step4 (row : List Int) (x : Nat) (k0 k1 k2 k3 : Int) :
    Step enc (spec row) (fun s => acc4 s row x k0 k1 k2 k3) [k0, k1, k2, k3] x := by
  refine ⟨_, rfl, fun t => ?_⟩
  simp only [lanes, lanes_proc, acc4, srcLA, add64, mulEpi32, pshufb, u16x2_sse4_p0, u16x2_sse4_p1, u16x2_sse4_p2, u16x2_sse4_p3, dotLA]
  ac_rfl

theorem step2 (row : List Int) (x : Nat) (k0 k1 : Int) : Step enc (spec row) (fun s => acc2 s row x k0 k1) [k0, k1] x := by
  refine ⟨_, rfl, fun t => ?_⟩
  simp only [lanes, lanes_proc, acc2, srcLA, add64, mulEpi32, pshufb, u16x2_sse4_p0, u16x2_sse4_p1, dotLA]
  ac_rfl

theorem step1 (row : List Int) (x : Nat) (k : Int) : Step enc (spec row) (fun s => acc1 s row x k) [k] x := by
  refine ⟨_, rfl, fun t => ?_⟩
  simp only [lanes, lanes_proc, acc1, srcLA, add64, mulEpi32, pshufb, u16x2_sse4_p0, dotLA]

theorem loop_ok (row : List Int) : ∀ (ks : List Int) (x : Nat), Step enc (spec row) (fun s => SimdU16x2.loop row ks x s) ks x
  | k0 :: k1 :: k2 :: k3 :: rest, x => by
    simpa only [SimdU16x2.loop, List.cons_append, List.nil_append] using (step4 row x k0 k1 k2 k3).comp (loop_ok row rest (x + 4))
  | [k0, k1, k2], x => by
    simpa only [SimdU16x2.loop, List.cons_append, List.nil_append] using (step2 row x k0 k1).comp (step1 row (x + 2) k2)
  | [k0, k1], x => by simpa only [SimdU16x2.loop] using step2 row x k0 k1
  | [k], x => by simpa only [SimdU16x2.loop] using step1 row x k
  | [], x => by simpa only [SimdU16x2.loop] using Step.id x

/-- the SSE4.1 horizontal kernels for LA16 equal the portable kernel (one row and each of four rows) -/
theorem pixel_eq_portable (p : Nat) (row : List Int) (start : Nat) (ks : List Int) :
    SimdU16x2.pixel p row start ks
      = [clip16 (2 ^ (p - 1) + dotLA row 0 ks start) p, clip16 (2 ^ (p - 1) + dotLA row 1 ks start) p] := by
  obtain ⟨δ, rfl, hrun⟩ := loop_ok row ks start
  exact (congrArg _ (hrun fun _ => 2 ^ (p - 1))).trans (by simp only [lanes, lanes_proc, clip16])

end Fir.Proofs.U16x2
