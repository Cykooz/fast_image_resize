/-
  Fir.Proofs.StructLemmas - structural ("float-oblivious") lemmas about the resizer model:
  the index arithmetic of row-major images (`mul_add_div`, `ofFn_get`; ImageLemmas uses it too), the copy fast path and
  the passes that touch one dimension only (C12), nearest neighbour (C11), the resizer state machine and its scratch
  buffers (C09) and the value-level overwrite theorems (C05).  No float is ever evaluated: every float test is an
  uninterpreted Bool/Prop whose value is fixed by a hypothesis.
-/
import Fir.Model.ResizerState
namespace Fir.Proofs

theorem mul_add_lt {q m c n : Nat} (hq : q < m) (hc : c < n) : q * n + c < m * n :=
  Nat.lt_of_lt_of_le (by rw [Nat.succ_mul]; omega) (Nat.mul_le_mul_right n hq)

theorem sample_index_lt {w h n x y c : Nat} (hx : x < w) (hy : y < h) (hc : c < n) : (y * w + x) * n + c < w * h * n :=
  Nat.mul_comm w h ▸ mul_add_lt (mul_add_lt hy hx) hc

theorem mul_add_div {q n c : Nat} (hc : c < n) : (q * n + c) / n = q := by
  have hn : 0 < n := by omega
  rw [Nat.mul_comm, Nat.mul_add_div hn, Nat.div_eq_of_lt hc, Nat.add_zero]

theorem ofFn_get (w h n : Nat) (f : Fin (w * h * n) → Int) (x y c : Nat)
    (hx : x < w) (hy : y < h) (hc : c < n) :
    (Img.mk w h n (Array.ofFn f)).get x y c = f ⟨(y * w + x) * n + c, sample_index_lt hx hy hc⟩ :=
  (getElem!_pos (Array.ofFn f) _ (Array.size_ofFn ▸ sample_index_lt hx hy hc)).trans (Array.getElem_ofFn ..)

theorem copyImage_some_iff (src prev : Img) (cl ct cw ch : Float) :
    (copyImage src cl ct cw ch prev).isSome = true ↔
      ((cl != cl.round || ct != ct.round || cw != cw.round || ch != ch.round) = false ∧
       (prev.w != cw.toUInt32.toNat || prev.h != ch.toUInt32.toNat) = false) := by
  unfold copyImage
  cases h1 : (cl != cl.round || ct != ct.round || cw != cw.round || ch != ch.round) <;>
  cases h2 : (prev.w != cw.toUInt32.toNat || prev.h != ch.toUInt32.toNat) <;>
  cases h3 : (decide (prev.w > 0) && decide (prev.h > 0)) <;> simp

theorem copyImage_is_copy (src prev r : Img) (cl ct cw ch : Float)
    (h : copyImage src cl ct cw ch prev = some r) (hw : 0 < prev.w) (hh : 0 < prev.h) :
    r = copyPass src cl.toUInt32.toNat ct.toUInt32.toNat prev.w prev.h := by
  unfold copyImage at h
  cases h1 : (cl != cl.round || ct != ct.round || cw != cw.round || ch != ch.round) <;>
  cases h2 : (prev.w != cw.toUInt32.toNat || prev.h != ch.toUInt32.toNat) <;>
  simp [h1, h2, hw, hh] at h
  exact h.symm

theorem copyPass_get (src : Img) (l t w h x y c : Nat) (hx : x < w) (hy : y < h) (hc : c < src.n) :
    (copyPass src l t w h).get x y c = src.get (l + x) (t + y) c := by
  unfold copyPass
  rw [ofFn_get w h src.n _ x y c hx hy hc]
  simp only [mul_add_div hc, Nat.mul_add_mod_of_lt hc, mul_add_div hx, Nat.mul_add_mod_of_lt hx]

theorem same_size_is_copy (p : PixT) (src prev r : Img) (alg : Alg) (useAlpha : Bool) (cl ct cw ch : Float)
    (hne : (cw == 0.0 || ch == 0.0 || prev.w == 0 || prev.h == 0) = false)
    (hcrop : cropCheck floatOps src.w src.h cl ct cw ch = 0)
    (hcopy : copyImage src cl ct cw ch prev = some r) :
    resizeModel p src prev ⟨alg, .box cl ct cw ch, useAlpha⟩ = (0, r) := by
  simp only [resizeModel, hne, hcrop, hcopy]
  simp

theorem nearest_overwrites_everything (src prev prev' : Img) (cl ct cw ch : Float)
    (hw : prev'.w = prev.w) (hh : prev'.h = prev.h)
    (hne : ¬ (prev.w = 0 ∨ prev.h = 0 ∨ cw ≤ 0.0 ∨ ch ≤ 0.0 ∨ src.h = 0)) :
    nearestPass src cl ct cw ch prev = nearestPass src cl ct cw ch prev' := by
  unfold nearestPass
  rw [if_neg hne, if_neg (hw ▸ hh ▸ hne), hw, hh]

theorem ss_internal_same_size (p : PixT) (src prev r : Img) (cl ct cw ch : Float) (f : FilterSpec) (m : Nat) (useAlpha : Bool)
    (hne : ¬ (prev.w = 0 ∨ prev.h = 0 ∨ cw ≤ 0.0 ∨ ch ≤ 0.0))
    (hfac : (ssFactor cw ch prev.w prev.h m > 1.2) = true)
    (hcopy : copyImage
        (nearestPass src cl ct cw ch (Img.fill (ssTmpDim cw (ssFactor cw ch prev.w prev.h m)) (ssTmpDim ch (ssFactor cw ch prev.w prev.h m)) src.n 0))
        0.0 0.0 (Float.ofNat (ssTmpDim cw (ssFactor cw ch prev.w prev.h m))) (Float.ofNat (ssTmpDim ch (ssFactor cw ch prev.w prev.h m)))
        prev = some r) :
    resampleSuperSampling p src cl ct cw ch prev f m useAlpha = r := by
  have hfac' : ssFactor cw ch prev.w prev.h m > 1.2 := by rw [hfac]
  unfold resampleSuperSampling
  simp only [if_neg hne, if_pos hfac', hcopy]

theorem error_leaves_destination (p : PixT) (src prev : Img) (alg : Alg) (useAlpha : Bool) (cl ct cw ch : Float)
    (hne : (cw == 0.0 || ch == 0.0 || prev.w == 0 || prev.h == 0) = false)
    (hcrop : cropCheck floatOps src.w src.h cl ct cw ch ≠ 0) :
    resizeModel p src prev ⟨alg, .box cl ct cw ch, useAlpha⟩ = (cropCheck floatOps src.w src.h cl ct cw ch, prev) := by
  simp only [resizeModel, hne, if_pos hcrop]
  simp

theorem zero_size_leaves_destination (p : PixT) (src prev : Img) (alg : Alg) (useAlpha : Bool) (cl ct cw ch : Float)
    (hz : (cw == 0.0 || ch == 0.0 || prev.w == 0 || prev.h == 0) = true) :
    resizeModel p src prev ⟨alg, .box cl ct cw ch, useAlpha⟩ = (0, prev) := by
  simp only [resizeModel, if_pos hz]

theorem pass_sizes (k : CKind) (src : Img) (dstW dstH offset : Nat) (c : Coeffs) :
    (horizPass k src dstW dstH offset c).data.size = dstW * dstH * src.n ∧
    (vertPass k src dstW dstH offset c).data.size = dstW * dstH * src.n := by
  constructor
  · unfold horizPass; exact Array.size_ofFn
  · unfold vertPass; exact Array.size_ofFn

theorem nearest_in_bounds (srcW srcH : Nat) (hw : 0 < srcW) (hh : 0 < srcH) (xs xsc ys ysc : Float) (x y : Nat) :
    nearestCol srcW xs xsc x < srcW ∧ nearestRow srcH ys ysc y < srcH := by
  unfold nearestCol nearestRow
  constructor <;> omega

theorem nearest_dims (src prev : Img) (cl ct cw ch : Float) :
    (nearestPass src cl ct cw ch prev).w = prev.w ∧ (nearestPass src cl ct cw ch prev).h = prev.h := by
  unfold nearestPass
  by_cases h : (prev.w = 0 ∨ prev.h = 0 ∨ cw ≤ 0.0 ∨ ch ≤ 0.0 ∨ src.h = 0)
  · simp only [if_pos h, and_self]
  · simp only [if_neg h, and_self]

theorem nearest_copy (src prev : Img) (cl ct cw ch : Float) (x y c : Nat)
    (hne : ¬ (prev.w = 0 ∨ prev.h = 0 ∨ cw ≤ 0.0 ∨ ch ≤ 0.0 ∨ src.h = 0))
    (hx : x < prev.w) (hy : y < prev.h) (hc : c < src.n) :
    (nearestPass src cl ct cw ch prev).get x y c =
      src.get (nearestCol src.w (cl + cw / Float.ofNat prev.w * 0.5) (cw / Float.ofNat prev.w) x)
              (nearestRow src.h (ct + ch / Float.ofNat prev.h * 0.5) (ch / Float.ofNat prev.h) y) c := by
  unfold nearestPass
  simp only [if_neg hne]
  rw [ofFn_get prev.w prev.h src.n _ x y c hx hy hc]
  simp only [mul_add_div hc, Nat.mul_add_mod_of_lt hc, mul_add_div hx, Nat.mul_add_mod_of_lt hx]

theorem nearest_no_alpha (p p' : PixT) (src prev : Img) (crop : Cropping) (a a' : Bool) :
    resizeModel p src prev ⟨.nearest, crop, a⟩ = resizeModel p' src prev ⟨.nearest, crop, a'⟩ := by
  unfold resizeModel  -- unfolded first: a bare `rfl` makes the unifier walk the whole dispatch (20x the work)
  rfl

theorem one_dim_no_resample (p : PixT) (src prev : Img) (cl ct cw ch : Float) (f : FilterSpec) (adaptive : Bool)
    (hne : ¬ (prev.w = 0 ∨ prev.h = 0 ∨ cw ≤ 0.0 ∨ ch ≤ 0.0))
    (hH : (Float.ofNat prev.w != cw || cl != cl.round) = false)
    (hV : (Float.ofNat prev.h != ch || ct != ct.round) = true) :
    doConvolution p src cl ct cw ch prev f adaptive =
      vertPass p.kind src prev.w prev.h cl.toUInt32.toNat (precomputeCoefficients src.h ct (ct + ch) prev.h f adaptive) := by
  unfold doConvolution
  simp only [if_neg hne, hH, hV]
  rfl

theorem convolution_overwrites_everything (p : PixT) (src prev prev' : Img) (cl ct cw ch : Float) (f : FilterSpec) (adaptive : Bool)
    (hw : prev'.w = prev.w) (hh : prev'.h = prev.h)
    (hne : ¬ (prev.w = 0 ∨ prev.h = 0 ∨ cw ≤ 0.0 ∨ ch ≤ 0.0))
    (hpass : (Float.ofNat prev.w != cw || cl != cl.round) = true ∨ (Float.ofNat prev.h != ch || ct != ct.round) = true)
    (htemp : boundsLast (precomputeCoefficients src.w cl (cl + cw) prev.w f adaptive)
               - boundsFirst (precomputeCoefficients src.w cl (cl + cw) prev.w f adaptive) ≠ 0) :
    doConvolution p src cl ct cw ch prev f adaptive = doConvolution p src cl ct cw ch prev' f adaptive := by
  unfold doConvolution
  simp only [if_neg hne, hw, hh]
  -- what is left of `prev` and `prev'` are the three `return prev`: no pass needed, and the empty temporary image
  cases hH : (Float.ofNat prev.w != cw || cl != cl.round) <;>
  cases hV : (Float.ofNat prev.h != ch || ct != ct.round)
  · simp [hH, hV] at hpass
  · rfl
  · rfl
  · cases hk : p.kind == .u8
    · rfl
    · simp only [ite_true, if_neg htemp]

theorem vertPass_column_local (k : CKind) (src src' : Img) (dstW dstH offset : Nat) (c : Coeffs) (x y ch : Nat)
    (hx : x < dstW) (hy : y < dstH) (hch : ch < src.n) (hn : src'.n = src.n)
    (hcol : ∀ r, src'.get (offset + x) r ch = src.get (offset + x) r ch) :
    (vertPass k src' dstW dstH offset c).get x y ch = (vertPass k src dstW dstH offset c).get x y ch := by
  have hch' : ch < src'.n := hn ▸ hch
  simp only [vertPass]
  rw [ofFn_get dstW dstH src'.n _ x y ch hx hy hch', ofFn_get dstW dstH src.n _ x y ch hx hy hch]
  simp only [mul_add_div hch, Nat.mul_add_mod_of_lt hch, mul_add_div hch', Nat.mul_add_mod_of_lt hch', mul_add_div hx, Nat.mul_add_mod_of_lt hx]
  congr 1
  funext start j
  exact hcol _

theorem rstep_outcome_state_independent (s s' : RState) (op : ROp) : (rstep s op).2 = (rstep s' op).2 := by
  cases op <;> rfl

theorem rrun_eq_map (s s0 : RState) (ops : List ROp) : rrun s ops = ops.map fun op => (rstep s0 op).2 := by
  induction ops generalizing s with
  | nil => rfl
  | cons op ops ih => rw [rrun, ih, List.map_cons, rstep_outcome_state_independent s s0]

theorem history_independent (s : RState) (ops : List ROp) (k : Nat) (hk : k < ops.length) :
    (rrun s ops).getD k none = (rstep (RState.init s.ext) (ops.getD k .reset)).2 := by
  simp [rrun_eq_map s (RState.init s.ext), List.getD_eq_getElem?_getD, hk]

theorem buffers_grow (s : RState) (p : PixT) (src prev : Img) (o : ROpts) (need : Nat × Nat × Nat) (g : List Int) :
    let s' := (rstep s (.resize p src prev o need g)).1
    s.alphaLen ≤ s'.alphaLen ∧ s.convLen ≤ s'.convLen ∧ s.ssLen ≤ s'.ssLen ∧
    need.1 ≤ s'.alphaLen ∧ need.2.1 ≤ s'.convLen ∧ need.2.2 ≤ s'.ssLen := by
  simp only [rstep]
  omega

theorem temp_buffer_slice_ok (count size off : Nat) (hs : 0 < size) (hoff : off < size) :
    count ≤ (count * size + size - off) / size := by
  rw [Nat.le_div_iff_mul_le hs]
  omega

end Fir.Proofs
