/-
  Fir.Proofs.SimdU16x1ALemmas - the AVX2 one-row horizontal kernel for single-channel 16-bit images
  (src/convolution/u16x1/avx2.rs, `Fir.Model.SimdU16x1A`) equals the portable kernel: each half of its masks is the SSE4.1 mask,
  so each half of a step is an SSE4.1 step (`Lanes.Step.pair`); the four lanes together gain the dot product of the coefficients
  consumed (`specA`).
-/
import Fir.Model.SimdU16x1A
import Fir.Proofs.SimdU16x1Lemmas

namespace Fir.Proofs.U16x1A
open Fir.SimdU16x1 Fir.SimdU16x1A Fir.Gen Fir.Proofs.Lanes Fir.Proofs.U16x1
open Fir.SimdU8x4 (wrap32 pshufb)
open Fir.SimdVertU16 (add64)

theorem masks_lo : u16x1_avx2_one_l01_lo = u16x1_sse4_l01 ∧ u16x1_avx2_one_l23_lo = u16x1_sse4_l23 ∧
    u16x1_avx2_one_l45_lo = u16x1_sse4_l45 ∧ u16x1_avx2_one_l67_lo = u16x1_sse4_l67 := by
  refine ⟨?_, ?_, ?_, ?_⟩ <;> decide

theorem masks_hi : u16x1_avx2_one_l01_hi = u16x1_sse4_l01 ∧ u16x1_avx2_one_l23_hi = u16x1_sse4_l23 ∧
    u16x1_avx2_one_l45_hi = u16x1_sse4_l45 ∧ u16x1_avx2_one_l67_hi = u16x1_sse4_l67 := by
  refine ⟨?_, ?_, ?_, ?_⟩ <;> decide

theorem g8_sse (s row : List Int) (x : Nat) (k : List Int) :
    g8 u16x1_sse4_l01 u16x1_sse4_l23 u16x1_sse4_l45 u16x1_sse4_l67 s (src16 row x 8) k = SimdU16x1.acc8 s row x k := rfl
theorem g4_sse (s row : List Int) (x : Nat) (k : List Int) :
    g4 u16x1_sse4_l01 u16x1_sse4_l23 s (src16 row x 4) k = SimdU16x1.acc4 s row x k := rfl
theorem g2_sse (s row : List Int) (x : Nat) (k : List Int) :
    g2 u16x1_sse4_l01 s (src16 row x 2) k = SimdU16x1.acc2 s row x k := rfl

abbrev encA (t : Nat → Int) : St2 := (regs 64 2 fun c => t (2 * c), regs 64 2 fun c => t (2 * c + 1))

def specA (row : List Int) : Spec :=
  .sums (fun δ _ => δ 0 + δ 1 + δ 2 + δ 3) (fun _ => dot16 row) (fun _ _ => by funext _; simp only [Pi.add_apply]; ac_rfl)
    (fun _ _ => rfl) (fun _ _ _ _ => rfl)

theorem halves {row a b : List Int} {x : Nat} {δ ε : Nat → Int} (h1 : (spec row).ok a x δ) (h2 : (spec row).ok b (x + a.length) ε) :
    (specA row).ok (a ++ b) x (ilv δ ε) := by
  funext _
  simp only [ilv, lanes_proc, dot_append (d := dot16 row) (fun _ => rfl) (fun _ _ _ => rfl), ← congrFun h1 0, ← congrFun h2 0]
  ac_rfl

theorem step16 (row : List Int) (x : Nat) (k0 k1 k2 k3 k4 k5 k6 k7 k8 k9 k10 k11 k12 k13 k14 k15 : Int) :
    Step encA (specA row) (fun s => acc16A s row x [k0, k1, k2, k3, k4, k5, k6, k7, k8, k9, k10, k11, k12, k13, k14, k15])
      [k0, k1, k2, k3, k4, k5, k6, k7, k8, k9, k10, k11, k12, k13, k14, k15] x := by
  simpa only [acc16A, masks_lo.1, masks_lo.2.1, masks_lo.2.2.1, masks_lo.2.2.2, masks_hi.1, masks_hi.2.1, masks_hi.2.2.1,
    masks_hi.2.2.2, List.take, List.drop, g8_sse, List.cons_append, List.nil_append]
    using Step.pair halves (U16x1.step8 row x k0 k1 k2 k3 k4 k5 k6 k7) (U16x1.step8 row (x + 8) k8 k9 k10 k11 k12 k13 k14 k15)

theorem step8 (row : List Int) (x : Nat) (k0 k1 k2 k3 k4 k5 k6 k7 : Int) :
    Step encA (specA row) (fun s => acc8A s row x [k0, k1, k2, k3, k4, k5, k6, k7]) [k0, k1, k2, k3, k4, k5, k6, k7] x := by
  simpa only [acc8A, masks_lo.1, masks_lo.2.1, masks_hi.1, masks_hi.2.1, List.take, List.drop, g4_sse, List.cons_append,
    List.nil_append] using Step.pair halves (U16x1.step4 row x k0 k1 k2 k3) (U16x1.step4 row (x + 4) k4 k5 k6 k7)

theorem step4 (row : List Int) (x : Nat) (k0 k1 k2 k3 : Int) :
    Step encA (specA row) (fun s => acc4A s row x [k0, k1, k2, k3]) [k0, k1, k2, k3] x := by
  simpa only [acc4A, masks_lo.1, masks_hi.1, List.take, List.drop, g2_sse, List.cons_append, List.nil_append]
    using Step.pair halves (U16x1.step2 row x k0 k1) (U16x1.step2 row (x + 2) k2 k3)

theorem step2 (row : List Int) (x : Nat) (k0 k1 : Int) : Step encA (specA row) (fun s => acc2A s row x [k0, k1]) [k0, k1] x := by
  have hz : ∀ t, g2 u16x1_sse4_l01 (enc t) zeros [0, 0] = enc t := fun t => by
    simp only [lanes, lanes_proc, g2, zeros, add64, mul2, pshufb, u16x1_sse4_l01]
  simpa only [acc2A, masks_lo.1, masks_hi.1, g2_sse, List.append_nil]
    using Step.pair halves (U16x1.step2 row x k0 k1) (Step.nop (g := fun s => g2 u16x1_sse4_l01 s zeros [0, 0]) _ hz)

theorem step1 (row : List Int) (x : Nat) (k : Int) : Step encA (specA row) (fun s => acc1A s row x k) [k] x := by
  have hlo : Step enc (spec row) (fun s => add64 s (mul2 (src16 row x 1) k k)) [k] x := by
    refine ⟨vec [row.getD (x + 0) 0 % 65536 * wrap32 k, 0], ?_, fun t => ?_⟩
    · funext _; simp only [lanes, lanes_proc, dot16]
    · simp only [lanes, lanes_proc, src16, add64, mul2]
  have hz : ∀ t, add64 (enc t) (mul2 zeros k k) = enc t := fun t => by
    simp only [lanes, lanes_proc, zeros, add64, mul2]
  simpa only [acc1A, List.append_nil] using Step.pair halves hlo (Step.nop (g := fun s => add64 s (mul2 zeros k k)) _ hz)

-- the model's `loopA` lists the sixteen remainders one by one (it has no `tail` to compose from), and so does this proof
theorem loopA_ok (row : List Int) : ∀ (ks : List Int) (x : Nat), Step encA (specA row) (fun s => loopA row ks x s) ks x
  | [], x => by simpa only [loopA, Nat.add_zero] using Step.id x
  | [k0], x => by simpa only [loopA, Nat.add_zero] using step1 row x k0
  | [k0, k1], x => by simpa only [loopA, Nat.add_zero] using step2 row x k0 k1
  | [k0, k1, k2], x => by
    simpa only [loopA, Nat.add_zero, List.cons_append, List.nil_append] using (step2 row x k0 k1).comp (step1 row (x + 2) k2)
  | [k0, k1, k2, k3], x => by simpa only [loopA, Nat.add_zero] using step4 row x k0 k1 k2 k3
  | [k0, k1, k2, k3, k4], x => by
    simpa only [loopA, Nat.add_zero, List.cons_append, List.nil_append] using (step4 row x k0 k1 k2 k3).comp (step1 row (x + 4) k4)
  | [k0, k1, k2, k3, k4, k5], x => by
    simpa only [loopA, Nat.add_zero, List.cons_append, List.nil_append] using (step4 row x k0 k1 k2 k3).comp (step2 row (x + 4) k4 k5)
  | [k0, k1, k2, k3, k4, k5, k6], x => by
    simpa only [loopA, Nat.add_zero, List.cons_append, List.nil_append]
      using ((step4 row x k0 k1 k2 k3).comp (step2 row (x + 4) k4 k5)).comp (step1 row (x + 6) k6)
  | [k0, k1, k2, k3, k4, k5, k6, k7], x => by simpa only [loopA, Nat.add_zero] using step8 row x k0 k1 k2 k3 k4 k5 k6 k7
  | [k0, k1, k2, k3, k4, k5, k6, k7, k8], x => by
    simpa only [loopA, Nat.add_zero, List.cons_append, List.nil_append]
      using (step8 row x k0 k1 k2 k3 k4 k5 k6 k7).comp (step1 row (x + 8) k8)
  | [k0, k1, k2, k3, k4, k5, k6, k7, k8, k9], x => by
    simpa only [loopA, Nat.add_zero, List.cons_append, List.nil_append]
      using (step8 row x k0 k1 k2 k3 k4 k5 k6 k7).comp (step2 row (x + 8) k8 k9)
  | [k0, k1, k2, k3, k4, k5, k6, k7, k8, k9, k10], x => by
    simpa only [loopA, Nat.add_zero, List.cons_append, List.nil_append]
      using ((step8 row x k0 k1 k2 k3 k4 k5 k6 k7).comp (step2 row (x + 8) k8 k9)).comp (step1 row (x + 10) k10)
  | [k0, k1, k2, k3, k4, k5, k6, k7, k8, k9, k10, k11], x => by
    simpa only [loopA, Nat.add_zero, List.cons_append, List.nil_append]
      using (step8 row x k0 k1 k2 k3 k4 k5 k6 k7).comp (step4 row (x + 8) k8 k9 k10 k11)
  | [k0, k1, k2, k3, k4, k5, k6, k7, k8, k9, k10, k11, k12], x => by
    simpa only [loopA, Nat.add_zero, List.cons_append, List.nil_append]
      using ((step8 row x k0 k1 k2 k3 k4 k5 k6 k7).comp (step4 row (x + 8) k8 k9 k10 k11)).comp (step1 row (x + 12) k12)
  | [k0, k1, k2, k3, k4, k5, k6, k7, k8, k9, k10, k11, k12, k13], x => by
    simpa only [loopA, Nat.add_zero, List.cons_append, List.nil_append]
      using ((step8 row x k0 k1 k2 k3 k4 k5 k6 k7).comp (step4 row (x + 8) k8 k9 k10 k11)).comp (step2 row (x + 12) k12 k13)
  | [k0, k1, k2, k3, k4, k5, k6, k7, k8, k9, k10, k11, k12, k13, k14], x => by
    simpa only [loopA, Nat.add_zero, List.cons_append, List.nil_append]
      using (((step8 row x k0 k1 k2 k3 k4 k5 k6 k7).comp (step4 row (x + 8) k8 k9 k10 k11)).comp
        (step2 row (x + 12) k12 k13)).comp (step1 row (x + 14) k14)
  | k0 :: k1 :: k2 :: k3 :: k4 :: k5 :: k6 :: k7 :: k8 :: k9 :: k10 :: k11 :: k12 :: k13 :: k14 :: k15 :: rest, x => by
    simpa only [loopA, Nat.add_zero, List.cons_append, List.nil_append]
      using (step16 row x k0 k1 k2 k3 k4 k5 k6 k7 k8 k9 k10 k11 k12 k13 k14 k15).comp (loopA_ok row rest (x + 16))

/-- the AVX2 one-row kernel for single-channel 16-bit images equals the portable kernel -/
theorem pixelA_eq_portable (p : Nat) (row : List Int) (start : Nat) (ks : List Int) :
    pixelA p row start ks = clip16 (2 ^ (p - 1) + dot16 row ks start) p := by
  obtain ⟨δ, hδ, hrun⟩ := loopA_ok row ks start
  have h : loopA row ks start ([0, 0], [0, 0]) = encA δ := (hrun 0).trans (by rw [zero_add])
  unfold pixelA clip16
  simp only [h, encA, lanes, lanes_proc, ← show δ 0 + δ 1 + δ 2 + δ 3 = dot16 row ks start from congrFun hδ 0]
  ac_rfl

end Fir.Proofs.U16x1A
