/-
  Fir.Proofs.SoftRoundTrip - `uN -> f32 -> uN` is the identity for every component depth `max < 2^23`.
  Each direction rounds once to binary32.  `x / max ≤ 1` is rounded with an error of at most 2^-25, which the
  multiplication by `max` scales to less than 1/4; the product is at most 2^23 and is rounded with an error
  of at most 1/4.  So the value that is finally rounded to an integer is less than 1/2 away from `x`.
-/
import Fir.Proofs.SoftLemmas

namespace Fir.Proofs
open Fir.Soft Fir.Ieee

-- the lemmas about `rnd24` speak of `2 ^ 512`, the range of the binary search `lg2`; Lean evaluates no power above `2 ^ 256` unasked
set_option exponentiation.threshold 600

/-- the clamp test of `f32ToUnsigned` -/
theorem clampTest_iff (x : ℕ × ℕ) :
    (if x.2 ≥ bias then decide (x.1 * 2 ^ (x.2 - bias) ≥ 1) else decide (x.1 ≥ 2 ^ (bias - x.2))) = true ↔ 1 ≤ valQ x := by
  have := dyadicGe_iff x 1
  simpa [Fir.Simd.dyadicGe] using this

theorem roundSat_eq (p : ℕ × ℕ) (max x : ℕ) (hx : x ≤ max) (h : |valQ p - x| < 1 / 2) : roundSat p max = x := by
  obtain ⟨h1, h2⟩ := abs_lt.mp h
  unfold roundSat
  simp only
  split <;> rename_i hge
  · -- an integer less than 1/2 away from `x`
    rw [valQ_of_ge p hge] at h1 h2
    generalize p.1 * 2 ^ (p.2 - bias) = v at h1 h2 ⊢
    have : v < x + 1 := by exact_mod_cast (by linarith : (v : ℚ) < x + 1)
    have : x < v + 1 := by exact_mod_cast (by linarith : (x : ℚ) < v + 1)
    omega
  · -- `⌊p.1 / 2^(k+1) + 1/2⌋`
    obtain ⟨k, hk⟩ : ∃ k, bias - p.2 = k + 1 := ⟨bias - p.2 - 1, by omega⟩
    have hpos : (0 : ℚ) < 2 ^ k * 2 := by positivity
    rw [valQ_of_lt p (not_le.mp hge), hk, pow_succ] at h1 h2
    rw [lt_sub_iff_add_lt, lt_div_iff₀ hpos] at h1
    rw [sub_lt_iff_lt_add, div_lt_iff₀ hpos] at h2
    rw [hk, Nat.add_sub_cancel, pow_succ, Nat.div_eq_of_lt_le (k := x), min_eq_left hx]
    · rw [← Nat.cast_le (α := ℚ)]; push_cast; linarith
    · rw [← Nat.cast_lt (α := ℚ)]; push_cast; linarith

/-- `x / max` for `1 ≤ x ≤ max < 2^24` is a normal binary32 number in `[2^-24, 2]` -/
theorem unsignedToF32_normal (max x : ℕ) (hx0 : 1 ≤ x) (hx : x ≤ max) (hm : max < 2 ^ 24) :
    8388608 ≤ (unsignedToF32 max x).1 ∧ (unsignedToF32 max x).1 < 16777216 ∧
    bias - 47 ≤ (unsignedToF32 max x).2 ∧ (unsignedToF32 max x).2 ≤ bias - 22 := by
  unfold unsignedToF32
  have hB : bias = 200 := rfl
  have hx2 : x < 2 ^ 512 := lt_trans (lt_of_le_of_lt hx hm) (by norm_num)
  have hm2 : max < 2 ^ bias := lt_trans hm (by decide)
  -- `2^-24 < x / max ≤ 1`: the exponent of the quotient lies in `[bias - 24, bias]`
  obtain ⟨hlow, hup⟩ := floorLog2Ratio_spec x max hx0 (by omega) hx2 hm2
  have hE : floorLog2Ratio x max ≤ bias :=
    (Nat.pow_le_pow_iff_right (by norm_num)).mp
      (Nat.le_of_mul_le_mul_left (hlow.trans (Nat.mul_le_mul_right _ hx)) (by omega))
  have hE' : bias < 24 + (floorLog2Ratio x max + 1) := by
    apply (Nat.pow_lt_pow_iff_right (by norm_num : 1 < 2)).mp
    calc 2 ^ bias ≤ x * 2 ^ bias := Nat.le_mul_of_pos_left _ hx0
      _ < max * 2 ^ (floorLog2Ratio x max + 1) := hup
      _ ≤ 2 ^ 24 * 2 ^ (floorLog2Ratio x max + 1) := Nat.mul_le_mul_right _ hm.le
      _ = 2 ^ (24 + (floorLog2Ratio x max + 1)) := (pow_add 2 24 _).symm
  have := rnd24_normalised x max hx0 (by omega) hx2 hm2 (by omega)
  omega

theorem ofBits_toBits (f : ℕ × ℕ) (h1 : 8388608 ≤ f.1) (h2 : f.1 < 16777216) (h3 : bias - 149 ≤ f.2)
    (h4 : f.2 ≤ bias + 104) : ofBits (toBits f) = f := by
  have hB : bias = 200 := rfl
  have e : toBits f = 8388608 * (f.2 + 150 - bias) + (f.1 - 8388608) := by
    unfold toBits
    rw [if_neg (by omega), if_neg (by omega), Nat.mul_comm]
  have hb : f.1 - 8388608 < 8388608 := by omega
  unfold ofBits
  rw [e, Nat.mul_add_div (by norm_num), Nat.div_eq_of_lt hb, Nat.mul_add_mod, Nat.mod_eq_of_lt hb, Nat.add_zero,
    Nat.mod_eq_of_lt (by omega), if_neg (by omega)]
  ext <;> simp only <;> omega

theorem unsignedToF32_bits (max x : ℕ) (hx0 : 1 ≤ x) (hx : x ≤ max) (hm : max < 2 ^ 24) :
    ofBits (toBits (unsignedToF32 max x)) = unsignedToF32 max x := by
  obtain ⟨h1, h2, h3, h4⟩ := unsignedToF32_normal max x hx0 hx hm
  exact ofBits_toBits _ h1 h2 (by omega) (by omega)

theorem f32_roundtrip (max x : ℕ) (hx : x ≤ max) (hm : max < 2 ^ 23) :
    f32ToUnsigned max (unsignedToF32 max x) = x := by
  rcases Nat.eq_zero_or_pos x with rfl | hx0
  · simp [f32ToUnsigned, unsignedToF32, rnd24_zero, roundSat]
  have hmax : 1 ≤ max := by omega
  have hmq : (0 : ℚ) < max := by exact_mod_cast hmax
  have hmq2 : (max : ℚ) < 2 ^ 23 := by exact_mod_cast hm
  have hxq : (0 : ℚ) < x := by exact_mod_cast hx0
  have hxm : (x : ℚ) / max ≤ 1 := by rw [div_le_one hmq]; exact_mod_cast hx
  have hB : bias = 200 := rfl
  -- first rounding: `f` is the correctly rounded `x / max ≤ 1`, so it is off by at most 2^-25
  obtain ⟨hf0, hf1, hf2, hf3⟩ := unsignedToF32_normal max x hx0 hx (lt_trans hm (by norm_num))
  have hv : valQ (unsignedToF32 max x) = flP 24 ((x : ℚ) / max) :=
    rnd24_eq_flP_small x max (by omega) (by omega)
  have herr := flP_err_le 24 (by norm_num) _ 0 (div_pos hxq hmq) (by rw [zpow_zero]; exact hxm)
  have hpos := flP_pos 24 (by norm_num) _ (div_pos hxq hmq)
  have hle := Flt.fl_le (flP_monotone 24 (by norm_num)) (by simpa using flP_int 24 (by norm_num) 1 (by norm_num)) hxm
  rw [← hv] at herr hpos hle
  generalize unsignedToF32 max x = f at *
  unfold f32ToUnsigned
  simp only
  -- the clamp is inactive, or replaces 1.0 by 1.0
  generalize hy : (if (if f.2 ≥ bias then decide (f.1 * 2 ^ (f.2 - bias) ≥ 1) else decide (f.1 ≥ 2 ^ (bias - f.2))) = true
    then ((8388608, bias - 23) : ℕ × ℕ) else f) = y
  obtain ⟨hy0, hy1, hy2, hy3, hyv⟩ : 1 ≤ y.1 ∧ y.1 < 16777216 ∧ bias - 47 ≤ y.2 ∧ y.2 < bias ∧ valQ y = valQ f := by
    rw [← hy]
    by_cases hc : 1 ≤ valQ f
    · rw [if_pos ((clampTest_iff f).mpr hc), le_antisymm hle hc, valQ_of_lt _ (by decide)]
      norm_num [bias]
    · rw [if_neg (mt (clampTest_iff f).mp hc)]
      exact ⟨by omega, hf1, hf2, by omega, rfl⟩
  rw [if_neg (by omega)]
  -- second rounding: `p` is the correctly rounded `valQ f * max ≤ 2^23`, so it is off by at most 1/4
  have hw : valQ (rnd24 (y.1 * max) (2 ^ (bias - y.2))) = flP 24 (valQ f * max) := by
    rw [rnd24_eq_flP_small _ _ (lt_trans (Nat.mul_lt_mul'' hy1 hm) (by norm_num))
      (Nat.pow_lt_pow_right (by norm_num) (by omega)), ← hyv, valQ_of_lt y hy3]
    push_cast
    ring_nf
  have herr2 := flP_err_le 24 (by norm_num) _ 23 (mul_pos hpos hmq) (by
    calc valQ f * max ≤ 1 * max := mul_le_mul_of_nonneg_right hle hmq.le
      _ ≤ 2 ^ (23 : ℤ) := by rw [one_mul]; exact_mod_cast hm.le)
  rw [← hw] at herr2
  generalize rnd24 (y.1 * max) (2 ^ (bias - y.2)) = p at *
  apply roundSat_eq p max x hx
  -- the first error, scaled by `max < 2^23`, is below 1/4 as well
  have e : valQ f * max - x = (valQ f - x / max) * max := by field_simp
  have h1 : |valQ f * max - x| < 1 / 4 := by
    rw [e, abs_mul, abs_of_pos hmq]
    calc |valQ f - x / max| * max ≤ 2 ^ ((0 : ℤ) - (24 : ℕ)) / 2 * max := mul_le_mul_of_nonneg_right herr hmq.le
      _ < 2 ^ ((0 : ℤ) - (24 : ℕ)) / 2 * 2 ^ 23 := mul_lt_mul_of_pos_left hmq2 (by positivity)
      _ = 1 / 4 := by norm_num
  calc |valQ p - x| ≤ |valQ p - valQ f * max| + |valQ f * max - x| := abs_sub_le _ _ _
    _ < 2 ^ ((23 : ℤ) - (24 : ℕ)) / 2 + 1 / 4 := add_lt_add_of_le_of_lt herr2 h1
    _ = 1 / 2 := by norm_num

end Fir.Proofs
