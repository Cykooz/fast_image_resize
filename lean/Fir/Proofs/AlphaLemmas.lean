/-
  Fir.Proofs.AlphaLemmas - arrays of pixels under `mapAlphaPixels` (Fir/Model/Alpha.lean), component by
  component: alpha positions are copied, a colour position gets `f colour alpha` with the alpha of its own
  pixel.  What C06 and C07 say about `mulPixels` / `divPixels` is read off this description.  The file opens
  with two facts about the arithmetic underneath that need no range: alpha 0, and how the reciprocal tables round.
-/
import Fir.Model.Alpha
namespace Fir.Proofs
open Fir.Gen

theorem mul_div_zero (c : Nat) : mul_div_255 c 0 = 0 ∧ mul_div_65535 c 0 = 0 := by
  simp [mul_div_255, mul_div_65535]

theorem div_and_clip_zero (c : Nat) :
    div_and_clip c (recip_alpha 0) = 0 ∧ div_and_clip16 c (recip_alpha16 0) = 0 := by
  simp [div_and_clip, recip_alpha, div_and_clip16, recip_alpha16]

theorem mulComp_zero (k : CKind) (hk : k = .u8 ∨ k = .u16) (c : Int) : mulComp k c 0 = 0 := by
  rcases hk with rfl | rfl
  · exact congrArg Nat.cast (mul_div_zero c.toNat).1
  · exact congrArg Nat.cast (mul_div_zero c.toNat).2

theorem divComp_zero (k : CKind) (hk : k = .u8 ∨ k = .u16) (c : Int) : divComp k c 0 = 0 := by
  rcases hk with rfl | rfl
  · exact congrArg Nat.cast (div_and_clip_zero c.toNat).1
  · exact congrArg Nat.cast (div_and_clip_zero c.toNat).2

/-- `⌊(⌊2M/a⌋ + 1)/2⌋`, the way the reciprocal tables are computed, is `M/a` rounded half up -/
theorem half_up_div (M : Nat) {a : Nat} (ha : 0 < a) : (2 * M / a + 1) / 2 = (2 * M + a) / (2 * a) := by
  rw [Nat.mul_comm 2 a, ← Nat.div_div_eq_div_mul, Nat.add_div_right _ ha]

theorem mapAlphaPixels_size (n : Nat) (f : Int → Int → Int) (px : Array Int) :
    (mapAlphaPixels n f px).size = px.size :=
  Array.size_ofFn

theorem mapAlphaPixels_getElem (n : Nat) (f : Int → Int → Int) (px : Array Int) (i : Nat) (hi : i < px.size) :
    (mapAlphaPixels n f px)[i]'(by rw [mapAlphaPixels_size]; exact hi)
      = if i % n = n - 1 then px[i] else f px[i] px[i - i % n + (n - 1)]! :=
  Array.getElem_ofFn ..

theorem mapAlphaPixels_getElem! (n : Nat) (f : Int → Int → Int) (px : Array Int) (i : Nat) (hi : i < px.size) :
    (mapAlphaPixels n f px)[i]! =
      if i % n = n - 1 then px[i]! else f px[i]! px[i - i % n + (n - 1)]! := by
  rw [getElem!_pos _ i ((mapAlphaPixels_size ..).symm ▸ hi), getElem!_pos px i hi]
  exact mapAlphaPixels_getElem n f px i hi

/-- `i - i % n + (n - 1)` is an alpha position: the last component of the pixel that holds component `i` -/
theorem alpha_index_mod {n : Nat} (hn : 0 < n) (i : Nat) : (i - i % n + (n - 1)) % n = n - 1 := by
  rw [← Nat.mul_div_self_eq_mod_sub_self, Nat.mul_add_mod, Nat.mod_eq_of_lt (by omega)]

theorem alpha_index_lt {n sz i : Nat} (hn : 0 < n) (hwhole : sz % n = 0) (hi : i < sz) :
    i - i % n + (n - 1) < sz := by
  obtain ⟨k, rfl⟩ := Nat.dvd_of_mod_eq_zero hwhole
  have := Nat.mul_le_mul_left n (Nat.succ_le_of_lt (Nat.div_lt_of_lt_mul hi))
  rw [← Nat.mul_div_self_eq_mod_sub_self]
  rw [Nat.mul_succ] at this
  omega

theorem mapAlphaPixels_congr {n : Nat} (hn : 0 < n) {f g : Int → Int → Int} {px px' : Array Int}
    (hsz : px.size = px'.size)
    (halpha : ∀ i, i < px.size → i % n = n - 1 → px[i]! = px'[i]!)
    (hcol : ∀ i, i < px.size → i % n ≠ n - 1 →
      f px[i]! px[i - i % n + (n - 1)]! = g px'[i]! px[i - i % n + (n - 1)]!) :
    mapAlphaPixels n f px = mapAlphaPixels n g px' := by
  refine Array.ext (by rw [mapAlphaPixels_size, mapAlphaPixels_size, hsz]) fun i h1 h2 => ?_
  have hi : i < px.size := mapAlphaPixels_size n f px ▸ h1
  rw [← getElem!_pos, ← getElem!_pos, mapAlphaPixels_getElem! _ _ _ _ hi, mapAlphaPixels_getElem! _ _ _ _ (hsz ▸ hi)]
  split
  next hl => exact halpha i hi hl
  next hl =>
    -- the alpha of the pixel is the same in both arrays (or out of bounds in both)
    have ha : px'[i - i % n + (n - 1)]! = px[i - i % n + (n - 1)]! := by
      by_cases hb : i - i % n + (n - 1) < px.size
      · exact (halpha _ hb (alpha_index_mod hn i)).symm
      · rw [getElem!_neg px _ hb, getElem!_neg px' _ (hsz ▸ hb)]
    rw [ha]
    exact hcol i hi hl

theorem premul_congr (p : PixT) (hk : p.kind = .u8 ∨ p.kind = .u16) (hn : 0 < p.n) (px px' : Array Int)
    (hsz : px.size = px'.size)
    (_hrange : ∀ i, i < px.size → 0 ≤ px[i]! ∧ px[i]! ≤ p.kind.maxVal ∧ 0 ≤ px'[i]! ∧ px'[i]! ≤ p.kind.maxVal)
    (halpha : ∀ i, i < px.size → i % p.n = p.n - 1 → px[i]! = px'[i]!)
    (hcol : ∀ i, i < px.size → i % p.n ≠ p.n - 1 → px[i - i % p.n + (p.n - 1)]! ≠ 0 → px[i]! = px'[i]!) :
    mulPixels p px = mulPixels p px' :=
  mapAlphaPixels_congr hn hsz halpha fun i hi hl => by
    by_cases hz : px[i - i % p.n + (p.n - 1)]! = 0
    · rw [hz, mulComp_zero _ hk, mulComp_zero _ hk]
    · rw [hcol i hi hl hz]

theorem mapAlphaPixels_opaque (n : Nat) (f : Int → Int → Int) (m : Int) (hn : 1 ≤ n) (px : Array Int)
    (hf : ∀ c, 0 ≤ c → c ≤ m → f c m = c)
    (hrange : ∀ i, i < px.size → 0 ≤ px[i]! ∧ px[i]! ≤ m)
    (hopaque : ∀ i, i < px.size → i % n = n - 1 → px[i]! = m)
    (hwhole : px.size % n = 0) :
    mapAlphaPixels n f px = px := by
  refine Array.ext (mapAlphaPixels_size ..) fun i _ hi => ?_
  rw [← getElem!_pos, ← getElem!_pos, mapAlphaPixels_getElem! _ _ _ _ hi]
  split
  · rfl
  · rw [hopaque _ (alpha_index_lt hn hwhole hi) (alpha_index_mod hn i)]
    exact hf _ (hrange i hi).1 (hrange i hi).2

theorem divPixels_zero_alpha (p : PixT) (hk : p.kind = .u8 ∨ p.kind = .u16) (hn : 2 ≤ p.n) (px : Array Int)
    (q c : Nat) (hq : q * p.n + (p.n - 1) < px.size) (hc : c < p.n - 1)
    (ha : px[q * p.n + (p.n - 1)]! = 0) :
    (divPixels p px)[q * p.n + c]! = 0 := by
  have hmod : (q * p.n + c) % p.n = c := Nat.mul_add_mod_of_lt (by omega)
  rw [divPixels, mapAlphaPixels_getElem! _ _ px _ (by omega), hmod, if_neg (by omega), Nat.add_sub_cancel, ha]
  exact divComp_zero _ hk _

end Fir.Proofs
