/-
  Fir.Proofs.SchedLemmas - lemmas about the schedule model (Fir/Model/Sched.lean) used by C08:
  writes to distinct indices commute, and banded passes perform the writes of the sequential pass.
-/
import Fir.Model.Sched
import Fir.Proofs.ViewLemmas

namespace Fir.Proofs

theorem write_comm (m : Mem) (a b : Nat × Int) (h : a.1 ≠ b.1) :
    (m.write a).write b = (m.write b).write a := by
  funext j
  simp only [Mem.write]
  by_cases hb : j = b.1
  · rw [if_pos hb, if_pos hb, if_neg fun ha => h (ha.symm.trans hb)]
  · rw [if_neg hb, if_neg hb]

theorem applyWrites_cons (w : Nat × Int) (ws : List (Nat × Int)) (m : Mem) :
    applyWrites (w :: ws) m = applyWrites ws (m.write w) := rfl

theorem writes_perm_invariant (ws1 ws2 : List (Nat × Int)) (hp : ws1.Perm ws2)
    (hnd : (ws1.map Prod.fst).Nodup) (m : Mem) : applyWrites ws1 m = applyWrites ws2 m := by
  induction hp generalizing m with
  | nil => rfl
  | cons x _ ih => exact ih (List.nodup_cons.mp hnd).2 _
  | swap x y l =>
    have hxy : y.1 ≠ x.1 := fun e => (List.nodup_cons.mp hnd).1 (List.mem_cons.mpr (.inl e))
    exact congrArg (applyWrites l) (write_comm m y x hxy)
  | trans h1 _ ih1 ih2 => exact (ih1 hnd m).trans (ih2 ((h1.map _).nodup_iff.mp hnd) m)

theorem rowPassWrites_eq (f : List Int → List Int) (mem : Mem) (sR dR : List (List Nat)) :
    rowPassWrites f mem sR dR
      = ((sR.zip dR).map fun sd => sd.2.zip (f (sd.1.map mem))).flatten := rfl

theorem rowPassWrites_append (f : List Int → List Int) (mem : Mem) (sR sR' dR dR' : List (List Nat))
    (h : sR.length = dR.length) :
    rowPassWrites f mem (sR ++ sR') (dR ++ dR') = rowPassWrites f mem sR dR ++ rowPassWrites f mem sR' dR' := by
  simp only [rowPassWrites_eq, List.zip_append h, List.map_append, List.flatten_append]

theorem banded_rows_eq_sequential (f : List Int → List Int) (mem : Mem) (src dst : View)
    (hsw : src.wf = true) (hdw : dst.wf = true) (hsp : 0 < src.width) (hdp : 0 < dst.width)
    (offset k : Nat) (sps dps : List View)
    (hs : src.splitH offset dst.height k = some sps) (hd : dst.splitH 0 dst.height k = some dps) :
    ((sps.zip dps).map fun (sp, dp) => rowPassWrites f mem (sp.rows 0) (dp.rows 0)).flatten
      = rowPassWrites f mem (src.rows offset) (dst.rows 0) := by
  obtain ⟨⟨hk, _, _, hsn⟩, fs, rfl, hfs⟩ := splitH_inv hsw hs
  obtain ⟨-, fd, rfl, hfd⟩ := splitH_inv hdw hd
  have hss := stride_ne_zero src hsw hsp
  have hds := stride_ne_zero dst hdw hdp
  -- the writes of band `[a, a + m)` of both views are an additive family, so `flatten_parts` glues the parts
  rw [List.zip_map', List.map_map]
  refine (flatten_parts (fun a m => rowPassWrites f mem
      (rect (src.base + (offset + a) * src.stride) src.stride src.width m)
      (rect (dst.base + a * dst.stride) dst.stride dst.width m)) (fun _ => by rw [rect_zero, rect_zero]; rfl)
    (fun a m m' => by
      simp only [rect_append, ← Nat.add_assoc, Nat.add_mul]
      exact rowPassWrites_append _ _ _ _ _ _ (by rw [rect_length _ _ _ _ hss, rect_length _ _ _ _ hds]))
    0 dst.height k hk _ fun i hi => by
      show rowPassWrites f mem ((fs i).rows 0) ((fd i).rows 0) = _
      rw [(hfs i hi).rows, (hfd i hi).rows, Nat.zero_add]).trans ?_
  -- the source rows below the band are not zipped with anything
  rw [rows_eq src hsw, rows_eq dst hdw, Nat.add_zero, Nat.zero_mul, Nat.sub_zero, rowPassWrites_eq, rowPassWrites_eq,
    List.zip_eq_zip_take_min (l₁ := rect _ _ _ (_ - _)),
    rect_length _ _ _ _ hss, rect_length _ _ _ _ hds, Nat.min_eq_right (by omega), rect_take _ _ _ _ _ (by omega),
    rect_take _ _ _ _ _ (Nat.le_refl _)]

theorem splitW_part_row (v : View) (hwf : v.wf = true) (hh : 0 < v.height) (s n k : Nat)
    (ps : List View) (h : v.splitW s n k = some ps) (i : Nat) (hi : i < k) (r : Nat)
    (hr : r < v.height) :
    ((ps.getD i default).rows 0).getD r []
      = (((v.rows 0).getD r []).drop (s + offs n k i)).take (sz n k i) := by
  obtain ⟨⟨_, _, _, hsn⟩, f, rfl, hf⟩ := splitW_inv hwf hh h
  have hst := stride_ne_zero v hwf (by omega)
  have := offs_add_sz_le n k i hi
  rw [show ((List.range k).map f).getD i default = f i by simp [List.getD_eq_getElem?_getD, hi],
    (hf i hi).row hst hr, (isRect_self hwf).row hst hr, List.drop_range', List.take_range'_of_length_ge (by omega),
    Nat.mul_one, Nat.add_right_comm]

theorem banded_cols_aligned (src dst : View) (hsw : src.wf = true) (hdw : dst.wf = true)
    (hsh : 0 < src.height) (hdh : 0 < dst.height)
    (offset k : Nat) (sps dps : List View)
    (hs : src.splitW offset dst.width k = some sps) (hd : dst.splitW 0 dst.width k = some dps)
    (i : Nat) (hi : i < k) (r : Nat) :
    ∃ a n, (r < src.height → ((sps.getD i default).rows 0).getD r []
              = (((src.rows 0).getD r []).drop (offset + a)).take n) ∧
           (r < dst.height → ((dps.getD i default).rows 0).getD r []
              = (((dst.rows 0).getD r []).drop a).take n) :=
  ⟨offs dst.width k i, sz dst.width k i, splitW_part_row src hsw hsh offset dst.width k sps hs i hi r,
    fun hr => by simpa using splitW_part_row dst hdw hdh 0 dst.width k dps hd i hi r hr⟩

theorem banded_cols_perm (dst : View) (hdw : dst.wf = true) (hdh : 0 < dst.height) (k : Nat)
    (dps : List View) (hd : dst.splitW 0 dst.width k = some dps) :
    ((dps.map fun p => (p.rows 0).flatten).flatten).Perm (dst.rows 0).flatten := by
  simpa [rows_eq dst hdw] using splitW_perm dst hdw hdh 0 dst.width k dps hd

end Fir.Proofs
