/-
  Fir.Proofs.SoftLemmas - the exact binary32 rounding of `Fir.Model.SoftF32` *is* IEEE-754 round-to-nearest-even:
  `valQ (rnd24 n d) = flP 24 (n / d)` in the normal range.  The two descriptions of rounding used in this
  project - the kernel-computable one over naturals (the depth conversions of C17, the SIMD alpha lanes of
  C02) and the mathematical one over ℚ (premises of the float theorems) - agree, and what is known
  of `flP` (standard model, monotonicity) holds of `rnd24`.
-/
import Fir.Model.SimdAlpha
import Fir.Proofs.IeeeLemmas

namespace Fir.Proofs
open Fir.Soft Fir.Ieee

-- the statements speak of `2 ^ 512`, the range of the binary search `lg2`; Lean evaluates no power above `2 ^ 256` unasked
set_option exponentiation.threshold 600

/-- the invariant of the binary search: the first component is `n` shifted right by the second, and the second
    brackets `n` to within `2k` binades; a step halves the bracket -/
theorem lgStep_inv (n k : ℕ) (x : ℕ × ℕ) (h : x.1 = n / 2 ^ x.2 ∧ 2 ^ x.2 ≤ n ∧ n < 2 ^ (x.2 + 2 * k)) :
    (lgStep k x).1 = n / 2 ^ (lgStep k x).2 ∧ 2 ^ (lgStep k x).2 ≤ n ∧ n < 2 ^ ((lgStep k x).2 + k) := by
  obtain ⟨hx, h1, h2⟩ := h
  have hk : 2 ^ k ≤ x.1 ↔ 2 ^ (x.2 + k) ≤ n := by
    rw [hx, Nat.le_div_iff_mul_le (Nat.two_pow_pos _), ← pow_add, add_comm]
  unfold lgStep
  split <;> rename_i hge
  · exact ⟨by simp only; rw [hx, Nat.div_div_eq_div_mul, ← pow_add], hk.mp hge, by rwa [add_assoc, ← two_mul]⟩
  · exact ⟨hx, h1, not_le.mp (mt hk.mpr hge)⟩

theorem lg2_spec (n : ℕ) (h1 : 1 ≤ n) (h2 : n < 2 ^ 512) : 2 ^ lg2 n ≤ n ∧ n < 2 ^ (lg2 n + 1) :=
  (lgStep_inv n 1 _ <| lgStep_inv n 2 _ <| lgStep_inv n 4 _ <| lgStep_inv n 8 _ <| lgStep_inv n 16 _ <|
    lgStep_inv n 32 _ <| lgStep_inv n 64 _ <| lgStep_inv n 128 _ <| lgStep_inv n 256 (n, 0)
      ⟨by simp, by simpa using h1, by simpa using h2⟩).2

/-! ### `floorLog2Ratio` is the binade of the quotient: `2^(E - bias) ≤ n / d < 2^(E + 1 - bias)` -/

/-- `2^(t - B) ≤ n / d` does not change when both exponents are shifted by the same amount -/
theorem pow_ratio_le_iff (n d : ℕ) {t B l l' : ℕ} (h : t + l' = l + B) :
    d * 2 ^ t ≤ n * 2 ^ B ↔ d * 2 ^ l ≤ n * 2 ^ l' := by
  rw [← Nat.mul_le_mul_right_iff (Nat.two_pow_pos l'), Nat.mul_right_comm n, mul_assoc d, ← pow_add, h, pow_add, ← mul_assoc,
    Nat.mul_le_mul_right_iff (Nat.two_pow_pos B)]

theorem floorLog2Ratio_spec (n d : ℕ) (hn : 1 ≤ n) (hd : 1 ≤ d) (hn2 : n < 2 ^ 512) (hd2 : d < 2 ^ bias) :
    d * 2 ^ floorLog2Ratio n d ≤ n * 2 ^ bias ∧ n * 2 ^ bias < d * 2 ^ (floorLog2Ratio n d + 1) := by
  obtain ⟨hln1, hln2⟩ := lg2_spec n hn hn2
  obtain ⟨hld1, hld2⟩ := lg2_spec d hd (hd2.trans (by decide))
  have hld : lg2 d < bias := (Nat.pow_lt_pow_iff_right (by norm_num)).mp (hld1.trans_lt hd2)
  -- the brackets of `n` and `d` put `n / d` between `2^(ln - ld - 1)` and `2^(ln - ld + 1)`; the test picks the binade
  have hlo : d * 2 ^ lg2 n ≤ n * 2 ^ (lg2 d + 1) := (Nat.mul_le_mul hld2.le hln1).trans_eq (Nat.mul_comm ..)
  have hhi : ¬ d * 2 ^ (lg2 n + 1) ≤ n * 2 ^ lg2 d :=
    not_le.mpr ((Nat.mul_lt_mul_of_lt_of_le hln2 hld1 hd).trans_eq (Nat.mul_comm ..))
  unfold floorLog2Ratio
  simp only
  split <;> rename_i htest <;> rw [← not_le]
  · exact ⟨(pow_ratio_le_iff n d (by omega)).mpr htest, mt (pow_ratio_le_iff n d (by omega)).mp hhi⟩
  · exact ⟨(pow_ratio_le_iff n d (by omega)).mpr hlo, mt (pow_ratio_le_iff n d (by omega)).mp htest⟩

theorem floorLog2Ratio_lower (n d : ℕ) (hn : 1 ≤ n) (hd : 1 ≤ d) (hn2 : n < 2 ^ 512) (hd2 : d < 2 ^ 150) :
    d * 2 ^ floorLog2Ratio n d ≤ n * 2 ^ bias :=
  (floorLog2Ratio_spec n d hn hd hn2 (hd2.trans (by decide))).1

/-- the normal range, read off the exponent or off the value `n / d ≥ 2^-126` -/
theorem normal_iff (n d : ℕ) (hn : 1 ≤ n) (hd : 1 ≤ d) (hn2 : n < 2 ^ 512) (hd2 : d < 2 ^ bias) :
    bias - 126 ≤ floorLog2Ratio n d ↔ d ≤ n * 2 ^ 126 := by
  obtain ⟨hlow, hup⟩ := floorLog2Ratio_spec n d hn hd hn2 hd2
  have e : d * 2 ^ (bias - 126) ≤ n * 2 ^ bias ↔ d ≤ n * 2 ^ 126 := by
    rw [pow_ratio_le_iff n d (show bias - 126 + 126 = 0 + bias by decide), pow_zero, mul_one]
  rw [← e]
  constructor <;> intro h
  · exact (Nat.mul_le_mul_left d (Nat.pow_le_pow_right two_pos h)).trans hlow
  · exact Nat.lt_succ_iff.mp ((Nat.pow_lt_pow_iff_right (by norm_num)).mp (Nat.lt_of_mul_lt_mul_left (h.trans_lt hup)))

theorem rneDiv_eq_rne (n d : ℕ) (hd : 0 < d) : ((rneDiv n d : ℕ) : ℤ) = rne ((n : ℚ) / d) := by
  have hdq : (0 : ℚ) < d := by exact_mod_cast hd
  have key : (n : ℚ) / d = ((n / d : ℕ) : ℤ) + ((n % d : ℕ) : ℚ) / d := by
    rw [Int.cast_natCast, add_div' _ _ _ hdq.ne', ← Nat.cast_mul, ← Nat.cast_add, Nat.div_add_mod']
  have hlt : ((n % d : ℕ) : ℚ) / d < 1 := (div_lt_one hdq).mpr (by exact_mod_cast Nat.mod_lt n hd)
  have c1 : ((n % d : ℕ) : ℚ) / d < 1 / 2 ↔ 2 * (n % d) < d := by
    rw [div_lt_div_iff₀ hdq two_pos, one_mul, mul_comm]; exact_mod_cast Iff.rfl
  have c2 : 1 / 2 < ((n % d : ℕ) : ℚ) / d ↔ 2 * (n % d) > d := by
    rw [div_lt_div_iff₀ two_pos hdq, one_mul, mul_comm]; exact_mod_cast Iff.rfl
  rw [key, rne_add_frac _ _ (by positivity) hlt]
  simp only [c1, c2, Int.even_coe_nat, Nat.even_iff, rneDiv]
  -- both sides test the remainder against `d / 2`, in different orders
  rcases lt_trichotomy (2 * (n % d)) d with h | h | h
  · rw [if_pos h, if_neg h.not_gt]; rw [if_neg h.ne]
  · rw [if_neg h.not_lt, if_neg h.not_gt, if_neg h.not_gt, if_pos h]; split_ifs <;> first | rfl | omega
  · rw [if_neg h.not_gt, if_pos h, if_pos h]; rfl

theorem rneDiv_err (n d : ℕ) (hd : 0 < d) : |((rneDiv n d : ℕ) : ℚ) - (n : ℚ) / d| ≤ 1 / 2 := by
  have := rne_err ((n : ℚ) / d)
  rwa [← rneDiv_eq_rne n d hd, Int.cast_natCast] at this

theorem rneDiv_bounds (n d : ℕ) : n / d ≤ rneDiv n d ∧ rneDiv n d ≤ n / d + 1 := by
  unfold rneDiv
  simp only
  split_ifs <;> omega

theorem rneDiv_one (n : ℕ) : rneDiv n 1 = n := by simp [rneDiv, Nat.mod_one]

/-- value of a dyadic `(m, eb)` : `m · 2^(eb - bias)` -/
def valQ (x : ℕ × ℕ) : ℚ := (x.1 : ℚ) * 2 ^ x.2 / 2 ^ bias

theorem valQ_eq_zpow (x : ℕ × ℕ) : valQ x = x.1 * 2 ^ ((x.2 : ℤ) - bias) := by
  rw [valQ, zpow_sub₀ (by norm_num), zpow_natCast, zpow_natCast, mul_div_assoc]

/-- a dyadic as a fraction of naturals (one of the two truncated differences is 0): what the model's branches on
    `x.2 ≥ bias` hand to `rneDiv` and `rnd24` -/
theorem valQ_eq_div (x : ℕ × ℕ) : valQ x = ((x.1 * 2 ^ (x.2 - bias) : ℕ) : ℚ) / ((2 ^ (bias - x.2) : ℕ) : ℚ) := by
  rw [valQ, div_eq_div_iff (by positivity) (by positivity)]
  push_cast
  rw [mul_assoc, mul_assoc, ← pow_add, ← pow_add, show x.2 + (bias - x.2) = x.2 - bias + bias by omega]

theorem valQ_of_ge (x : ℕ × ℕ) (h : bias ≤ x.2) : valQ x = ((x.1 * 2 ^ (x.2 - bias) : ℕ) : ℚ) := by
  rw [valQ_eq_div, Nat.sub_eq_zero_of_le h, pow_zero, Nat.cast_one, div_one]

theorem valQ_of_lt (x : ℕ × ℕ) (h : x.2 < bias) : valQ x = (x.1 : ℚ) / 2 ^ (bias - x.2) := by
  rw [valQ_eq_div, Nat.sub_eq_zero_of_le h.le, pow_zero, mul_one, Nat.cast_pow, Nat.cast_ofNat]

theorem valQ_le_iff (a b : ℕ × ℕ) : valQ a ≤ valQ b ↔ a.1 * 2 ^ a.2 ≤ b.1 * 2 ^ b.2 := by
  unfold valQ
  rw [div_le_div_iff_of_pos_right (by positivity)]
  exact_mod_cast Iff.rfl

/-- the significand `rnd24` computes: `n / d` in units of `2^(sh - B)`, rounded -/
theorem rneDiv_scaled (n d sh B : ℕ) (hd : 0 < d) :
    ((if sh ≥ B then rneDiv n (d * 2 ^ (sh - B)) else rneDiv (n * 2 ^ (B - sh)) d : ℕ) : ℤ)
      = rne ((n : ℚ) / d / 2 ^ ((sh : ℤ) - B)) := by
  have hzp : (2 : ℚ) ^ ((sh : ℤ) - B) = 2 ^ sh / 2 ^ B := by
    rw [zpow_sub₀ (by norm_num), zpow_natCast, zpow_natCast]
  split
  · rename_i hge
    rw [rneDiv_eq_rne n (d * 2 ^ (sh - B)) (Nat.mul_pos hd (Nat.two_pow_pos _)), hzp,
      ← Nat.sub_add_cancel hge, pow_add]
    push_cast; congr 1; rw [Nat.add_sub_cancel]; field_simp
  · rename_i hlt
    rw [rneDiv_eq_rne (n * 2 ^ (B - sh)) d hd, hzp, ← Nat.sub_add_cancel (Nat.le_of_not_ge hlt), pow_add]
    push_cast; congr 1; rw [Nat.add_sub_cancel]; field_simp

/-- `floorLog2Ratio n d - bias` is `⌊log₂ (n / d)⌋` -/
theorem log_ratio (n d : ℕ) (hn : 1 ≤ n) (hd : 1 ≤ d) (hn2 : n < 2 ^ 512) (hd2 : d < 2 ^ bias) :
    Int.log 2 ((n : ℚ) / d) = (floorLog2Ratio n d : ℤ) - bias := by
  obtain ⟨hlow, hup⟩ := floorLog2Ratio_spec n d hn hd hn2 hd2
  have hdq : (0 : ℚ) < d := by exact_mod_cast hd
  apply log_eq_of_bounds (by positivity)
  · rw [zpow_sub₀ two_ne_zero, zpow_natCast, zpow_natCast, div_le_div_iff₀ (by positivity) hdq, mul_comm]
    exact_mod_cast hlow
  · rw [sub_add_eq_add_sub, ← Nat.cast_add_one, zpow_sub₀ two_ne_zero, zpow_natCast, zpow_natCast,
      div_lt_div_iff₀ hdq (by positivity), mul_comm _ (d : ℚ)]
    exact_mod_cast hup

/-- `rnd24` in the normal range: the quotient in units of its last place `2^(sh - bias)` is rounded to `m`, and a carry
    `m = 2^24` moves to the next binade -/
theorem rnd24_normal (n d : ℕ) (hn : 1 ≤ n) (hd : 1 ≤ d) (hn2 : n < 2 ^ 512) (hd2 : d < 2 ^ bias)
    (hnormal : bias - 126 ≤ floorLog2Ratio n d) :
    ∃ sh m : ℕ, floorLog2Ratio n d = sh + 23 ∧ lastPlace 24 ((n : ℚ) / d) = sh - bias ∧
      (m : ℤ) = rne ((n : ℚ) / d / 2 ^ lastPlace 24 ((n : ℚ) / d)) ∧
      rnd24 n d = if m = 16777216 then (8388608, sh + 1) else (m, sh) := by
  have hB : 150 ≤ bias := by decide
  obtain ⟨sh, hsh⟩ : ∃ sh, floorLog2Ratio n d = sh + 23 := ⟨floorLog2Ratio n d - 23, by omega⟩
  have hl : lastPlace 24 ((n : ℚ) / d) = sh - bias := by
    rw [lastPlace_of_pos 24 (div_pos (by exact_mod_cast hn) (by exact_mod_cast hd)), log_ratio n d hn hd hn2 hd2, hsh]
    omega
  refine ⟨sh, _, hsh, hl, by rw [hl]; exact rneDiv_scaled n d sh bias hd, ?_⟩
  unfold rnd24
  rw [if_neg (by omega), hsh]
  simp only
  rw [if_neg (by omega : ¬ sh + 23 < bias - 126), Nat.add_sub_cancel]

/-- a quotient in the normal range is rounded to a normalised dyadic: significand in `[2^23, 2^24)`, exponent
    that of the last place, or one more after a carry -/
theorem rnd24_normalised (n d : ℕ) (hn : 1 ≤ n) (hd : 1 ≤ d) (hn2 : n < 2 ^ 512) (hd2 : d < 2 ^ bias)
    (hnormal : bias - 126 ≤ floorLog2Ratio n d) :
    8388608 ≤ (rnd24 n d).1 ∧ (rnd24 n d).1 < 16777216 ∧
      ((rnd24 n d).2 + 23 = floorLog2Ratio n d ∨ (rnd24 n d).2 + 23 = floorLog2Ratio n d + 1) := by
  obtain ⟨sh, m, hsh, -, hm, e⟩ := rnd24_normal n d hn hd hn2 hd2 hnormal
  have := rne_significand_bounds 24 (by norm_num) ((n : ℚ) / d) (div_pos (by exact_mod_cast hn) (by exact_mod_cast hd))
  rw [e, hsh]
  split <;> dsimp only <;> omega

/-- **the executable binary32 rounding is IEEE round-to-nearest-even** in the normal range `n / d ≥ 2^-126` -/
theorem rnd24_eq_flP (n d : ℕ) (hn : 1 ≤ n) (hd : 1 ≤ d) (hn2 : n < 2 ^ 512) (hd2 : d < 2 ^ bias)
    (hnormal : d ≤ n * 2 ^ 126) :
    valQ (rnd24 n d) = flP 24 ((n : ℚ) / d) := by
  obtain ⟨sh, m, -, hl, hm, e⟩ := rnd24_normal n d hn hd hn2 hd2 ((normal_iff n d hn hd hn2 hd2).mpr hnormal)
  have hx : (0 : ℚ) < (n : ℚ) / d := div_pos (by exact_mod_cast hn) (by exact_mod_cast hd)
  rw [flP_pos_eq 24 _ hx, ← hm, hl, e, Int.cast_natCast]
  split <;> rename_i hcarry <;> rw [valQ_eq_zpow]
  rw [hcarry]; push_cast; rw [add_sub_right_comm, zpow_add_one₀ (by norm_num)]; ring

theorem rnd24_zero (d : ℕ) : rnd24 0 d = (0, bias) := by simp [rnd24]

/-- the same for operands below 2^64 (every use in this project): no side condition left, a zero numerator or
    denominator gives the dyadic 0 and `x / 0 = 0` in ℚ -/
theorem rnd24_eq_flP_small (n d : ℕ) (hn2 : n < 2 ^ 64) (hd2 : d < 2 ^ 64) :
    valQ (rnd24 n d) = flP 24 ((n : ℚ) / d) := by
  rcases Nat.eq_zero_or_pos n with rfl | hn
  · simp [rnd24_zero, valQ, flP_zero]
  rcases Nat.eq_zero_or_pos d with rfl | hd
  · simp [rnd24, valQ, flP_zero]
  exact rnd24_eq_flP n d hn hd (hn2.trans (by norm_num)) (hd2.trans (by decide))
    (hd2.le.trans ((by norm_num : 2 ^ 64 ≤ 1 * 2 ^ 126).trans (Nat.mul_le_mul_right _ hn)))

theorem rnd24_relerr (n d : ℕ) (hn : 1 ≤ n) (hd : 1 ≤ d) (hn2 : n < 2 ^ 512) (hd2 : d < 2 ^ 150)
    (hnormal : bias - 126 ≤ floorLog2Ratio n d) :
    |valQ (rnd24 n d) - (n : ℚ) / d| ≤ 1 / 2 ^ 24 * ((n : ℚ) / d) := by
  have hx : (0 : ℚ) < (n : ℚ) / d := by positivity
  have := flP_relErr 24 (by norm_num) ((n : ℚ) / d)
  have hd2' : d < 2 ^ bias := hd2.trans (by decide)
  rwa [← rnd24_eq_flP n d hn hd hn2 hd2' ((normal_iff n d hn hd hn2 hd2').mp hnormal), abs_of_pos hx] at this

theorem dyadicGe_iff (x : ℕ × ℕ) (v : ℕ) : Fir.Simd.dyadicGe x v = true ↔ (v : ℚ) ≤ valQ x := by
  rw [valQ_eq_div, le_div_iff₀ (by positivity), ← Nat.cast_mul, Nat.cast_le]
  unfold Fir.Simd.dyadicGe
  split <;> rename_i h <;> rw [decide_eq_true_eq, ge_iff_le]
  · rw [Nat.sub_eq_zero_of_le h, pow_zero, mul_one]
  · rw [Nat.sub_eq_zero_of_le (Nat.le_of_not_ge h), pow_zero, mul_one]

/-- no exponent below that of the subnormals, `2^-149 = 2^(-126 - 23)` -/
theorem rnd24_snd_ge (n d : ℕ) : bias - 149 ≤ (rnd24 n d).2 := by
  have hB : bias = 200 := rfl
  unfold rnd24
  split
  · dsimp only; omega
  · have hsh : bias - 149 ≤ (if floorLog2Ratio n d < bias - 126 then bias - 126 else floorLog2Ratio n d) - 23 := by
      split <;> omega
    dsimp only
    generalize (if floorLog2Ratio n d < bias - 126 then bias - 126 else floorLog2Ratio n d) - 23 = sh at hsh ⊢
    generalize (if sh ≥ bias then rneDiv n (d * 2 ^ (sh - bias)) else rneDiv (n * 2 ^ (bias - sh)) d) = m
    split <;> omega

theorem rnd24_mono (n n' d : ℕ) (hnn : n ≤ n') (hn2 : n' < 2 ^ 64) (hd2 : d < 2 ^ 64) :
    valQ (rnd24 n d) ≤ valQ (rnd24 n' d) := by
  rw [rnd24_eq_flP_small n d (lt_of_le_of_lt hnn hn2) hd2, rnd24_eq_flP_small n' d hn2 hd2]
  exact flP_monotone 24 (by norm_num) (div_le_div_of_nonneg_right (by exact_mod_cast hnn) (Nat.cast_nonneg d))

end Fir.Proofs
