/-
  Fir.Proofs.SimdPassIntLemmas - the lane-accurate SIMD kernels of the 16-bit formats, of U8x2 and of U8x4 in the vocabulary of the
  portable model: every channel of the pixel a kernel stores is `Fir.passInt` (the function every C01 / C10 / C18 theorem is about) of the
  same coefficients and the same window of source samples.
-/
import Fir.Proofs.SimdU16x1Lemmas
import Fir.Proofs.SimdU16x3Lemmas
import Fir.Proofs.SimdU16x4Lemmas
import Fir.Proofs.SimdU8x2Lemmas
import Fir.Proofs.SimdU8x4Lemmas

namespace Fir.Proofs.PassInt
open Fir.SimdU8x4 (wrap32 wrap16)

theorem clip16_dot {d : List Int → Nat → Int} {row : List Int} {n c : Nat} (hnil : ∀ x, d [] x = 0)
    (hcons : ∀ k ks x, d (k :: ks) x = row.getD (n * x + c) 0 % 65536 * wrap32 k + d ks (x + 1)) (p : Nat) (ks : List Int) (x : Nat)
    (hk : ∀ k ∈ ks, -2147483648 ≤ k ∧ k ≤ 2147483647) (hb : ∀ i, 0 ≤ row.getD i 0 ∧ row.getD i 0 ≤ 65535) :
    clip16 (2 ^ (p - 1) + d ks x) p = passInt .u16 ks ((List.range ks.length).map fun i => row.getD (n * (x + i) + c) 0) p := by
  rw [Lanes.dot_eq_dotL hnil hcons (fun i => by have := hb i; omega) ks x
    (fun k h => wrapInt32_id k (by have := hk k h; omega) (by have := hk k h; omega))]
  rfl

theorem clip8_dot {d : List Int → Nat → Int} {row : List Int} {n c : Nat} (hnil : ∀ x, d [] x = 0)
    (hcons : ∀ k ks x, d (k :: ks) x = row.getD (n * x + c) 0 % 256 * wrap16 k + d ks (x + 1)) (p : Nat) (ks : List Int) (x : Nat)
    (hk : ∀ k ∈ ks, -32768 ≤ k ∧ k ≤ 32767) (hb : ∀ i, 0 ≤ row.getD i 0 ∧ row.getD i 0 ≤ 255) :
    clip8 (2 ^ (p - 1) + d ks x) p = passInt .u8 ks ((List.range ks.length).map fun i => row.getD (n * (x + i) + c) 0) p := by
  rw [Lanes.dot_eq_dotL hnil hcons (fun i => by have := hb i; omega) ks x (fun k h => by have := hk k h; unfold wrap16; omega)]
  rfl

theorem u16x1 (p : Nat) (row : List Int) (start : Nat) (ks : List Int)
    (hk : ∀ k ∈ ks, -2147483648 ≤ k ∧ k ≤ 2147483647) (hb : ∀ i, 0 ≤ row.getD i 0 ∧ row.getD i 0 ≤ 65535) :
    SimdU16x1.pixel p row start ks = passInt .u16 ks ((List.range ks.length).map fun i => row.getD (1 * (start + i) + 0) 0) p := by
  rw [U16x1.pixel_eq_portable, clip16_dot (d := SimdU16x1.dot16 row) (n := 1) (c := 0) (fun _ => rfl)
    (fun k ks x => by simp only [SimdU16x1.dot16, Nat.one_mul, Nat.add_zero]) p ks start hk hb]

theorem u16x3 (p w : Nat) (hp2 : 2 ≤ p) (row : List Int) (start : Nat) (ks : List Int) (c : Nat) (hc : c < 3)
    (hk : ∀ k ∈ ks, -2147483648 ≤ k ∧ k ≤ 2147483647) (hb : ∀ i, 0 ≤ row.getD i 0 ∧ row.getD i 0 ≤ 65535) :
    (SimdU16x3.pixel p w row start ks).getD c 0
      = passInt .u16 ks ((List.range ks.length).map fun i => row.getD (3 * (start + i) + c) 0) p ∧
    (SimdU16x3.pixelR p w row start ks).getD c 0
      = passInt .u16 ks ((List.range ks.length).map fun i => row.getD (3 * (start + i) + c) 0) p := by
  rw [U16x3.pixel_eq_portable p w hp2, U16x3.pixelR_eq_portable,
    ← clip16_dot (d := SimdU16x3.dot3 row c) (fun _ => rfl) (fun _ _ _ => rfl) p ks start hk hb]
  match c, hc with
  | 0, _ => exact ⟨rfl, rfl⟩
  | 1, _ => exact ⟨rfl, rfl⟩
  | 2, _ => exact ⟨rfl, rfl⟩

theorem u16x4 (p : Nat) (row : List Int) (start : Nat) (ks : List Int) (c : Nat) (hc : c < 4)
    (hk : ∀ k ∈ ks, -2147483648 ≤ k ∧ k ≤ 2147483647) (hb : ∀ i, 0 ≤ row.getD i 0 ∧ row.getD i 0 ≤ 65535) :
    (SimdU16x4.pixel p row start ks).getD c 0
      = passInt .u16 ks ((List.range ks.length).map fun i => row.getD (4 * (start + i) + c) 0) p := by
  rw [U16x4.pixel_eq_portable, ← clip16_dot (d := SimdU16x4.dotC16 row c) (fun _ => rfl) (fun _ _ _ => rfl) p ks start hk hb]
  match c, hc with
  | 0, _ => rfl
  | 1, _ => rfl
  | 2, _ => rfl
  | 3, _ => rfl

theorem u8x2 (p : Nat) (hp2 : 2 ≤ p) (row : List Int) (start : Nat) (ks : List Int) (c : Nat) (hc : c < 2)
    (hB : 255 * SimdU8x2.absSum ks + 2 ^ (p - 1) < (2 : Int) ^ 31)
    (hk : ∀ k ∈ ks, -32768 ≤ k ∧ k ≤ 32767) (hb : ∀ i, 0 ≤ row.getD i 0 ∧ row.getD i 0 ≤ 255) :
    (SimdU8x2.pixel p row start ks).getD c 0
      = passInt .u8 ks ((List.range ks.length).map fun i => row.getD (2 * (start + i) + c) 0) p ∧
    (SimdU8x2.pixelR p row start ks).getD c 0
      = passInt .u8 ks ((List.range ks.length).map fun i => row.getD (2 * (start + i) + c) 0) p := by
  rw [U8x2.pixel_eq_portable p hp2 row start ks hB, U8x2.pixelR_eq_portable p hp2 row start ks hB,
    ← clip8_dot (d := SimdU8x2.dot2 row c) (fun _ => rfl) (fun _ _ _ => rfl) p ks start hk hb]
  match c, hc with
  | 0, _ => exact ⟨rfl, rfl⟩
  | 1, _ => exact ⟨rfl, rfl⟩

end Fir.Proofs.PassInt

namespace Fir.Proofs
open Fir.SimdU8x4

/-- channel `c` of the pixel the SIMD kernel stores is `Fir.passInt .u8` - the arithmetic of the portable
    kernel that every C01 / C10 / C18 theorem is about - applied to the same coefficients and samples -/
theorem u8x4_sse4_pixel_eq_passInt (p : Nat) (hp : p < 32) (row : List Int) (start : Nat) (ks : List Int) (c : Nat) (hc : c < 4)
    (hk : ∀ k ∈ ks, -32768 ≤ k ∧ k ≤ 32767) (hb : ∀ i, 0 ≤ row.getD i 0 ∧ row.getD i 0 ≤ 255) :
    (pixel p row start ks).getD c 0
      = passInt .u8 ks ((List.range ks.length).map fun i => row.getD (4 * (start + i) + c) 0) p := by
  rw [u8x4_sse4_pixel_eq_portable p hp row start ks,
    ← PassInt.clip8_dot (d := dotC row c) (fun _ => rfl) (fun _ _ _ => rfl) p ks start hk hb]
  match c, hc with
  | 0, _ => rfl
  | 1, _ => rfl
  | 2, _ => rfl
  | 3, _ => rfl

end Fir.Proofs
