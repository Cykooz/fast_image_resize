/-
  Fir.Proofs.NearestLemmas - the two pieces of `resample_nearest` that C11 is about: its stateful row loop selects exactly
  the requested rows (`servedRow`, `row_cursor_eq_direct`), and the exact rational coordinate `nearestIdeal` that the computed
  source indices are compared with.
-/
import Fir.Model.RowCursor
import Mathlib.Data.Rat.Floor
namespace Fir.Proofs
open Fir.RowCursor

/-- the cursor after row `r` was handed out: `r` is cached, iterator and `next_row_y` stand at `r + 1` -/
def servedRow (r : Nat) : Cursor := { next := r + 1, pos := r + 1, cur := some r }

theorem step_init (H f : Nat) (hf : f < H) : step H (init f) f = servedRow f := by
  simp [step, init, nth, servedRow, hf]

theorem step_served (H r req : Nat) (hr : r ≤ req) (hreq : req < H) :
    step H (servedRow r) req = servedRow req := by
  by_cases h : r + 1 ≤ req
  · have e : r + 1 + (req - (r + 1)) = req := by omega
    simp [step, nth, servedRow, h, e, hreq]
  · obtain rfl : r = req := by omega
    simp [step, servedRow, h]

theorem run_served (H r0 : Nat) (reqs : List Nat) (hlt : ∀ r ∈ reqs, r < H)
    (hsorted : (r0 :: reqs).Pairwise (· ≤ ·)) : run H (servedRow r0) reqs = reqs := by
  induction reqs generalizing r0 with
  | nil => rfl
  | cons req reqs ih =>
    obtain ⟨h0, hs⟩ := List.pairwise_cons.mp hsorted
    rw [run, step_served H r0 req (h0 req List.mem_cons_self) (hlt req List.mem_cons_self)]
    exact congrArg (req :: ·) (ih req (fun r hr => hlt r (List.mem_cons_of_mem _ hr)) hs)

/-- started as the code starts it - iterator at the first requested row, no cached row - the loop hands
    out exactly the requested rows, in order, and never breaks early -/
theorem row_cursor_eq_direct (H : Nat) (reqs : List Nat) (hlt : ∀ r ∈ reqs, r < H)
    (hsorted : reqs.Pairwise (· ≤ ·)) :
    run H (init (reqs.headD 0)) reqs = reqs := by
  cases reqs with
  | nil => rfl
  | cons a as =>
    rw [run, List.headD_cons, step_init H a (hlt a List.mem_cons_self)]
    exact congrArg (a :: ·) (run_served H a as (fun r hr => hlt r (List.mem_cons_of_mem _ hr)) hsorted)

/-! ### the ideal coordinate: what the float-noise clause of C11 is measured against -/

/-- ideal nearest-neighbour coordinate of destination index `x`: ⌊l + (x + ½)·cw/dw⌋ -/
def nearestIdeal (l cw : ℚ) (dw x : Nat) : Int := ⌊l + ((x : ℚ) + 1 / 2) * cw / (dw : ℚ)⌋

theorem floor_add_half (n : Nat) : ⌊(n : ℚ) + 1 / 2⌋ = n := by
  rw [Int.floor_natCast_add, Int.floor_eq_zero_iff.mpr ⟨by norm_num, by norm_num⟩, add_zero]

/-- integer up-scaling repeats every source pixel exactly `k` times (also for `k = 0` and beyond the last pixel) -/
theorem nearestIdeal_integer_upscale (sw k x : Nat) (hs : 0 < sw) : nearestIdeal 0 sw (sw * k) x = (x / k : Nat) := by
  unfold nearestIdeal
  rw [zero_add, Nat.cast_mul, mul_comm (sw : ℚ), mul_div_mul_right _ _ (by positivity), Int.floor_div_natCast,
    floor_add_half, Int.natCast_div]

/-- odd integer down-scaling picks the middle pixel of every block -/
theorem nearestIdeal_odd_downscale (dw j x : Nat) (hd : 0 < dw) :
    nearestIdeal 0 ((dw * (2 * j + 1) : Nat) : ℚ) dw x = (x * (2 * j + 1) + j : Nat) := by
  unfold nearestIdeal
  rw [zero_add, Nat.cast_mul, mul_comm (dw : ℚ), ← mul_assoc, mul_div_cancel_right₀ _ (by positivity),
    ← floor_add_half]
  congr 1
  push_cast
  ring

end Fir.Proofs
