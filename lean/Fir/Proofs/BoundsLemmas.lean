/-
  Fir.Proofs.BoundsLemmas - the lemmas behind C03 that need no rational arithmetic: the window of the float-oblivious
  bounds model `Fir.Bounds` lies in the source, `tempExtent` is the span of all windows, the translated clip index stays
  inside its table, the precision loop of the normalisers ends in `[1, PRECISION_BITS)`, and every such precision has
  an arm in `constify_imm8!`.
-/
import Fir.Model.Bounds
import Fir.Generated.Clip
import Fir.Generated.Constify
import Fir.Proofs.WrapLemmas
namespace Fir.Proofs
open Fir.Bounds Fir.Gen

theorem leading_inv (isZero : Nat → Bool) (xMax : Nat) :
    ∀ (fuel x bs pushed : Nat), x ≤ xMax → fuel = xMax - x → bs + pushed = x →
      (leading isZero x xMax bs pushed fuel).1 + (leading isZero x xMax bs pushed fuel).2 = xMax ∧
      bs ≤ (leading isZero x xMax bs pushed fuel).1 := by
  intro fuel x bs pushed
  fun_induction leading isZero x xMax bs pushed fuel with
  | case1 | case4 => simp only; omega
  | case2 _ _ _ _ _ _ _ ih | case3 _ _ _ _ _ _ _ ih =>
    intro _ _ _
    have := ih (by omega) (by omega) (by omega)
    omega

theorem leading_le_nonzero (isZero : Nat → Bool) (xMax t : Nat) (ht : isZero t = false) :
    ∀ (fuel x bs pushed : Nat), bs ≤ t → (leading isZero x xMax bs pushed fuel).1 ≤ t := by
  intro fuel x bs pushed
  fun_induction leading isZero x xMax bs pushed fuel with
  | case1 | case4 => exact id
  | case2 x _ _ _ _ _ h ih =>
    refine fun hb => ih ?_
    have : x ≠ t := fun e => Bool.false_ne_true (ht ▸ e ▸ h.2)
    omega
  | case3 _ _ _ _ _ _ _ ih => exact ih

theorem trailing_le (isZero : Nat → Bool) (bs : Nat) :
    ∀ (fuel be : Nat), trailing isZero bs be fuel ≤ be := by
  intro fuel be
  fun_induction trailing isZero bs be fuel with
  | case1 | case2 => exact Nat.le_refl _
  | case3 _ _ _ ih => omega

theorem trailing_ge_start (isZero : Nat → Bool) (bs : Nat) :
    ∀ (fuel be : Nat), bs ≤ be → bs ≤ trailing isZero bs be fuel := by
  intro fuel be
  fun_induction trailing isZero bs be fuel with
  | case1 | case2 => exact id
  | case3 _ _ h ih => exact fun _ => ih (by omega)

theorem trailing_ge_nonzero (isZero : Nat → Bool) (bs t : Nat) (ht : isZero t = false) :
    ∀ (fuel be : Nat), t + 1 ≤ be → t + 1 ≤ trailing isZero bs be fuel := by
  intro fuel be
  fun_induction trailing isZero bs be fuel with
  | case1 | case2 => exact id
  | case3 be _ h ih =>
    refine fun hb => ih ?_
    have : be - 1 ≠ t := fun e => h (.inr (e ▸ ht))
    omega

theorem window_eq (isZero : Nat → Bool) (xMin xMax : Nat) :
    window isZero xMin xMax =
      ((leading isZero xMin xMax xMin 0 (xMax - xMin)).1,
       trailing isZero (leading isZero xMin xMax xMin 0 (xMax - xMin)).1 xMax (xMax - xMin)
         - (leading isZero xMin xMax xMin 0 (xMax - xMin)).1,
       (leading isZero xMin xMax xMin 0 (xMax - xMin)).2) := rfl

theorem window_in_source (isZero : Nat → Bool) (xMin xMax inSize : Nat) (h1 : xMin ≤ xMax) (h2 : xMax ≤ inSize) :
    let w := window isZero xMin xMax
    xMin ≤ w.1 ∧ w.1 + w.2.1 ≤ xMax ∧ w.1 + w.2.1 ≤ inSize ∧ w.2.1 ≤ w.2.2 ∧ w.1 + w.2.2 = xMax := by
  have hl := leading_inv isZero xMax (xMax - xMin) xMin xMin 0 h1 rfl rfl
  have ht := trailing_le isZero (leading isZero xMin xMax xMin 0 (xMax - xMin)).1 (xMax - xMin) xMax
  simp only [window_eq]
  omega

theorem window_nonempty (isZero : Nat → Bool) (xMin xMax x : Nat) (hx : xMin ≤ x ∧ x < xMax) (hnz : isZero x = false) :
    0 < (window isZero xMin xMax).2.1 := by
  have hl := leading_le_nonzero isZero xMax x hnz (xMax - xMin) xMin xMin 0 hx.1
  have ht := trailing_ge_nonzero isZero (leading isZero xMin xMax xMin 0 (xMax - xMin)).1 x hnz
    (xMax - xMin) xMax (by omega)
  simp only [window_eq]
  omega

theorem le_foldl_min_iff (l : List (Nat × Nat)) (init B : Nat) :
    B ≤ l.foldl (fun m b => min m b.1) init ↔ B ≤ init ∧ ∀ b ∈ l, B ≤ b.1 := by
  induction l generalizing init with
  | nil => simp
  | cons a l ih => simp only [List.foldl_cons, ih, List.forall_mem_cons, Nat.le_min, and_assoc]

theorem foldl_max_le_iff (l : List (Nat × Nat)) (init B : Nat) :
    l.foldl (fun m b => max m (b.1 + b.2)) init ≤ B ↔ init ≤ B ∧ ∀ b ∈ l, b.1 + b.2 ≤ B := by
  induction l generalizing init with
  | nil => simp
  | cons a l ih => simp only [List.foldl_cons, ih, List.forall_mem_cons, Nat.max_le, and_assoc]

theorem tempExtent_spans (bounds : List (Nat × Nat)) (b : Nat × Nat) (hb : b ∈ bounds) :
    (tempExtent bounds).1 ≤ b.1 ∧ b.1 + b.2 ≤ (tempExtent bounds).2 :=
  ⟨((le_foldl_min_iff bounds _ _).mp (Nat.le_refl _)).2 b hb, ((foldl_max_le_iff bounds 0 _).mp (Nat.le_refl _)).2 b hb⟩

theorem temp_image_fits (bounds : List (Nat × Nat)) (b : Nat × Nat) (hb : b ∈ bounds) :
    let e := tempExtent bounds
    e.1 ≤ b.1 ∧ (b.1 - e.1) + b.2 ≤ e.2 - e.1 := by
  have := tempExtent_spans bounds b hb
  omega

theorem shift_bounds_same_samples (bounds : List (Nat × Nat)) (b : Nat × Nat) (hb : b ∈ bounds) (i : Nat) :
    (tempExtent bounds).1 + ((b.1 - (tempExtent bounds).1) + i) = b.1 + i := by
  have := tempExtent_spans bounds b hb
  omega

theorem clip_index_in_table (v : Int) (p : Nat) (_hv : -(2 ^ 31 : Int) ≤ v ∧ v < 2 ^ 31) (hp : p < 32) :
    clip16_index v p < clip8_table_size ∧ clip16_index_ok v p := by
  unfold clip16_index clip16_index_ok clip8_table_size
  rw [wrapInt32_id _ (by omega) (by omega)]
  refine ⟨?_, hp, by decide, by decide, by omega, by omega⟩
  omega

theorem clip32_total (v : Int) (p : Nat) (hp : p < 64) : clip32_ok v p ∧ clip32 v p ≤ 65535 := by
  unfold clip32_ok clip32
  refine ⟨hp, ?_⟩
  omega

theorem precisionLoop_bounds (next : Nat → Int) (limit : Int) :
    ∀ (fuel cur : Nat), cur ≤ precisionLoop next limit cur fuel ∧
      (0 < fuel → precisionLoop next limit cur fuel < cur + fuel) := by
  intro fuel cur
  fun_induction precisionLoop next limit cur fuel <;> omega

theorem precision_lt_bits (next : Nat → Int) (limit : Int) (bits : Nat) (hb : 0 < bits) :
    precisionOf next limit bits < bits := by
  have := (precisionLoop_bounds next limit bits 0).2 hb
  unfold precisionOf
  omega

theorem precision_ge_one (next : Nat → Int) (limit : Int) (bits : Nat) (hb : 2 ≤ bits) (h0 : next 0 < limit) :
    1 ≤ precisionOf next limit bits := by
  unfold precisionOf
  obtain ⟨n, rfl⟩ : ∃ n, bits = n + 1 := ⟨bits - 1, by omega⟩
  simp only [precisionLoop]
  rw [if_neg (by omega), if_neg (by omega)]
  exact (precisionLoop_bounds next limit n 1).1

theorem precision_in_arms (p : Nat) (h1 : 1 ≤ p) (h2 : p < PRECISION_BITS) :
    p ∈ constify_arms ∧ p ∉ constify_noop_arms ∧ p ≤ constify_mask := by
  -- `PRECISION_BITS` reduces to 22, so `h2` is the bound of a `Fin 22`: a finite check of the translated arm lists
  have key : ∀ q : Fin 22, 1 ≤ q.val →
      q.val ∈ constify_arms ∧ q.val ∉ constify_noop_arms ∧ q.val ≤ constify_mask := by decide
  exact key ⟨p, h2⟩ h1

end Fir.Proofs
