/-
  Fir.Proofs.PackedFields - a numeral as a row of `b`-bit fields, and a test that the fields ascend which costs a
  handful of operations on the whole numeral instead of a loop over the fields (the kernel evaluates a bignum
  operation in microseconds but needs some 100 us for every turn of a loop).

  Fields are compared pairwise inside double fields of `2 * b` bits.  With `E` masking the low field of every
  double field and `G` the bit above it, `((x / 2^b &&& E) + G - (x &&& E)) &&& G = G` says that every low field is
  at most the high field next to it: the subtraction cannot borrow across double fields, so it is `m` independent
  subtractions `high + 2^b - low`, each of which keeps the bit `2^b` iff `low ≤ high`.
-/
namespace Fir.Proofs

def field (bits c k : Nat) : Nat := (c >>> (bits * k)) % 2 ^ bits

theorem add_mul_mod_div {V a q : Nat} (ha : a < V) : (a + V * q) % V = a ∧ (a + V * q) / V = q :=
  ((Nat.div_mod_unique (Nat.zero_lt_of_lt ha)).mpr ⟨rfl, ha⟩).symm

theorem add_mul_inj {V a a' q q' : Nat} (ha : a < V) (ha' : a' < V) (h : a + V * q = a' + V * q') :
    a = a' ∧ q = q' := by
  have := add_mul_mod_div (q := q) ha
  rwa [h, (add_mul_mod_div ha').1, (add_mul_mod_div ha').2, eq_comm, @eq_comm _ q'] at this

theorem geom_step {V m q : Nat} (hV : 1 ≤ V) (hq : V ^ m = 1 + (V - 1) * q) :
    V ^ (m + 1) = 1 + (V - 1) * (1 + V * q) := by
  rw [Nat.pow_succ, hq, Nat.add_mul, Nat.one_mul, Nat.mul_add, Nat.mul_one, Nat.mul_left_comm, Nat.mul_comm _ V]
  omega

/-- `V - 1` divides `V^m - 1` -/
theorem geom_sum (V m : Nat) (hV : 2 ≤ V) : V ^ m = 1 + (V - 1) * ((V ^ m - 1) / (V - 1)) := by
  induction m with
  | zero => simp
  | succ m ih => rw [geom_step (by omega) ih, Nat.add_sub_cancel_left, Nat.mul_div_cancel_left _ (by omega)]

/-- `1 + V + … + V^(m-1)` for `V = 2^(2*b)`: the lowest bit of each of `m` double fields -/
def ones (b m : Nat) : Nat := ((2 ^ (2 * b)) ^ m - 1) / (2 ^ (2 * b) - 1)

theorem ones_succ (b m : Nat) (hb : 1 ≤ b) : ones b (m + 1) = 1 + 2 ^ (2 * b) * ones b m := by
  have hV : 2 ≤ 2 ^ (2 * b) := Nat.le_self_pow (by omega) 2
  unfold ones
  generalize 2 ^ (2 * b) = V at hV
  rw [geom_step (by omega) (geom_sum V m hV), Nat.add_sub_cancel_left, Nat.mul_div_cancel_left _ (by omega)]

/-- in each of the `m` lowest double fields of `x` the low field is at most the high one -/
def pairsLeB (b m x : Nat) : Bool :=
  ((x / 2 ^ b &&& (2 ^ b - 1) * ones b m) + 2 ^ b * ones b m - (x &&& (2 ^ b - 1) * ones b m)) &&& 2 ^ b * ones b m
    == 2 ^ b * ones b m

theorem and_add_mul (x q : Nat) {k a : Nat} (ha : a < 2 ^ k) :
    x &&& (a + 2 ^ k * q) = (x % 2 ^ k &&& a) + 2 ^ k * (x / 2 ^ k &&& q) := by
  rw [← Nat.mod_add_div (x &&& _) (2 ^ k), Nat.and_mod_two_pow, Nat.and_div_two_pow, (add_mul_mod_div ha).1,
    (add_mul_mod_div ha).2]

/-- a subtraction of two-digit numbers to the base `V` that borrows in neither digit -/
theorem sub_add_mul {V a a' q q' : Nat} (ha : a' ≤ a) (hq : q' ≤ q) :
    a + V * q - (a' + V * q') = (a - a') + V * (q - q') := by
  have := Nat.mul_le_mul_left V hq
  rw [Nat.mul_sub]; omega

/-- one double field of the guard-bit comparison: if it succeeds on masks one double field longer, the lowest field
    of `x` is at most the next one, and it succeeds on the remaining fields -/
theorem pairs_step (b x E G : Nat) (hb : 1 ≤ b) (hEG : E ≤ G)
    (h : ((x / 2 ^ b &&& (2 ^ b - 1) + 2 ^ (2 * b) * E) + (2 ^ b + 2 ^ (2 * b) * G) - (x &&& (2 ^ b - 1) + 2 ^ (2 * b) * E))
          &&& (2 ^ b + 2 ^ (2 * b) * G) = 2 ^ b + 2 ^ (2 * b) * G) :
    x % 2 ^ b ≤ x / 2 ^ b % 2 ^ b ∧
    ((x / 2 ^ (2 * b) / 2 ^ b &&& E) + G - (x / 2 ^ (2 * b) &&& E)) &&& G = G := by
  have hWW : (2 : Nat) ^ (2 * b) = 2 ^ b * 2 ^ b := by rw [Nat.two_mul, Nat.pow_add]
  have hW := Nat.two_pow_pos b
  have hV : 2 * 2 ^ b ≤ 2 ^ (2 * b) := by rw [hWW]; exact Nat.mul_le_mul_right _ (Nat.le_self_pow (by omega) 2)
  have hE : 2 ^ b - 1 < 2 ^ (2 * b) := by omega
  have hG : 2 ^ b < 2 ^ (2 * b) := by omega
  have low (a : Nat) : a % 2 ^ (2 * b) &&& 2 ^ b - 1 = a % 2 ^ b := by
    rw [Nat.and_two_pow_sub_one_eq_mod, hWW, Nat.mod_mul_left_mod]
  have hh : x / 2 ^ b % 2 ^ b < 2 ^ b := Nat.mod_lt _ hW
  have hLG : x / 2 ^ (2 * b) &&& E ≤ (x / 2 ^ (2 * b) / 2 ^ b &&& E) + G :=
    Nat.le_trans Nat.and_le_right (Nat.le_trans hEG (Nat.le_add_left _ _))
  -- every mask acts on the lowest double field and on the rest separately; the low field is less than `2^b` and the
  -- masked rest at most `G`, so the subtraction borrows in neither part
  rw [and_add_mul x E hE, and_add_mul (x / 2 ^ b) E hE, low, low, Nat.div_div_eq_div_mul, Nat.mul_comm (2 ^ b),
    ← Nat.div_div_eq_div_mul, Nat.add_add_add_comm, ← Nat.mul_add, sub_add_mul (by omega) hLG, and_add_mul _ G hG] at h
  generalize x % 2 ^ b = l0, x / 2 ^ b % 2 ^ b = h0 at *
  have hz : h0 + 2 ^ b - l0 < 2 ^ (2 * b) := by omega
  rw [(add_mul_mod_div hz).1, (add_mul_mod_div hz).2] at h
  obtain ⟨h0', h1'⟩ := add_mul_inj (Nat.lt_of_le_of_lt Nat.and_le_right hG) hG h
  -- the difference `h0 + 2^b - l0` keeps the bit `2^b` only if it is at least `2^b`
  have : h0 + 2 ^ b - l0 &&& 2 ^ b ≤ h0 + 2 ^ b - l0 := Nat.and_le_left
  exact ⟨by omega, h1'⟩

theorem field_div (b x j k : Nat) : field b (x / 2 ^ (b * j)) k = field b x (k + j) := by
  simp only [field, Nat.shiftRight_eq_div_pow, Nat.div_div_eq_div_mul, ← Nat.pow_add, ← Nat.mul_add, Nat.add_comm]

theorem pairsLeB_le {b m x : Nat} (hb : 1 ≤ b) (h : pairsLeB b m x = true) {j : Nat} (hj : j < m) :
    field b x (2 * j) ≤ field b x (2 * j + 1) := by
  induction m generalizing x j with
  | zero => omega
  | succ m ih =>
    simp only [pairsLeB, beq_iff_eq, ones_succ b m hb, Nat.mul_add, Nat.mul_one, Nat.mul_left_comm _ (2 ^ (2 * b))] at h
    have hstep := pairs_step b x _ _ hb (Nat.mul_le_mul_right _ (Nat.sub_le _ _)) h
    cases j with
    | zero => simpa [field, Nat.shiftRight_eq_div_pow] using hstep.1
    | succ j =>
      have := ih (x := x / 2 ^ (2 * b)) (by simpa only [pairsLeB, beq_iff_eq] using hstep.2) (by omega : j < m)
      rwa [Nat.mul_comm 2 b, field_div, field_div] at this

theorem field_shift (b x t n i : Nat) (hi : i + 1 < n) :
    field b (x / 2 ^ b + t * 2 ^ (b * (n - 1))) i = field b x (i + 1) := by
  obtain ⟨r, hr⟩ : ∃ r, n - 1 = i + (1 + r) := ⟨n - 1 - i - 1, by omega⟩
  simp only [field, Nat.shiftRight_eq_div_pow]
  rw [hr, Nat.mul_add, Nat.mul_add, Nat.pow_add, Nat.pow_add, Nat.mul_one, Nat.mul_left_comm t,
    Nat.add_mul_div_left _ _ (Nat.two_pow_pos _), Nat.mul_left_comm t, Nat.add_mul_mod_self_left,
    Nat.div_div_eq_div_mul, Nat.mul_comm (2 ^ b), ← Nat.pow_add, Nat.mul_succ]

/-- the `2 * m` lowest fields of `c` ascend: the pairs (even, odd) in `c` itself, the pairs (odd, even) in `c`
    moved down one field, with a largest possible field on top so that the last pair passes -/
def fieldsAscB (b m c : Nat) : Bool :=
  pairsLeB b m c && pairsLeB b m (c / 2 ^ b + (2 ^ b - 1) * 2 ^ (b * (2 * m - 1)))

theorem fieldsAscB_le {b m c : Nat} (hb : 1 ≤ b) (h : fieldsAscB b m c = true) {k : Nat} (hk : k + 1 < 2 * m) :
    field b c k ≤ field b c (k + 1) := by
  rw [fieldsAscB, Bool.and_eq_true] at h
  obtain ⟨j, rfl | rfl⟩ : ∃ j, k = 2 * j ∨ k = 2 * j + 1 := ⟨k / 2, by omega⟩
  · exact pairsLeB_le hb h.1 (by omega)
  · have := pairsLeB_le hb h.2 (j := j) (by omega)
    rwa [field_shift _ _ _ _ _ (by omega), field_shift _ _ _ _ _ (by omega)] at this

end Fir.Proofs
