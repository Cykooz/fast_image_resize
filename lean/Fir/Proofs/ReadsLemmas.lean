/-
  Fir.Proofs.ReadsLemmas - every source sample the passes of `do_convolution` read exists (C03 at the
  level of whole images): for windows that lie inside their axis (`window_in_source` proves that for every
  kernel) the first pass reads inside the source, the temporary image is exactly large enough, and the
  second pass - with bounds shifted by `first` - reads inside the temporary image.  Both pass orders.
-/
import Fir.Proofs.BoundsLemmas
import Fir.Model.Resizer
namespace Fir.Proofs
open Fir.Bounds

/-- two-pass resize: `bounds` are the windows of the pass that runs second (they decide which strip of
    the source the first pass must produce), `inSize` the source extent along that axis.  With
    `e = tempExtent bounds`:
      (1) the strip `[e.1, e.2)` read by the first pass lies inside the source;
      (2) every shifted window of the second pass lies inside the strip of width `e.2 - e.1`;
      (3) shifting never underflows. -/
theorem two_pass_reads_in_bounds (bounds : List (Nat × Nat)) (inSize : Nat) (hin : ∀ b ∈ bounds, b.1 + b.2 ≤ inSize) :
    (∀ x, x < (tempExtent bounds).2 - (tempExtent bounds).1 → (tempExtent bounds).1 + x < inSize) ∧
    (∀ b ∈ bounds, (tempExtent bounds).1 ≤ b.1 ∧
      ∀ j, j < b.2 → (b.1 - (tempExtent bounds).1) + j < (tempExtent bounds).2 - (tempExtent bounds).1) := by
  have hlast : (tempExtent bounds).2 ≤ inSize := (foldl_max_le_iff bounds 0 inSize).mpr ⟨Nat.zero_le _, hin⟩
  refine ⟨fun x hx => by omega, fun b hb => ?_⟩
  have h := temp_image_fits bounds b hb
  exact ⟨h.1, fun j hj => by have := h.2; omega⟩

theorem one_pass_reads_in_bounds (bounds : List (Nat × Nat)) (inSize : Nat) (hin : ∀ b ∈ bounds, b.1 + b.2 ≤ inSize)
    (b : Nat × Nat) (hb : b ∈ bounds) (j : Nat) (hj : j < b.2) : b.1 + j < inSize := by
  have := hin b hb; omega

theorem boundsFirst_eq (c : Fir.Coeffs) : Fir.boundsFirst c = (tempExtent c.bounds.toList).1 := by
  unfold Fir.boundsFirst tempExtent
  rw [← Array.foldl_toList, List.headD_eq_head?_getD, List.head?_eq_getElem?, Array.getElem?_toList,
    Array.getD_eq_getD_getElem?]

theorem boundsLast_eq (c : Fir.Coeffs) : Fir.boundsLast c = (tempExtent c.bounds.toList).2 := by
  unfold Fir.boundsLast tempExtent
  rw [← Array.foldl_toList]

/-- the temporary image `doConvolution` builds and the shifted bounds it hands to the second pass: every
    read of both passes is inside the image it reads from, whenever the windows of the deferred pass lie
    inside their axis -/
theorem doConvolution_temp_reads_in_bounds (c : Fir.Coeffs) (inSize : Nat) (hin : ∀ b ∈ c.bounds.toList, b.1 + b.2 ≤ inSize) :
    (∀ x, x < Fir.boundsLast c - Fir.boundsFirst c → Fir.boundsFirst c + x < inSize) ∧
    (∀ b ∈ c.bounds.toList, Fir.boundsFirst c ≤ b.1 ∧
      ∀ j, j < b.2 → (b.1 - Fir.boundsFirst c) + j < Fir.boundsLast c - Fir.boundsFirst c) := by
  rw [boundsFirst_eq, boundsLast_eq]
  exact two_pass_reads_in_bounds c.bounds.toList inSize hin

end Fir.Proofs
