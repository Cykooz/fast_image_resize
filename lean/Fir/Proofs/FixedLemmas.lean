/-
  Fir.Proofs.FixedLemmas - integer facts behind C01 / C02 / C10 / C18: the exact dot product
  (`dotL`), the translated clip functions (`clip8`, `clip16`) and the one equation everything about an
  integer pass rests on (`passInt_eq_clamp`): while the accumulator does not wrap, `passInt k` is
  `(2^(p-1) + Σkᵢxᵢ) / 2^p` clamped to `[0, k.maxVal]`.  Core Lean + omega; Mathlib for `|·|` and for the two
  facts about weighted sums that the rational side (ErrLemmas, IdealFilterLemmas) shares, stated over a ring.
-/
import Fir.Model.Resample
import Fir.Proofs.WrapLemmas
import Mathlib.Algebra.Order.Ring.Abs
import Mathlib.Algebra.Order.BigOperators.Group.List
namespace Fir.Proofs

theorem pow2_pos (p : Nat) : (0 : Int) < 2 ^ p := Int.pow_pos (by decide)

theorem pow2_pred (p : Nat) (hp1 : 1 ≤ p) : (2 : Int) ^ p = 2 * 2 ^ (p - 1) := by
  obtain ⟨q, rfl⟩ : ∃ q, p = q + 1 := ⟨p - 1, by omega⟩
  rw [Int.pow_succ, Nat.add_sub_cancel, Int.mul_comm]

theorem pow2_half (p : Nat) (hp2 : 2 ≤ p) : (2 : Int) ^ (p - 2) + 2 ^ (p - 2) = 2 ^ (p - 1) := by
  rw [pow2_pred (p - 1) (by omega), Nat.sub_sub, Int.two_mul]

theorem pow2_le (p q : Nat) (h : p ≤ q) : (2 : Int) ^ p ≤ 2 ^ q := pow_le_pow_right₀ (by decide) h

theorem dotL_nil_left (xs : List Int) : dotL [] xs = 0 := by simp [dotL]

theorem dotL_nil_right (ks : List Int) : dotL ks [] = 0 := by simp [dotL]

theorem dotL_cons (k : Int) (ks : List Int) (x : Int) (xs : List Int) :
    dotL (k :: ks) (x :: xs) = k * x + dotL ks xs := by simp [dotL]

/-- a constant row `v` through any weighted sum (the samples may pass through a cast `φ`): `Σkᵢ·φ v` -/
theorem sum_zipWith_replicate {R β : Type} [Semiring R] (φ : β → R) (ks : List R) (v : β) :
    (List.zipWith (fun k x => k * φ x) ks (List.replicate ks.length v)).sum = ks.sum * φ v := by
  induction ks with
  | nil => simp
  | cons k ks ih =>
    simp only [List.length_cons, List.replicate_succ, List.zipWith_cons_cons, List.sum_cons, ih, add_mul]

theorem dotL_replicate (ks : List Int) (v : Int) :
    dotL ks (List.replicate ks.length v) = v * ks.sum :=
  (sum_zipWith_replicate id ks v).trans (Int.mul_comm ..)

theorem dotL_append (ks1 ks2 xs1 xs2 : List Int) (h : ks1.length = xs1.length) :
    dotL (ks1 ++ ks2) (xs1 ++ xs2) = dotL ks1 xs1 + dotL ks2 xs2 := by
  unfold dotL
  rw [List.zipWith_append h, List.sum_append]

theorem dotChunked_eq_dot (chunks : List (List Int × List Int))
    (h : ∀ c ∈ chunks, c.1.length = c.2.length) :
    (chunks.map fun c => dotL c.1 c.2).sum =
      dotL (chunks.map (·.1)).flatten (chunks.map (·.2)).flatten := by
  induction chunks with
  | nil => simp [dotL]
  | cons c cs ih =>
    have hc : c.1.length = c.2.length := h c (List.mem_cons_self ..)
    have hcs : ∀ c' ∈ cs, c'.1.length = c'.2.length := fun c' hc' => h c' (List.mem_cons_of_mem _ hc')
    simp only [List.map_cons, List.sum_cons, List.flatten_cons]
    rw [dotL_append _ _ _ _ hc, ih hcs]

theorem dotL_monotone (ks xs ys : List Int) (hk : ∀ k ∈ ks, 0 ≤ k) (hlen : xs.length = ys.length)
    (h : ∀ i, i < xs.length → xs.getD i 0 ≤ ys.getD i 0) : dotL ks xs ≤ dotL ks ys := by
  induction ks generalizing xs ys with
  | nil => simp [dotL]
  | cons k ks ih =>
    match xs, ys, hlen with
    | [], [], _ => exact Int.le_refl _
    | x :: xs, y :: ys, hlen =>
      rw [dotL_cons, dotL_cons]
      have h1 : k * x ≤ k * y :=
        Int.mul_le_mul_of_nonneg_left (h 0 (Nat.succ_pos _)) (hk k (List.mem_cons_self ..))
      have h2 := ih xs ys (fun k' hk' => hk k' (List.mem_cons_of_mem _ hk')) (Nat.succ.inj hlen)
        (fun i hi => h (i + 1) (Nat.succ_lt_succ hi))
      omega

theorem getD_mem {α : Type} {l : List α} {i : Nat} (h : i < l.length) (d : α) : l.getD i d ∈ l := by
  rw [List.getD_eq_getElem?_getD, List.getElem?_eq_getElem h]
  exact List.getElem_mem h

/-- over any ordered ring: `dotL` is the case `ℤ`, a convex combination the case `ℚ` -/
theorem dot_between {R : Type} [CommRing R] [PartialOrder R] [IsOrderedRing R] (ks xs : List R) (lo hi : R)
    (hk : ∀ k ∈ ks, 0 ≤ k) (hlen : xs.length = ks.length) (hx : ∀ x ∈ xs, lo ≤ x ∧ x ≤ hi) :
    lo * ks.sum ≤ (List.zipWith (· * ·) ks xs).sum ∧ (List.zipWith (· * ·) ks xs).sum ≤ hi * ks.sum := by
  induction ks generalizing xs with
  | nil => simp
  | cons k ks ih =>
    cases xs with
    | nil => simp at hlen
    | cons x xs =>
      have hk0 := hk k (List.mem_cons_self ..)
      obtain ⟨hx1, hx2⟩ := hx x (List.mem_cons_self ..)
      obtain ⟨ih1, ih2⟩ := ih xs (fun k' hk' => hk k' (List.mem_cons_of_mem _ hk')) (Nat.succ.inj hlen)
        (fun x' hx' => hx x' (List.mem_cons_of_mem _ hx'))
      rw [List.zipWith_cons_cons, List.sum_cons, List.sum_cons, mul_add, mul_add, mul_comm lo, mul_comm hi]
      exact ⟨add_le_add (mul_le_mul_of_nonneg_left hx1 hk0) ih1, add_le_add (mul_le_mul_of_nonneg_left hx2 hk0) ih2⟩

/-- the table lookup after the clamped index: a clamp to `[0, 255]`, for every shifted value (`-640`, `639`: the range of
    the 1280-entry table `CLIP8_LOOKUPS` around its zero; `% 2^64`: the `as usize` cast of the index) -/
theorem clip8_core (q : Int) :
    (Gen.clip8_table (Int.toNat ((Gen.wrapInt 32 (max (-640) (min 639 q) + 640)) % 18446744073709551616)) : Int)
      = max 0 (min 255 q) := by
  rw [wrapInt32_id _ (by omega) (by omega), Int.emod_eq_of_lt (by omega) (by omega)]
  obtain ⟨n, hn⟩ := Int.eq_ofNat_of_zero_le (a := max (-640) (min 639 q) + 640) (by omega)
  rw [hn, Int.toNat_natCast]
  unfold Gen.clip8_table
  split
  · omega
  · split <;> omega

theorem clip8_eq_clamp (v : Int) (p : Nat) (hv : -(2 ^ 31 : Int) ≤ v ∧ v < 2 ^ 31) :
    clip8 v p = max 0 (min 255 (v / 2 ^ p)) := by
  unfold clip8 Gen.clip16_index
  rw [wrapInt32_id v hv.1 hv.2]
  exact clip8_core _

theorem clip8_eq_packs (v : Int) (p : Nat) (_hp : p < 32) (hv : -(2 ^ 31 : Int) ≤ v ∧ v < 2 ^ 31) :
    clip8 v p = max 0 (min 255 (max (-32768) (min 32767 (v / 2 ^ p)))) := by
  rw [clip8_eq_clamp v p hv]
  omega

/-- `Normalizer32::clip` shifts by any amount -/
theorem clip16_clamp (v : Int) (p : Nat) (hv : -(2 ^ 63 : Int) ≤ v ∧ v < 2 ^ 63) :
    clip16 v p = max 0 (min 65535 (v / 2 ^ p)) := by
  unfold clip16 Gen.clip32
  rw [wrapInt64_id v hv.1 hv.2]
  omega

theorem clip16_eq_clamp (v : Int) (p : Nat) (_hp : p < 64) (hv : -(2 ^ 63 : Int) ≤ v ∧ v < 2 ^ 63) :
    clip16 v p = max 0 (min 65535 (v / 2 ^ p)) :=
  clip16_clamp v p hv

/-- width of the accumulator of an integer pass: `i32` for 8-bit components, `i64` for 16-bit ones (the wildcard
    follows `passInt`, which sends every kind but `.u8` to the 16-bit arithmetic; the lemmas take `k = .u8 ∨ k = .u16`) -/
def accBits : CKind → Nat
  | .u8 => 32
  | _ => 64

/-- largest precision the normalisers choose (`PRECISION_BITS`, `PRECISION16_BITS`): component bits, precision
    and two bits of head-room fill the accumulator -/
def precBits : CKind → Nat
  | .u8 => Gen.PRECISION_BITS
  | _ => Gen.PRECISION16_BITS

/-- the accumulator `2^(p-1) + Σkᵢxᵢ` of one window does not wrap -/
def AccOK (k : CKind) (ks xs : List Int) (p : Nat) : Prop :=
  -(2 ^ (accBits k - 1) : Int) ≤ 2 ^ (p - 1) + dotL ks xs ∧ 2 ^ (p - 1) + dotL ks xs < 2 ^ (accBits k - 1)

theorem passInt_eq_clamp {k : CKind} (hk : k = .u8 ∨ k = .u16) {ks xs : List Int} {p : Nat}
    (h : AccOK k ks xs p) :
    passInt k ks xs p = max 0 (min k.maxVal ((2 ^ (p - 1) + dotL ks xs) / 2 ^ p)) := by
  rcases hk with rfl | rfl
  · exact clip8_eq_clamp _ p h
  · exact clip16_clamp _ p h

theorem passInt_range {k : CKind} (hk : k = .u8 ∨ k = .u16) {ks xs : List Int} {p : Nat} (h : AccOK k ks xs p) :
    0 ≤ passInt k ks xs p ∧ passInt k ks xs p ≤ k.maxVal := by
  rw [passInt_eq_clamp hk h]
  rcases hk with rfl | rfl <;> simp only [CKind.maxVal] <;> omega

theorem round_nearest (a : Int) (p : Nat) (hp1 : 1 ≤ p) :
    2 ^ p * ((2 ^ (p - 1) + a) / 2 ^ p) - a ≤ 2 ^ (p - 1) ∧
    a - 2 ^ p * ((2 ^ (p - 1) + a) / 2 ^ p) < 2 ^ (p - 1) := by
  have hP : (0 : Int) < 2 ^ p := pow2_pos p
  have hH := pow2_pred p hp1
  have h1 := Int.mul_ediv_add_emod (2 ^ (p - 1) + a) (2 ^ p)
  have h2 := Int.emod_nonneg (2 ^ (p - 1) + a) (Int.ne_of_gt hP)
  have h3 := Int.emod_lt_of_pos (2 ^ (p - 1) + a) hP
  omega

theorem pass_round_nearest_u8 (ks xs : List Int) (p : Nat) (hp1 : 1 ≤ p) (_hp : p < 32)
    (h : -(2 ^ 31 : Int) ≤ 2 ^ (p - 1) + dotL ks xs ∧ 2 ^ (p - 1) + dotL ks xs < 2 ^ 31) :
    let y := (2 ^ (p - 1) + dotL ks xs) / 2 ^ p
    passInt .u8 ks xs p = max 0 (min 255 y) ∧
    2 ^ p * y - dotL ks xs ≤ 2 ^ (p - 1) ∧ dotL ks xs - 2 ^ p * y < 2 ^ (p - 1) :=
  ⟨passInt_eq_clamp (.inl rfl) h, round_nearest (dotL ks xs) p hp1⟩

/-- the `QuantOK` inequalities place `2^(p-1) + v·S` in the `v`-th cell of width `2^p` -/
theorem cell_of_quant (S : Int) (p : Nat) (v : Int) (hp1 : 1 ≤ p)
    (h : -(2 ^ (p - 1) : Int) ≤ v * (S - 2 ^ p) ∧ v * (S - 2 ^ p) < 2 ^ (p - 1)) :
    v * 2 ^ p ≤ 2 ^ (p - 1) + v * S ∧ 2 ^ (p - 1) + v * S < (v + 1) * 2 ^ p := by
  have hP := pow2_pred p hp1
  rw [Int.mul_sub] at h
  rw [Int.add_mul, Int.one_mul]
  omega

theorem passInt_of_cells {k : CKind} (hk : k = .u8 ∨ k = .u16) {ks xs : List Int} {p : Nat} {lo hi : Int}
    (hp : p ≤ precBits k) (hlo : 0 ≤ lo) (hhi : hi ≤ k.maxVal)
    (h1 : lo * 2 ^ p ≤ 2 ^ (p - 1) + dotL ks xs) (h2 : 2 ^ (p - 1) + dotL ks xs < (hi + 1) * 2 ^ p) :
    lo ≤ passInt k ks xs p ∧ passInt k ks xs p ≤ hi := by
  have hP : (0 : Int) < 2 ^ p := pow2_pos p
  have h3 : 0 ≤ lo * 2 ^ p := Int.mul_nonneg hlo (Int.le_of_lt hP)
  have h4 : (hi + 1) * 2 ^ p ≤ (k.maxVal + 1) * 2 ^ p := Int.mul_le_mul_of_nonneg_right (by omega) (Int.le_of_lt hP)
  have h5 := (Int.le_ediv_iff_mul_le hP).mpr h1
  have h6 := (Int.ediv_lt_iff_lt_mul hP).mpr h2
  have hP2 : (2 : Int) ^ p ≤ 2 ^ precBits k := pow2_le p _ hp
  have hacc : AccOK k ks xs p := by
    -- `(maxVal + 1) * 2^p ≤ 2^8 * 2^22` resp. `2^16 * 2^46`: two bits below the accumulator's range
    rcases hk with rfl | rfl
    all_goals
      simp only [CKind.maxVal, precBits, Gen.PRECISION_BITS, Gen.PRECISION16_BITS] at h4 hP2
      constructor <;> simp only [accBits] <;> omega
  rw [passInt_eq_clamp hk hacc]
  omega

theorem passInt_between {k : CKind} (hk : k = .u8 ∨ k = .u16) {ks xs : List Int} {p : Nat} {lo hi : Int}
    (hp1 : 1 ≤ p) (hp : p ≤ precBits k) (hk0 : ∀ c ∈ ks, 0 ≤ c) (hlen : xs.length = ks.length)
    (hlo : 0 ≤ lo) (hhi : hi ≤ k.maxVal) (hx : ∀ x ∈ xs, lo ≤ x ∧ x ≤ hi)
    (hqlo : -(2 ^ (p - 1) : Int) ≤ lo * (ks.sum - 2 ^ p) ∧ lo * (ks.sum - 2 ^ p) < 2 ^ (p - 1))
    (hqhi : -(2 ^ (p - 1) : Int) ≤ hi * (ks.sum - 2 ^ p) ∧ hi * (ks.sum - 2 ^ p) < 2 ^ (p - 1)) :
    lo ≤ passInt k ks xs p ∧ passInt k ks xs p ≤ hi := by
  have hd : lo * ks.sum ≤ dotL ks xs ∧ dotL ks xs ≤ hi * ks.sum := dot_between ks xs lo hi hk0 hlen hx
  have hcl := (cell_of_quant ks.sum p lo hp1 hqlo).1
  have hch := (cell_of_quant ks.sum p hi hp1 hqhi).2
  exact passInt_of_cells hk hp hlo hhi (by omega) (by omega)

theorem passInt_uniform {k : CKind} (hk : k = .u8 ∨ k = .u16) {ks xs : List Int} {p : Nat} {v : Int}
    (hp1 : 1 ≤ p) (hp : p ≤ precBits k) (hv0 : 0 ≤ v) (hv : v ≤ k.maxVal) (hlen : xs.length = ks.length)
    (hx : ∀ x ∈ xs, x = v)
    (hq : -(2 ^ (p - 1) : Int) ≤ v * (ks.sum - 2 ^ p) ∧ v * (ks.sum - 2 ^ p) < 2 ^ (p - 1)) :
    passInt k ks xs p = v := by
  have hd : dotL ks xs = v * ks.sum := by
    rw [List.eq_replicate_iff.mpr ⟨hlen, hx⟩, dotL_replicate]
  have hc := cell_of_quant ks.sum p v hp1 hq
  rw [← hd] at hc
  have := passInt_of_cells hk hp hv0 hv hc.1 hc.2
  omega

theorem uniform_exact_u8 (ks : List Int) (p : Nat) (v : Int) (hp1 : 1 ≤ p) (hp : p ≤ 22)
    (hv0 : 0 ≤ v) (hv : v ≤ 255)
    (h1 : -(2 ^ (p - 1) : Int) ≤ v * (ks.sum - 2 ^ p)) (h2 : v * (ks.sum - 2 ^ p) < 2 ^ (p - 1)) :
    passInt .u8 ks (List.replicate ks.length v) p = v :=
  passInt_uniform (.inl rfl) hp1 hp hv0 hv (List.length_replicate ..) (fun _ => List.eq_of_mem_replicate) ⟨h1, h2⟩

theorem range_from_uniform_u8 (ks xs : List Int) (p : Nat) (lo hi : Int) (hp1 : 1 ≤ p) (hp : p ≤ 22)
    (hk : ∀ k ∈ ks, 0 ≤ k) (hlen : xs.length = ks.length)
    (hlo0 : 0 ≤ lo) (hhi : hi ≤ 255) (hx : ∀ x ∈ xs, lo ≤ x ∧ x ≤ hi)
    (hl1 : -(2 ^ (p - 1) : Int) ≤ lo * (ks.sum - 2 ^ p)) (hl2 : lo * (ks.sum - 2 ^ p) < 2 ^ (p - 1))
    (hh1 : -(2 ^ (p - 1) : Int) ≤ hi * (ks.sum - 2 ^ p)) (hh2 : hi * (ks.sum - 2 ^ p) < 2 ^ (p - 1)) :
    lo ≤ passInt .u8 ks xs p ∧ passInt .u8 ks xs p ≤ hi :=
  passInt_between (.inl rfl) hp1 hp hk hlen hlo0 hhi hx ⟨hl1, hl2⟩ ⟨hh1, hh2⟩

theorem quantOK_of_sum_close (ks : List Int) (p : Nat) (m v : Int) (hv0 : 0 ≤ v) (hv : v ≤ m)
    (hs : m * |ks.sum - 2 ^ p| < 2 ^ (p - 1)) :
    -(2 ^ (p - 1) : Int) ≤ v * (ks.sum - 2 ^ p) ∧ v * (ks.sum - 2 ^ p) < 2 ^ (p - 1) := by
  generalize ks.sum - 2 ^ p = d at *
  have hd : 0 ≤ |d| := abs_nonneg d
  have h1 : v * |d| ≤ m * |d| := Int.mul_le_mul_of_nonneg_right hv hd
  have h2 : v * d ≤ v * |d| := Int.mul_le_mul_of_nonneg_left (le_abs_self d) hv0
  have h3 : v * (-|d|) ≤ v * d := Int.mul_le_mul_of_nonneg_left (neg_abs_le d) hv0
  rw [Int.mul_neg] at h3
  omega

theorem passInt_mono {k : CKind} (hk : k = .u8 ∨ k = .u16) {ks xs ys : List Int} {p : Nat}
    (hk0 : ∀ c ∈ ks, 0 ≤ c) (h : xs.length = ys.length ∧ ∀ i, i < xs.length → xs.getD i 0 ≤ ys.getD i 0)
    (hx : AccOK k ks xs p) (hy : AccOK k ks ys p) : passInt k ks xs p ≤ passInt k ks ys p := by
  rw [passInt_eq_clamp hk hx, passInt_eq_clamp hk hy]
  have hq := Int.ediv_le_ediv (pow2_pos p)
    (Int.add_le_add_left (dotL_monotone ks xs ys hk0 h.1 h.2) (2 ^ (p - 1)))
  omega

theorem pass_monotone_u8 (ks xs ys : List Int) (p : Nat) (_hp : p < 32) (hk : ∀ k ∈ ks, 0 ≤ k)
    (hlen : xs.length = ys.length) (h : ∀ i, i < xs.length → xs.getD i 0 ≤ ys.getD i 0)
    (hx : -(2 ^ 31 : Int) ≤ 2 ^ (p - 1) + dotL ks xs ∧ 2 ^ (p - 1) + dotL ks xs < 2 ^ 31)
    (hy : -(2 ^ 31 : Int) ≤ 2 ^ (p - 1) + dotL ks ys ∧ 2 ^ (p - 1) + dotL ks ys < 2 ^ 31) :
    passInt .u8 ks xs p ≤ passInt .u8 ks ys p :=
  passInt_mono (.inl rfl) hk ⟨hlen, h⟩ hx hy

theorem dotL_abs_le (ks xs : List Int) (M : Int) (hM : 0 ≤ M) (hx : ∀ x ∈ xs, 0 ≤ x ∧ x ≤ M) :
    |dotL ks xs| ≤ (ks.map (|·|)).sum * M := by
  induction ks generalizing xs with
  | nil => simp [dotL]
  | cons k ks ih =>
    cases xs with
    | nil =>
      rw [dotL_nil_right, abs_zero]
      exact Int.mul_nonneg (List.sum_nonneg (List.forall_mem_map.mpr fun k _ => abs_nonneg k)) hM
    | cons x xs =>
      have ih' := ih xs (fun x' hx' => hx x' (List.mem_cons_of_mem _ hx'))
      obtain ⟨hx0, hxM⟩ := hx x (List.mem_cons_self ..)
      rw [dotL_cons, List.map_cons, List.sum_cons, Int.add_mul]
      refine (abs_add_le _ _).trans ?_
      have h1 : |k * x| ≤ |k| * M := by
        rw [abs_mul, abs_of_nonneg hx0]
        exact Int.mul_le_mul_of_nonneg_left hxM (abs_nonneg k)
      omega

/-- the accumulator of a window cannot wrap when `maxVal·Σ|kᵢ| + 2^(p−1)` fits it (8 bit, largest
    precision 21: `Σ|kᵢ|/2^21 < 4.0137`, which covers the documented `Σ|w| ≤ 4`) -/
theorem accOK_of_abs_sum {k : CKind} (hk : k = .u8 ∨ k = .u16) {ks xs : List Int} {p : Nat}
    (hx : ∀ x ∈ xs, 0 ≤ x ∧ x ≤ k.maxVal)
    (h : k.maxVal * (ks.map (|·|)).sum + 2 ^ (p - 1) < 2 ^ (accBits k - 1)) : AccOK k ks xs p := by
  have hM : 0 ≤ k.maxVal := by rcases hk with rfl | rfl <;> decide
  have hd := abs_le.mp (dotL_abs_le ks xs k.maxVal hM hx)
  have hP : (0 : Int) < 2 ^ (p - 1) := pow2_pos _
  rw [Int.mul_comm] at h
  constructor <;> omega

/-- the two documented head-room bits: below the largest precision, coefficients with `Σ|kᵢ| ≤ 4·2^p`
    (normalised weights with `Σ|w| ≤ 4`) meet the premise of `accOK_of_abs_sum` -/
theorem headroom {k : CKind} (hk : k = .u8 ∨ k = .u16) {p : Nat} (hp : p < precBits k) {S : Int}
    (hS : S ≤ 4 * 2 ^ p) : k.maxVal * S + 2 ^ (p - 1) < 2 ^ (accBits k - 1) := by
  have h1 : (2 : Int) ^ p ≤ 2 ^ (precBits k - 1) := pow2_le p _ (by omega)
  have h2 : (2 : Int) ^ (p - 1) ≤ 2 ^ p := pow2_le (p - 1) p (by omega)
  rcases hk with rfl | rfl <;>
    simp only [CKind.maxVal, accBits, precBits, Gen.PRECISION_BITS, Gen.PRECISION16_BITS] at h1 ⊢ <;> omega

/-- `_mm_madd_epi16` on zero-extended bytes and `i16` coefficients: the pair sum fits the 32-bit lane -/
theorem madd_epi16_exact (a a' k k' : Int) (ha : 0 ≤ a ∧ a ≤ 255) (ha' : 0 ≤ a' ∧ a' ≤ 255)
    (hk : -32768 ≤ k ∧ k ≤ 32767) (hk' : -32768 ≤ k' ∧ k' ≤ 32767) :
    -(2 ^ 31 : Int) < a * k + a' * k' ∧ a * k + a' * k' < 2 ^ 31 := by
  have h1 : a * (-32768) ≤ a * k := Int.mul_le_mul_of_nonneg_left hk.1 ha.1
  have h2 : a * k ≤ a * 32767 := Int.mul_le_mul_of_nonneg_left hk.2 ha.1
  have h3 : a' * (-32768) ≤ a' * k' := Int.mul_le_mul_of_nonneg_left hk'.1 ha'.1
  have h4 : a' * k' ≤ a' * 32767 := Int.mul_le_mul_of_nonneg_left hk'.2 ha'.1
  omega

end Fir.Proofs
