import Lean.Meta.Tactic.Simp.RegisterCommand
/-- registers written as explicit lists and the arithmetic of one lane (`Fir.Proofs.SimdLanes` says what is in it and
    how it is used); the command also declares the simproc set `lanes_proc` -/
register_simp_attr lanes
