/-
  Fir.Proofs.SimdU8x3Lemmas - the SSE4.1 U8x3 one-row kernel (src/convolution/u8x3/sse4.rs, `Fir.Model.SimdU8x3`): whatever
  number of 16-byte, 8-byte and single-pixel steps the row width lets it take, it accumulates the dot product of the portable
  kernel; and none of its loads leaves the row.  The four-row kernel puts the same bytes into its registers
  (`step4R_eq_step4`), so it computes the same.
-/
import Fir.Model.SimdU8x3
import Fir.Proofs.SimdLanes

namespace Fir.Proofs
open Fir.SimdU8x4 Fir.SimdU8x3 Fir.Gen Fir.Proofs.Lanes

namespace U8x3

/-- lane `c < 3` is channel `c`; lane 3 is carried along and never read -/
abbrev enc (e : Int) (t : Nat → Int) : List Int := regs 32 3 t ++ [wrap32 e]

def spec (row : List Int) : Spec := .sums (fun δ => δ) (dotC3 row) (fun _ _ => rfl) (fun _ _ => rfl) (fun _ _ _ _ => rfl)

variable {e : Int}

theorem step4_ok (row : List Int) (x : Nat) (k0 k1 k2 k3 : Int) :
    Step (enc e) (spec row) (fun s => step4 s row x k0 k1 k2 k3) [k0, k1, k2, k3] x := by
  refine ⟨_, rfl, fun t => ?_⟩
  simp only [lanes, lanes_proc, enc, step4, low64, load, add32, madd, pshufb, i16At, kBytes, u8x3_sse4_pix_sh1, u8x3_sse4_coef_sh1,
    u8x3_sse4_pix_sh2, u8x3_sse4_coef_sh2, dotC3]
  ac_rfl

theorem step2_ok (row : List Int) (x : Nat) (k0 k1 : Int) : Step (enc e) (spec row) (fun s => step2 s row x k0 k1) [k0, k1] x := by
  refine ⟨_, rfl, fun t => ?_⟩
  simp only [lanes, lanes_proc, enc, step2, clone4, load, add32, madd, pshufb, i16At, kBytes, u8x3_sse4_pix_sh1, dotC3]

theorem step1_ok (row : List Int) (x : Nat) (k : Int) : Step (enc e) (spec row) (fun s => step1 s row x k) [k] x := by
  refine ⟨_, rfl, fun t => ?_⟩
  simp only [lanes, lanes_proc, enc, step1, clone4, load, add32, madd, i16At, dotC3]

/-- a loop that leaves early consumes a prefix of the coefficients, whichever the row width lets it -/
theorem loop4_ok (maxX : Nat) (row : List Int) : ∀ (ks : List Int) (x : Nat), ∃ n ≤ ks.length, ∃ f,
    Step (enc e) (spec row) f (ks.take n) x ∧ ∀ s, loop4 maxX row ks x s = (ks.drop n, x + n, f s)
  | k0 :: k1 :: k2 :: k3 :: rest, x => by
    by_cases hx : x < maxX
    · obtain ⟨n, hn, f, hf, hrun⟩ := loop4_ok maxX row rest (x + 4)
      exact ⟨n + 4, Nat.add_le_add_right hn 4, _, (step4_ok row x k0 k1 k2 k3).comp hf,
        fun s => by rw [loop4, if_pos hx, hrun, Nat.add_assoc, Nat.add_comm 4]; rfl⟩
    · exact ⟨0, Nat.zero_le _, _, Step.id x, fun s => by rw [loop4, if_neg hx]; rfl⟩
  | [], x | [_], x | [_, _], x | [_, _, _], x => ⟨0, Nat.zero_le _, _, Step.id x, fun _ => rfl⟩

theorem loop2_ok (maxX : Nat) (row : List Int) : ∀ (ks : List Int) (x : Nat), ∃ n ≤ ks.length, ∃ f,
    Step (enc e) (spec row) f (ks.take n) x ∧ ∀ s, loop2 maxX row ks x s = (ks.drop n, x + n, f s)
  | k0 :: k1 :: rest, x => by
    by_cases hx : x < maxX
    · obtain ⟨n, hn, f, hf, hrun⟩ := loop2_ok maxX row rest (x + 2)
      exact ⟨n + 2, Nat.add_le_add_right hn 2, _, (step2_ok row x k0 k1).comp hf,
        fun s => by rw [loop2, if_pos hx, hrun, Nat.add_assoc, Nat.add_comm 2]; rfl⟩
    · exact ⟨0, Nat.zero_le _, _, Step.id x, fun s => by rw [loop2, if_neg hx]; rfl⟩
  | [], x | [_], x => ⟨0, Nat.zero_le _, _, Step.id x, fun _ => rfl⟩

theorem loop1_ok (row : List Int) : ∀ (ks : List Int) (x : Nat), Step (enc e) (spec row) (fun s => loop1 row ks x s) ks x
  | k :: rest, x => by simpa only [loop1, List.cons_append, List.nil_append] using (step1_ok row x k).comp (loop1_ok row rest (x + 1))
  | [], x => by simpa only [loop1] using Step.id x

theorem finish {row : List Int} {f : List Int → List Int} {ks : List Int} {x p : Nat} (hf : Step (enc (2 ^ (p - 1))) (spec row) f ks x)
    (hp : p < 32) :
    ((f [wrap32 (2 ^ (p - 1)), wrap32 (2 ^ (p - 1)), wrap32 (2 ^ (p - 1)), wrap32 (2 ^ (p - 1))]).map
        fun v => packus8 (packs16 (v / 2 ^ p))).take 3
      = [clip8 (2 ^ (p - 1) + dotC3 row 0 ks x) p, clip8 (2 ^ (p - 1) + dotC3 row 1 ks x) p,
         clip8 (2 ^ (p - 1) + dotC3 row 2 ks x) p] := by
  obtain ⟨δ, rfl, hf⟩ := hf
  exact (congrArg (List.take 3) (congrArg _ (hf fun _ => 2 ^ (p - 1)))).trans
    (by simp only [lanes, lanes_proc, enc, lane_finish _ p hp])

end U8x3
open U8x3 in
/-- the SSE4.1 U8x3 one-row kernel equals the portable kernel for every row width (every combination of
    16-byte, 8-byte and single-pixel steps the loop guards allow), every coefficient list and every content -/
theorem u8x3_sse4_pixel_eq_portable (p w : Nat) (hp : p < 32) (row : List Int) (start : Nat) (ks : List Int) :
    Fir.SimdU8x3.pixel p w row start ks
      = [clip8 (2 ^ (p - 1) + dotC3 row 0 ks start) p, clip8 (2 ^ (p - 1) + dotC3 row 1 ks start) p,
         clip8 (2 ^ (p - 1) + dotC3 row 2 ks start) p] := by
  obtain ⟨n4, h4, f4, hf4, hr4⟩ := loop4_ok (e := 2 ^ (p - 1)) (w - 5) row ks start
  obtain ⟨n2, h2, f2, hf2, hr2⟩ := loop2_ok (e := 2 ^ (p - 1)) (w - 2) row (ks.drop n4) (start + n4)
  have hf := hf4.comp_take h4 (hf2.comp_take h2 (loop1_ok row ((ks.drop n4).drop n2) (start + n4 + n2)))
  rw [List.take_append_drop, List.take_append_drop] at hf
  unfold Fir.SimdU8x3.pixel
  simp only [hr4, hr2]
  exact finish hf hp

theorem loads4_spec (maxX : Nat) : ∀ (ks : List Int) (x : Nat),
    (∀ e ∈ (loads4 maxX ks x).1, e.2 = 16 ∧ e.1 < maxX) ∧
    (loads4 maxX ks x).2.2 + (loads4 maxX ks x).2.1.length = x + ks.length
  | k0 :: k1 :: k2 :: k3 :: rest, x => by
    obtain ⟨h1, h2⟩ := loads4_spec maxX rest (x + 4)
    rw [loads4]
    split
    · exact ⟨List.forall_mem_cons.mpr ⟨⟨rfl, ‹_›⟩, h1⟩, by simp only [List.length_cons]; omega⟩
    · exact ⟨nofun, rfl⟩
  | [], _ | [_], _ | [_, _], _ | [_, _, _], _ => ⟨nofun, rfl⟩

theorem loads2_spec (maxX : Nat) : ∀ (ks : List Int) (x : Nat),
    (∀ e ∈ (loads2 maxX ks x).1, e.2 = 8 ∧ e.1 < maxX) ∧
    (loads2 maxX ks x).2.2 + (loads2 maxX ks x).2.1.length = x + ks.length
  | k0 :: k1 :: rest, x => by
    obtain ⟨h1, h2⟩ := loads2_spec maxX rest (x + 2)
    rw [loads2]
    split
    · exact ⟨List.forall_mem_cons.mpr ⟨⟨rfl, ‹_›⟩, h1⟩, by simp only [List.length_cons]; omega⟩
    · exact ⟨nofun, rfl⟩
  | [], _ | [_], _ => ⟨nofun, rfl⟩

/-- every load of the kernel - 16 bytes, 8 bytes or one pixel - lies inside the row of `w` pixels (`3w` bytes)
    as soon as the coefficient window does (`start + #coefficients ≤ w`, C03's `window_in_source`): the
    "SAFETY" comments of the kernel as a theorem -/
theorem u8x3_sse4_loads_in_row (w start : Nat) (ks : List Int) (hwin : start + ks.length ≤ w) :
    ∀ e ∈ loads w start ks, 3 * e.1 + e.2 ≤ 3 * w := by
  unfold loads
  simp only
  obtain ⟨h41, h42⟩ := loads4_spec (w - 5) ks start
  generalize loads4 (w - 5) ks start = r4 at h41 h42
  obtain ⟨h21, h22⟩ := loads2_spec (w - 2) r4.2.1 r4.2.2
  intro e he
  rcases List.mem_append.mp he with he | he
  · rcases List.mem_append.mp he with he | he
    · obtain ⟨h1, h2⟩ := h41 e he; omega
    · obtain ⟨h1, h2⟩ := h21 e he; omega
  · simp only [List.mem_map, List.mem_range] at he
    obtain ⟨i, hi, rfl⟩ := he
    omega

/-! ### the four-row kernel: per row the very same register contents as the one-row kernel -/

theorem step4R_eq_step4 (s row : List Int) (x : Nat) (k0 k1 k2 k3 : Int) :
    step4R s row x k0 k1 k2 k3 = step4 s row x k0 k1 k2 k3 := by
  simp only [step4R, step4, clone4, low64, pshufb, kBytes, u8x3_sse4_four_sh_lo, u8x3_sse4_four_sh_hi, u8x3_sse4_pix_sh1,
    u8x3_sse4_pix_sh2, u8x3_sse4_coef_sh1, u8x3_sse4_coef_sh2, lanes, lanes_proc]

theorem step2R_eq_step2 (s row : List Int) (x : Nat) (k0 k1 : Int) : step2R s row x k0 k1 = step2 s row x k0 k1 := rfl

theorem loop4R_eq (maxX : Nat) (row : List Int) : ∀ (ks : List Int) (x : Nat) (s : List Int),
    loop4R maxX row ks x s = loop4 maxX row ks x s
  | k0 :: k1 :: k2 :: k3 :: rest, x, s => by rw [loop4R, loop4, step4R_eq_step4, loop4R_eq maxX row rest]
  | [], _, _ | [_], _, _ | [_, _], _, _ | [_, _, _], _, _ => rfl

theorem loop2R_eq (maxX : Nat) (row : List Int) : ∀ (ks : List Int) (x : Nat) (s : List Int),
    loop2R maxX row ks x s = loop2 maxX row ks x s
  | k0 :: k1 :: rest, x, s => by rw [loop2R, loop2, step2R_eq_step2, loop2R_eq maxX row rest]
  | [], _, _ | [_], _, _ => rfl

theorem u8x3_sse4_four_rows_eq_one_row (p w : Nat) (row : List Int) (start : Nat) (ks : List Int) :
    Fir.SimdU8x3.pixelR p w row start ks = Fir.SimdU8x3.pixel p w row start ks := by
  unfold Fir.SimdU8x3.pixelR Fir.SimdU8x3.pixel
  simp only [loop4R_eq, loop2R_eq]

end Fir.Proofs
