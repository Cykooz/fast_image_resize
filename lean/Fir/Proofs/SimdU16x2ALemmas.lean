/-
  Fir.Proofs.SimdU16x2ALemmas - the AVX2 one-row horizontal kernel for LA16 (src/convolution/u16x2/avx2.rs,
  `Fir.Model.SimdU16x2A`) equals the portable kernel: each half of its masks is the SSE4.1 mask, so each half of a step is an
  SSE4.1 step (`Lanes.Step.pair`); channel `c` is lane `c` of the two halves together, which gain the dot product of the
  coefficients consumed (`specA`).
-/
import Fir.Model.SimdU16x2A
import Fir.Proofs.SimdU16x2Lemmas

namespace Fir.Proofs.U16x2A
open Fir.SimdU16x2 Fir.SimdU16x2A Fir.Gen Fir.Proofs.Lanes Fir.Proofs.U16x2
open Fir.SimdU8x4 (pshufb)
open Fir.SimdVertU16 (add64 mulEpi32)

theorem masks_lo : u16x2_avx2_one_p0_lo = u16x2_sse4_p0 ∧ u16x2_avx2_one_p1_lo = u16x2_sse4_p1 ∧
    u16x2_avx2_one_p2_lo = u16x2_sse4_p2 ∧ u16x2_avx2_one_p3_lo = u16x2_sse4_p3 := by
  refine ⟨?_, ?_, ?_, ?_⟩ <;> decide

theorem masks_hi : u16x2_avx2_one_p0_hi = u16x2_sse4_p0 ∧ u16x2_avx2_one_p1_hi = u16x2_sse4_p1 ∧
    u16x2_avx2_one_p2_hi = u16x2_sse4_p2 ∧ u16x2_avx2_one_p3_hi = u16x2_sse4_p3 := by
  refine ⟨?_, ?_, ?_, ?_⟩ <;> decide

theorem h4_sse (s row : List Int) (x : Nat) (k0 k1 k2 k3 : Int) :
    h4 u16x2_sse4_p0 u16x2_sse4_p1 u16x2_sse4_p2 u16x2_sse4_p3 s (srcLA row x 4) k0 k1 k2 k3 = SimdU16x2.acc4 s row x k0 k1 k2 k3 := rfl
theorem h2_sse (s row : List Int) (x : Nat) (k0 k1 : Int) :
    h2 u16x2_sse4_p0 u16x2_sse4_p1 s (srcLA row x 2) k0 k1 = SimdU16x2.acc2 s row x k0 k1 := rfl
theorem h1_sse (s row : List Int) (x : Nat) (k : Int) :
    h1 u16x2_sse4_p0 s (srcLA row x 1) k = SimdU16x2.acc1 s row x k := rfl

abbrev encA (t : Nat → Int) : St2 := (enc fun c => t (2 * c), enc fun c => t (2 * c + 1))

def specA (row : List Int) : Spec :=
  .sums (fun δ c => δ (2 * c) + δ (2 * c + 1)) (dotLA row) (fun _ _ => by funext c; simp only [Pi.add_apply]; ac_rfl)
    (fun _ _ => rfl) (fun _ _ _ _ => rfl)

theorem halves {row a b : List Int} {x : Nat} {δ ε : Nat → Int} (h1 : (spec row).ok a x δ) (h2 : (spec row).ok b (x + a.length) ε) :
    (specA row).ok (a ++ b) x (ilv δ ε) := by
  obtain rfl := h1
  obtain rfl := h2
  funext c
  simp only [ilv_even, ilv_odd, dot_append (d := dotLA row c) (fun _ => rfl) (fun _ _ _ => rfl)]

theorem step8 (row : List Int) (x : Nat) (k0 k1 k2 k3 k4 k5 k6 k7 : Int) :
    Step encA (specA row) (fun s => acc8A s row x k0 k1 k2 k3 k4 k5 k6 k7) [k0, k1, k2, k3, k4, k5, k6, k7] x := by
  simpa only [acc8A, masks_lo.1, masks_lo.2.1, masks_lo.2.2.1, masks_lo.2.2.2, masks_hi.1, masks_hi.2.1, masks_hi.2.2.1,
    masks_hi.2.2.2, h4_sse, List.cons_append, List.nil_append]
    using Step.pair halves (U16x2.step4 row x k0 k1 k2 k3) (U16x2.step4 row (x + 4) k4 k5 k6 k7)

theorem step4 (row : List Int) (x : Nat) (k0 k1 k2 k3 : Int) :
    Step encA (specA row) (fun s => acc4A s row x k0 k1 k2 k3) [k0, k1, k2, k3] x := by
  simpa only [acc4A, masks_lo.1, masks_lo.2.1, masks_hi.1, masks_hi.2.1, h2_sse, List.cons_append, List.nil_append]
    using Step.pair halves (U16x2.step2 row x k0 k1) (U16x2.step2 row (x + 2) k2 k3)

theorem step2 (row : List Int) (x : Nat) (k0 k1 : Int) : Step encA (specA row) (fun s => acc2A s row x k0 k1) [k0, k1] x := by
  simpa only [acc2A, masks_lo.1, masks_hi.1, h1_sse, List.cons_append, List.nil_append]
    using Step.pair halves (U16x2.step1 row x k0) (U16x2.step1 row (x + 1) k1)

theorem step1 (row : List Int) (x : Nat) (k : Int) : Step encA (specA row) (fun s => acc1A s row x k) [k] x := by
  have hz : ∀ t, h1 u16x2_sse4_p0 (enc t) (List.replicate 16 0) 0 = enc t := fun t => by
    simp only [lanes, lanes_proc, h1, add64, mulEpi32, pshufb, u16x2_sse4_p0]
  simpa only [acc1A, masks_lo.1, masks_hi.1, h1_sse, List.append_nil]
    using Step.pair halves (U16x2.step1 row x k) (Step.nop (g := fun s => h1 u16x2_sse4_p0 s (List.replicate 16 0) 0) _ hz)

theorem loopA_ok (row : List Int) : ∀ (ks : List Int) (x : Nat), Step encA (specA row) (fun s => loopA row ks x s) ks x
  | k0 :: k1 :: k2 :: k3 :: k4 :: k5 :: k6 :: k7 :: rest, x => by
    simpa only [loopA, List.cons_append, List.nil_append]
      using (step8 row x k0 k1 k2 k3 k4 k5 k6 k7).comp (loopA_ok row rest (x + 8))
  | [k0, k1, k2, k3, k4, k5, k6], x => by
    simpa only [loopA, List.cons_append, List.nil_append]
      using ((step4 row x k0 k1 k2 k3).comp (step2 row (x + 4) k4 k5)).comp (step1 row (x + 6) k6)
  | [k0, k1, k2, k3, k4, k5], x => by
    simpa only [loopA, List.cons_append, List.nil_append] using (step4 row x k0 k1 k2 k3).comp (step2 row (x + 4) k4 k5)
  | [k0, k1, k2, k3, k4], x => by
    simpa only [loopA, List.cons_append, List.nil_append] using (step4 row x k0 k1 k2 k3).comp (step1 row (x + 4) k4)
  | [k0, k1, k2, k3], x => by simpa only [loopA] using step4 row x k0 k1 k2 k3
  | [k0, k1, k2], x => by
    simpa only [loopA, List.cons_append, List.nil_append] using (step2 row x k0 k1).comp (step1 row (x + 2) k2)
  | [k0, k1], x => by simpa only [loopA] using step2 row x k0 k1
  | [k], x => by simpa only [loopA] using step1 row x k
  | [], x => by simpa only [loopA] using Step.id x

/-- the AVX2 one-row kernel for LA16 equals the portable kernel -/
theorem pixelA_eq_portable (p : Nat) (row : List Int) (start : Nat) (ks : List Int) :
    pixelA p row start ks
      = [clip16 (2 ^ (p - 1) + dotLA row 0 ks start) p, clip16 (2 ^ (p - 1) + dotLA row 1 ks start) p] := by
  obtain ⟨δ, hδ, hrun⟩ := loopA_ok row ks start
  have h : loopA row ks start ([0, 0], [0, 0]) = encA δ := (hrun 0).trans (by rw [zero_add])
  -- `map` first: under its binder `wrapInt_add` fires on the outer `wrap64` before the lanes inside are seen to be `wrap64`s,
  -- which then stay
  simp only [pixelA, clip16, List.range, List.range.loop, List.map]
  simp only [h, encA, lanes, lanes_proc, ← congrFun hδ]
  ac_rfl

end Fir.Proofs.U16x2A
