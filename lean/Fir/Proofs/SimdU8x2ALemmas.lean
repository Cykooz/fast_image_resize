/-
  Fir.Proofs.SimdU8x2ALemmas - the AVX2 one-row kernel for two-channel 8-bit images (src/convolution/u8x2/avx2.rs,
  `Fir.Model.SimdU8x2A`) equals the portable kernel inside the i32 headroom.  Halves of the 256-bit masks are the SSE4.1 masks; a
  16-step is the SSE4.1 8-step per half (`StepOK`), an 8-step gives one half of the SSE4.1 8-step to each half; `Step8` is the
  contract of the 256-bit phase (lane increments of the two halves whose sums are the dot products, the per-lane sum of both
  halves bounded by `255 * Σ|k|`); the folded 128-bit state then continues with `StepOK` pieces, and the saturating join is exact
  (`join_exact`).
-/
import Fir.Model.SimdU8x2A
import Fir.Proofs.SimdU8x2Lemmas

namespace Fir.Proofs.U8x2A
open Fir.SimdU8x2 Fir.SimdU8x2A Fir.Gen Fir.Proofs.U8x2
open Fir.SimdU8x4 (wrap32 add32 kBytes)

theorem half16_sse (s row : List Int) (x : Nat) (k : List Int) :
    half16 u8x2_sse4_one_pix_sh1 u8x2_sse4_one_coeff_sh1 u8x2_sse4_one_pix_sh2 u8x2_sse4_one_coeff_sh2 s (src2 row x 8) (kBytes k)
      = SimdU8x2.acc8 s row x k := rfl

def st8 (a0 a1 a2 a3 b0 b1 b2 b3 : Int) : St :=
  ([wrap32 a0, wrap32 a1, wrap32 a2, wrap32 a3], [wrap32 b0, wrap32 b1, wrap32 b2, wrap32 b3])

def Step8 (row : List Int) (f : St → St) (ks : List Int) (x : Nat) : Prop :=
  ∀ a0 a1 a2 a3 b0 b1 b2 b3 : Int, ∃ e0 e1 e2 e3 d0 d1 d2 d3 : Int,
    f (st8 a0 a1 a2 a3 b0 b1 b2 b3) = st8 (a0 + e0) (a1 + e1) (a2 + e2) (a3 + e3) (b0 + d0) (b1 + d1) (b2 + d2) (b3 + d3) ∧
    (e0 + d0) + (e2 + d2) = dot2 row 0 ks x ∧ (e1 + d1) + (e3 + d3) = dot2 row 1 ks x ∧
    (-(255 * absSum ks) ≤ e0 + d0 ∧ e0 + d0 ≤ 255 * absSum ks) ∧ (-(255 * absSum ks) ≤ e1 + d1 ∧ e1 + d1 ≤ 255 * absSum ks) ∧
    (-(255 * absSum ks) ≤ e2 + d2 ∧ e2 + d2 ≤ 255 * absSum ks) ∧ (-(255 * absSum ks) ≤ e3 + d3 ∧ e3 + d3 ≤ 255 * absSum ks)

theorem Step8.id (row : List Int) (x : Nat) : Step8 row (fun s => s) [] x := by
  intro a0 a1 a2 a3 b0 b1 b2 b3
  refine ⟨0, 0, 0, 0, 0, 0, 0, 0, by simp, ?_, ?_, ?_⟩ <;> simp [dot2, absSum]

theorem Step8.comp {row : List Int} {f g : St → St} {ks1 ks2 : List Int} {x : Nat}
    (hf : Step8 row f ks1 x) (hg : Step8 row g ks2 (x + ks1.length)) :
    Step8 row (fun s => g (f s)) (ks1 ++ ks2) x := by
  intro a0 a1 a2 a3 b0 b1 b2 b3
  obtain ⟨e0, e1, e2, e3, d0, d1, d2, d3, hfe, hL, hA, c0, c1, c2, c3⟩ := hf a0 a1 a2 a3 b0 b1 b2 b3
  obtain ⟨e0', e1', e2', e3', d0', d1', d2', d3', hge, hL', hA', c0', c1', c2', c3'⟩ :=
    hg (a0 + e0) (a1 + e1) (a2 + e2) (a3 + e3) (b0 + d0) (b1 + d1) (b2 + d2) (b3 + d3)
  rw [dot2_append, dot2_append, absSum_append, ← hL, ← hL', ← hA, ← hA']
  refine ⟨e0 + e0', e1 + e1', e2 + e2', e3 + e3', d0 + d0', d1 + d1', d2 + d2', d3 + d3', by simp only [hfe, hge, add_assoc],
    by ac_rfl, by ac_rfl, ?_, ?_, ?_, ?_⟩ <;> rw [add_add_add_comm]
  exacts [bound_add c0 c0', bound_add c1 c1', bound_add c2 c2', bound_add c3 c3']

theorem Step8.pair {row : List Int} {f g : List Int → List Int} {a b : List Int} {x : Nat}
    (hf : StepOK false row f a x) (hg : StepOK false row g b (x + a.length)) : Step8 row (fun s => (f s.1, g s.2)) (a ++ b) x := by
  intro a0 a1 a2 a3 b0 b1 b2 b3
  obtain ⟨e0, e1, e2, e3, h1, hL, hA, c0, c1, c2, c3⟩ := hf a0 a1 a2 a3
  obtain ⟨d0, d1, d2, d3, h2, hL', hA', c0', c1', c2', c3'⟩ := hg b0 b1 b2 b3
  rw [dot2_append, dot2_append, absSum_append, ← hL, ← hL', ← hA, ← hA']
  exact ⟨e0, e1, e2, e3, d0, d1, d2, d3, by simp only [st8, h1, h2], add_add_add_comm .., add_add_add_comm ..,
    bound_add c0 c0', bound_add c1 c1', bound_add c2 c2', bound_add c3 c3'⟩

def pieces (row : List Int) : Lanes.Pieces St := ⟨Step8 row, Step8.id row, Step8.comp⟩

/-- the halves of the 256-bit masks of the 16-step are the masks of the SSE4.1 8-step -/
theorem acc16A_eq (s : St) (row : List Int) (x : Nat) (k : List Int) :
    acc16A s row x k = (SimdU8x2.acc8 s.1 row x (k.take 8), SimdU8x2.acc8 s.2 row (x + 8) (k.drop 8)) := rfl

theorem step16 (row : List Int) (x : Nat) (ks : List Int) (h : 16 ≤ ks.length) :
    Step8 row (fun s => acc16A s row x (ks.take 16)) (ks.take 16) x := by
  -- on `ks.take 16`, from `take8` twice: a `match` on sixteen conses is slow to elaborate
  have h1 := Lanes.take8 (C := fun k => StepOK false row (fun s => SimdU8x2.acc8 s row x k) k x) (U8x2.step8 row x) ks (by omega)
  have h2 := Lanes.take8 (C := fun k => StepOK false row (fun s => SimdU8x2.acc8 s row (x + 8) k) k (x + 8)) (U8x2.step8 row (x + 8))
    (ks.drop 8) (by rw [List.length_drop]; omega)
  have := Step8.pair h1 (b := (ks.drop 8).take 8) (by rwa [List.length_take, Nat.min_eq_left (by omega)])
  rw [← List.take_add] at this
  simpa only [acc16A_eq, List.take_take, List.drop_take, Nat.min_def, Nat.reduceLeDiff, reduceIte, Nat.reduceSub, Nat.reduceAdd]
    using this

theorem step8A (row : List Int) (x : Nat) (k0 k1 k2 k3 k4 k5 k6 k7 : Int) :
    Step8 row (fun s => acc8A s row x [k0, k1, k2, k3, k4, k5, k6, k7]) [k0, k1, k2, k3, k4, k5, k6, k7] x :=
  Step8.pair (step8_lo row x k0 k1 k2 k3 k4 k5 k6 k7) (step8_hi row x k0 k1 k2 k3 k4 k5 k6 k7)

/-- the AVX2 kernel's 4-step: its mask `pix_sh4` is the SSE4.1 kernel's `pix_sh3` -/
theorem step4A (row : List Int) (x : Nat) (k0 k1 k2 k3 : Int) :
    StepOK false row (fun s => SimdU8x2A.acc4 s row x k0 k1 k2 k3) [k0, k1, k2, k3] x := U8x2.step4 row x k0 k1 k2 k3

theorem tail4_ok (row : List Int) : ∀ (ks : List Int) (x : Nat), StepOK false row (fun s => SimdU8x2A.tail4 row ks x s) ks x
  | k0 :: k1 :: k2 :: k3 :: rest, x => by
    simpa only [SimdU8x2A.tail4, List.cons_append, List.nil_append] using (step4A row x k0 k1 k2 k3).comp (tail4_ok row rest (x + 4))
  | [], x => by simpa only [SimdU8x2A.tail4] using StepOK.id false row x
  | [_], x | [_, _], x | [_, _, _], x => by simpa only [SimdU8x2A.tail4] using stepRem row x _ (by simp) (by simp)

/-- the 256-bit phase `F` (contract `Step8` on `ks1`), the fold of the halves, the 128-bit steps `T` (contract `StepOK` on `ks2`)
    and the saturating join give the portable result for `ks1 ++ ks2` -/
theorem phase_join (p : Nat) (hp3 : 3 ≤ p) (row : List Int) (F : St → St) (T : List Int → List Int) (ks1 ks2 : List Int) (x : Nat)
    (hF : Step8 row F ks1 x) (hT : StepOK false row T ks2 (x + ks1.length))
    (hB : 255 * absSum (ks1 ++ ks2) + 2 ^ (p - 1) < (2 : Int) ^ 31) :
    let i := wrap32 (2 ^ (p - 3))
    let r := F ([i, i, i, i], [i, i, i, i])
    let s := T (add32 r.1 r.2)
    [SimdU8x2.clip (satAdd (s.getD 0 0) (s.getD 2 0)) p, SimdU8x2.clip (satAdd (s.getD 1 0) (s.getD 3 0)) p]
      = [clip8 (2 ^ (p - 1) + dot2 row 0 (ks1 ++ ks2) x) p, clip8 (2 ^ (p - 1) + dot2 row 1 (ks1 ++ ks2) x) p] := by
  have hI : ∀ e d g : Int, 2 ^ (p - 3) + e + (2 ^ (p - 3) + d) + g = 2 ^ (p - 2) + (e + d + g) := by
    have : (2 : Int) ^ (p - 2) = 2 * 2 ^ (p - 3) := (pow2_pred (p - 2) (by omega)).trans (by rw [Nat.sub_sub])
    intros; omega
  have hb := @bound_add (absSum ks1) (absSum ks2)
  rw [← absSum_append] at hb
  obtain ⟨e0, e1, e2, e3, d0, d1, d2, d3, hrun, hL, hA, c0, c1, c2, c3⟩ :=
    hF (2 ^ (p - 3)) (2 ^ (p - 3)) (2 ^ (p - 3)) (2 ^ (p - 3)) (2 ^ (p - 3)) (2 ^ (p - 3)) (2 ^ (p - 3)) (2 ^ (p - 3))
  obtain ⟨g0, g1, g2, g3, htail, hL', hA', q0, q1, q2, q3⟩ :=
    hT (2 ^ (p - 3) + e0 + (2 ^ (p - 3) + d0)) (2 ^ (p - 3) + e1 + (2 ^ (p - 3) + d1))
       (2 ^ (p - 3) + e2 + (2 ^ (p - 3) + d2)) (2 ^ (p - 3) + e3 + (2 ^ (p - 3) + d3))
  simp only [st8] at hrun
  simp only [hrun, add32, List.zipWith, lanes, htail, List.getD_cons_succ, List.getD_cons_zero]
  exact congrArg₂ (fun l a => [l, a])
    (join_exact p (by omega) _ _ _ _ _ _ (hI ..) (hI ..) (hb c0 q0) (hb c2 q2) (dot2_bound row 0 (ks1 ++ ks2) x)
      (by rw [dot2_append, ← hL, ← hL']; ac_rfl) hB)
    (join_exact p (by omega) _ _ _ _ _ _ (hI ..) (hI ..) (hb c1 q1) (hb c3 q3) (dot2_bound row 1 (ks1 ++ ks2) x)
      (by rw [dot2_append, ← hA, ← hA']; ac_rfl) hB)

/-- the AVX2 one-row kernel of U8x2 equals the portable kernel inside the `i32` headroom, for every precision of at least 3 -/
theorem pixelA_eq_portable (p : Nat) (hp3 : 3 ≤ p) (row : List Int) (start : Nat) (ks : List Int)
    (hB : 255 * absSum ks + 2 ^ (p - 1) < (2 : Int) ^ 31) :
    pixelA p row start ks = [clip8 (2 ^ (p - 1) + dot2 row 0 ks start) p, clip8 (2 ^ (p - 1) + dot2 row 1 ks start) p] := by
  unfold pixelA
  by_cases hlen : ks.length < 16
  · simp only [hlen, if_true]
    exact finish (tail4_ok row ks start) p (by omega) hB
  · obtain ⟨f, hf, hrun⟩ := Lanes.chunk_loop (pieces row) (n := 16) (loop := loop16 row) (body := fun s x k => acc16A s row x k)
      (fin := fun s x ks => (s, x, ks)) (fun ks x s => by rw [loop16]; rfl) (fun ks x => step16 row x ks)
      (ks.length / 16) ks start (by omega) (by omega)
    obtain ⟨m, hm⟩ : ∃ m, m = 16 * (ks.length / 16) := ⟨_, rfl⟩
    rw [← hm] at hf hrun
    obtain ⟨j, g, hj, hg, hopt⟩ := Lanes.opt_step (pieces row) (n := 8) (body := fun s x k => acc8A s row x k)
      (fun ks x => Lanes.take8 (C := fun k => Step8 row (fun s => acc8A s row x k) k x) (step8A row x) ks) (ks.drop m) (start + m)
    have h1 : Step8 row (fun s => g (f s)) (ks.take m ++ (ks.drop m).take j) start :=
      hf.comp (by rwa [List.length_take, Nat.min_eq_left (by omega)])
    have hl := Lanes.length_take_take start (by omega) hj
    have := phase_join p hp3 row _ _ _ _ start h1 (hl ▸ tail4_ok row ((ks.drop m).drop j) (start + m + j))
    rw [hl, List.append_assoc, List.take_append_drop, List.take_append_drop] at this
    simp only [hlen, if_false, hrun, hopt]
    exact this hB

end Fir.Proofs.U8x2A
