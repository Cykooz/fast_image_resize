/-
  Fir.Proofs.SimdU16x4Lemmas - the SSE4.1 horizontal kernels for RGBA16 (src/convolution/u16x4/sse4.rs, `Fir.Model.SimdU16x4`,
  masks from the source) equal the portable kernel: lane `c` of the two accumulators `[R, G]`, `[B, A]` is channel `c`, and every
  two-coefficient step and the last single step add `dotC16 row c` of their coefficients to it (`spec`).
-/
import Fir.Model.SimdU16x4
import Fir.Proofs.SimdVertU16Lemmas

namespace Fir.Proofs.U16x4
open Fir.SimdU16x4 Fir.Gen Fir.Proofs.Lanes
open Fir.SimdU8x4 (pshufb)
open Fir.SimdVertU16 (add64 mulEpi32)

abbrev enc : (Nat → Int) → List (List Int) := VertU16.encV 2

def spec (row : List Int) : Spec := .sums (fun δ => δ) (dotC16 row) (fun _ _ => rfl) (fun _ _ => rfl) (fun _ _ _ _ => rfl)

theorem step2 (row : List Int) (x : Nat) (k0 k1 : Int) : Step enc (spec row) (fun s => acc2 s row x k0 k1) [k0, k1] x := by
  refine ⟨_, rfl, fun t => ?_⟩
  simp only [lanes, lanes_proc, VertU16.encV, acc2, src4, add64, mulEpi32, pshufb, u16x4_sse4_rg0, u16x4_sse4_rg1, u16x4_sse4_ba0,
    u16x4_sse4_ba1, dotC16]
  ac_rfl

theorem step1 (row : List Int) (x : Nat) (k : Int) : Step enc (spec row) (fun s => acc1 s row x k) [k] x := by
  refine ⟨_, rfl, fun t => ?_⟩
  simp only [lanes, lanes_proc, VertU16.encV, acc1, src4, add64, mulEpi32, pshufb, u16x4_sse4_rg0, u16x4_sse4_ba0, dotC16]

theorem loop_ok (row : List Int) : ∀ (ks : List Int) (x : Nat), Step enc (spec row) (fun s => SimdU16x4.loop row ks x s) ks x
  | k0 :: k1 :: rest, x => by
    simpa only [SimdU16x4.loop, List.cons_append, List.nil_append] using (step2 row x k0 k1).comp (loop_ok row rest (x + 2))
  | [k], x => by simpa only [SimdU16x4.loop] using step1 row x k
  | [], x => by simpa only [SimdU16x4.loop] using Step.id x

/-- the SSE4.1 horizontal kernels for RGBA16 equal the portable kernel (one row and each of four rows) -/
theorem pixel_eq_portable (p : Nat) (row : List Int) (start : Nat) (ks : List Int) :
    SimdU16x4.pixel p row start ks
      = [clip16 (2 ^ (p - 1) + dotC16 row 0 ks start) p, clip16 (2 ^ (p - 1) + dotC16 row 1 ks start) p,
         clip16 (2 ^ (p - 1) + dotC16 row 2 ks start) p, clip16 (2 ^ (p - 1) + dotC16 row 3 ks start) p] := by
  obtain ⟨δ, rfl, hrun⟩ := loop_ok row ks start
  refine (congrArg (fun s => s.flatten.map fun v => (clip32 v p : Int)) (hrun fun _ => 2 ^ (p - 1))).trans ?_
  simp only [lanes, lanes_proc, VertU16.encV, List.flatten_cons, List.flatten_nil, clip16]

end Fir.Proofs.U16x4
