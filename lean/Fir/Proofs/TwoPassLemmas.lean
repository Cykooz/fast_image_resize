/-
  Fir.Proofs.TwoPassLemmas - the two passes of `do_convolution` composed (8-bit order: vertical pass into a
  temporary image, then horizontal pass over it; 16-bit order: horizontal, then vertical): uniformity (C10),
  order preservation and range (C18), the accumulated error against the ideal separable filter (C01), and
  the link to `doConvolution`.  In each case the statement about the second pass is applied to the temporary
  image, and what it asks of the samples read there is the statement about the first pass; `hfit` (every
  window of the second pass lies inside the temporary image) makes those samples components of the first.
-/
import Fir.Proofs.ImageLemmas
namespace Fir.Proofs

/-- 8-bit order (vertical, then horizontal over the temporary image of width `tempW` that starts at source
    column `xFirst`): if every source sample read is `v`, every window of both passes satisfies the
    `QuantOK` inequalities and every horizontal window lies inside the temporary image, the result is `v` -/
theorem twoPass_uniform_u8 (src : Img) (dstW dstH tempW xFirst : Nat) (vc hc : Coeffs) (v : Int)
    (hv0 : 0 ≤ v) (hv : v ≤ 255)
    (hpV1 : 1 ≤ (qOf .u8 vc).precision) (hpV : (qOf .u8 vc).precision ≤ 22)
    (hpH1 : 1 ≤ (qOf .u8 hc).precision) (hpH : (qOf .u8 hc).precision ≤ 22)
    (hreadV : ∀ x y ch, x < tempW → y < dstH → ch < src.n → ∀ s ∈ vWindow .u8 src xFirst vc x y ch, s = v)
    (hqV : ∀ y, y < dstH →
      -(2 ^ ((qOf .u8 vc).precision - 1) : Int) ≤ v * ((chunkAt .u8 vc y).2.toList.sum - 2 ^ (qOf .u8 vc).precision) ∧
      v * ((chunkAt .u8 vc y).2.toList.sum - 2 ^ (qOf .u8 vc).precision) < 2 ^ ((qOf .u8 vc).precision - 1))
    (hfit : ∀ x, x < dstW → (chunkAt .u8 hc x).1 + (chunkAt .u8 hc x).2.size ≤ tempW)
    (hqH : ∀ x, x < dstW →
      -(2 ^ ((qOf .u8 hc).precision - 1) : Int) ≤ v * ((chunkAt .u8 hc x).2.toList.sum - 2 ^ (qOf .u8 hc).precision) ∧
      v * ((chunkAt .u8 hc x).2.toList.sum - 2 ^ (qOf .u8 hc).precision) < 2 ^ ((qOf .u8 hc).precision - 1))
    (x y ch : Nat) (hx : x < dstW) (hy : y < dstH) (hc' : ch < src.n) :
    (horizPass .u8 (vertPass .u8 src tempW dstH xFirst vc) dstW dstH 0 hc).get x y ch = v := by
  refine horizPass_uniform_u8 _ dstW dstH 0 hc v hv0 hv hpH1 hpH
    (fun x' y' ch' hx' hy' hch' => forall_mem_window fun j hj => ?_) hqH x y ch hx hy hc'
  have := hfit x' hx'
  exact vertPass_uniform_u8 src tempW dstH xFirst vc v hv0 hv hpV1 hpV hreadV hqV _ _ _ (by omega) (by omega) hch'

theorem twoPass_monotone_u8 (src src' : Img) (dstW dstH tempW xFirst : Nat) (vc hc : Coeffs) (hn : src.n = src'.n)
    (hpV : (qOf .u8 vc).precision < 32) (hpH : (qOf .u8 hc).precision < 32)
    (hkV : ∀ y, y < dstH → ∀ k ∈ (chunkAt .u8 vc y).2.toList, 0 ≤ k)
    (hkH : ∀ x, x < dstW → ∀ k ∈ (chunkAt .u8 hc x).2.toList, 0 ≤ k)
    (hle : ∀ x y ch j, src.get (xFirst + x) ((chunkAt .u8 vc y).1 + j) ch ≤ src'.get (xFirst + x) ((chunkAt .u8 vc y).1 + j) ch)
    (haccV : ∀ x y ch, x < tempW → y < dstH → ch < src.n →
      AccOK8 (chunkAt .u8 vc y).2.toList (vWindow .u8 src xFirst vc x y ch) (qOf .u8 vc).precision ∧
      AccOK8 (chunkAt .u8 vc y).2.toList (vWindow .u8 src' xFirst vc x y ch) (qOf .u8 vc).precision)
    (hfit : ∀ x, x < dstW → (chunkAt .u8 hc x).1 + (chunkAt .u8 hc x).2.size ≤ tempW)
    (haccH : ∀ x y ch, x < dstW → y < dstH → ch < src.n →
      AccOK8 (chunkAt .u8 hc x).2.toList (hWindow .u8 (vertPass .u8 src tempW dstH xFirst vc) 0 hc x y ch) (qOf .u8 hc).precision ∧
      AccOK8 (chunkAt .u8 hc x).2.toList (hWindow .u8 (vertPass .u8 src' tempW dstH xFirst vc) 0 hc x y ch) (qOf .u8 hc).precision)
    (x y ch : Nat) (hx : x < dstW) (hy : y < dstH) (hc' : ch < src.n) :
    (horizPass .u8 (vertPass .u8 src tempW dstH xFirst vc) dstW dstH 0 hc).get x y ch
      ≤ (horizPass .u8 (vertPass .u8 src' tempW dstH xFirst vc) dstW dstH 0 hc).get x y ch := by
  rw [horizPass_get (.inl rfl) hx hy, horizPass_get (.inl rfl) hx hy]
  · refine passInt_mono (.inl rfl) (hkH x hx) (window_le fun j hj => ?_)
      (haccH x y ch hx hy hc').1 (haccH x y ch hx hy hc').2
    have := hfit x hx
    exact vertPass_monotone_u8 src src' tempW dstH xFirst vc hn hpV hkV hle haccV _ _ _ (by omega) (by omega) hc'
  · exact hn ▸ hc'
  · exact hc'

theorem twoPass_monotone_u16 (src src' : Img) (dstW dstH tempH yFirst : Nat) (hc vc : Coeffs) (hn : src.n = src'.n)
    (hpH : (qOf .u16 hc).precision < 64) (hpV : (qOf .u16 vc).precision < 64)
    (hkH : ∀ x, x < dstW → ∀ k ∈ (chunkAt .u16 hc x).2.toList, 0 ≤ k)
    (hkV : ∀ y, y < dstH → ∀ k ∈ (chunkAt .u16 vc y).2.toList, 0 ≤ k)
    (hle : ∀ x y ch j, src.get ((chunkAt .u16 hc x).1 + j) (yFirst + y) ch ≤ src'.get ((chunkAt .u16 hc x).1 + j) (yFirst + y) ch)
    (haccH : ∀ x y ch, x < dstW → y < tempH → ch < src.n →
      AccOK16 (chunkAt .u16 hc x).2.toList (hWindow .u16 src yFirst hc x y ch) (qOf .u16 hc).precision ∧
      AccOK16 (chunkAt .u16 hc x).2.toList (hWindow .u16 src' yFirst hc x y ch) (qOf .u16 hc).precision)
    (hfit : ∀ y, y < dstH → (chunkAt .u16 vc y).1 + (chunkAt .u16 vc y).2.size ≤ tempH)
    (haccV : ∀ x y ch, x < dstW → y < dstH → ch < src.n →
      AccOK16 (chunkAt .u16 vc y).2.toList (vWindow .u16 (horizPass .u16 src dstW tempH yFirst hc) 0 vc x y ch) (qOf .u16 vc).precision ∧
      AccOK16 (chunkAt .u16 vc y).2.toList (vWindow .u16 (horizPass .u16 src' dstW tempH yFirst hc) 0 vc x y ch) (qOf .u16 vc).precision)
    (x y ch : Nat) (hx : x < dstW) (hy : y < dstH) (hc' : ch < src.n) :
    (vertPass .u16 (horizPass .u16 src dstW tempH yFirst hc) dstW dstH 0 vc).get x y ch
      ≤ (vertPass .u16 (horizPass .u16 src' dstW tempH yFirst hc) dstW dstH 0 vc).get x y ch := by
  rw [vertPass_get (.inr rfl) hx hy, vertPass_get (.inr rfl) hx hy]
  · refine passInt_mono (.inr rfl) (hkV y hy) (window_le fun j hj => ?_)
      (haccV x y ch hx hy hc').1 (haccV x y ch hx hy hc').2
    have hx0 : 0 + x < dstW := by omega
    have hty : (chunkAt .u16 vc y).1 + j < tempH := by have := hfit y hy; omega
    rw [horizPass_get (.inr rfl) hx0 hty hc', horizPass_get (.inr rfl) hx0 hty (hn ▸ hc')]
    exact passInt_mono (.inr rfl) (hkH _ hx0) (window_le fun i _ => hle _ _ ch i)
      (haccH _ _ ch hx0 hty hc').1 (haccH _ _ ch hx0 hty hc').2
  · exact hn ▸ hc'
  · exact hc'

theorem twoPass_range_u8 (src : Img) (dstW dstH tempW xFirst : Nat) (vc hc : Coeffs) (lo hi : Int)
    (hlo0 : 0 ≤ lo) (hlh : lo ≤ hi) (hhi : hi ≤ 255)
    (hpV1 : 1 ≤ (qOf .u8 vc).precision) (hpV : (qOf .u8 vc).precision ≤ 22)
    (hpH1 : 1 ≤ (qOf .u8 hc).precision) (hpH : (qOf .u8 hc).precision ≤ 22)
    (hkV : ∀ y, y < dstH → ∀ k ∈ (chunkAt .u8 vc y).2.toList, 0 ≤ k)
    (hkH : ∀ x, x < dstW → ∀ k ∈ (chunkAt .u8 hc x).2.toList, 0 ≤ k)
    (hread : ∀ x y ch, x < tempW → y < dstH → ch < src.n → ∀ s ∈ vWindow .u8 src xFirst vc x y ch, lo ≤ s ∧ s ≤ hi)
    (hqVlo : ∀ y, y < dstH →
      -(2 ^ ((qOf .u8 vc).precision - 1) : Int) ≤ lo * ((chunkAt .u8 vc y).2.toList.sum - 2 ^ (qOf .u8 vc).precision) ∧
      lo * ((chunkAt .u8 vc y).2.toList.sum - 2 ^ (qOf .u8 vc).precision) < 2 ^ ((qOf .u8 vc).precision - 1))
    (hqVhi : ∀ y, y < dstH →
      -(2 ^ ((qOf .u8 vc).precision - 1) : Int) ≤ hi * ((chunkAt .u8 vc y).2.toList.sum - 2 ^ (qOf .u8 vc).precision) ∧
      hi * ((chunkAt .u8 vc y).2.toList.sum - 2 ^ (qOf .u8 vc).precision) < 2 ^ ((qOf .u8 vc).precision - 1))
    (hfit : ∀ x, x < dstW → (chunkAt .u8 hc x).1 + (chunkAt .u8 hc x).2.size ≤ tempW)
    (hqHlo : ∀ x, x < dstW →
      -(2 ^ ((qOf .u8 hc).precision - 1) : Int) ≤ lo * ((chunkAt .u8 hc x).2.toList.sum - 2 ^ (qOf .u8 hc).precision) ∧
      lo * ((chunkAt .u8 hc x).2.toList.sum - 2 ^ (qOf .u8 hc).precision) < 2 ^ ((qOf .u8 hc).precision - 1))
    (hqHhi : ∀ x, x < dstW →
      -(2 ^ ((qOf .u8 hc).precision - 1) : Int) ≤ hi * ((chunkAt .u8 hc x).2.toList.sum - 2 ^ (qOf .u8 hc).precision) ∧
      hi * ((chunkAt .u8 hc x).2.toList.sum - 2 ^ (qOf .u8 hc).precision) < 2 ^ ((qOf .u8 hc).precision - 1))
    (x y ch : Nat) (hx : x < dstW) (hy : y < dstH) (hc' : ch < src.n) :
    lo ≤ (horizPass .u8 (vertPass .u8 src tempW dstH xFirst vc) dstW dstH 0 hc).get x y ch ∧
    (horizPass .u8 (vertPass .u8 src tempW dstH xFirst vc) dstW dstH 0 hc).get x y ch ≤ hi := by
  refine horizPass_range_u8 _ dstW dstH 0 hc lo hi hlo0 hlh hhi hpH1 hpH hkH
    (fun x' y' ch' hx' hy' hch' => forall_mem_window fun j hj => ?_) hqHlo hqHhi x y ch hx hy hc'
  have := hfit x' hx'
  exact vertPass_range_u8 src tempW dstH xFirst vc lo hi hlo0 hlh hhi hpV1 hpV hkV hread hqVlo hqVhi _ _ _
    (by omega) (by omega) hch'

def idealDotQQ (ws : List ℚ) (xs : List ℚ) : ℚ := (List.zipWith (· * ·) ws xs).sum

theorem idealDotQ_eq_QQ_map (ws : List ℚ) (xs : List Int) :
    idealDotQ ws xs = idealDotQQ ws (xs.map fun (x : Int) => (x : ℚ)) := by
  unfold idealDotQ idealDotQQ
  rw [List.zipWith_map_right]

theorem idealDotQ_eq_QQ (ws : List ℚ) (xs : List Int) : idealDotQ ws xs = idealDotQQ ws (xs.map fun x => (x : ℚ)) := by
  rw [idealDotQ_eq_QQ_map]
  congr 1
  induction xs with
  | nil => rfl
  | cons a t ih => simpa using ih

/-- a pass over samples `px j` that are themselves within `e` of ideal values `py j`: its own error, plus `e`
    amplified by `Σ|wᵢ|` (clamping after each pass, as the pipeline does, costs nothing: it is 1-Lipschitz) -/
theorem passInt_err_of_close {k : CKind} (hk : k = .u8 ∨ k = .u16) (ws : List ℚ) {ks : List Int} {n : Nat}
    (px : Nat → Int) (py : Nat → ℚ) {p : Nat} (e : ℚ) (hp1 : 1 ≤ p) (hlen : ks.length = ws.length)
    (hn : n = ws.length)
    (hq : ∀ i, i < ws.length → |(ks.getD i 0 : ℚ) - ws.getD i 0 * 2 ^ p| ≤ 1 / 2)
    (hx : ∀ j, j < n → 0 ≤ px j ∧ px j ≤ k.maxVal) (hacc : AccOK k ks (window n px) p)
    (hxy : ∀ j, j < n → |((px j : Int) : ℚ) - py j| ≤ e) :
    |((passInt k ks (window n px) p : Int) : ℚ) - max 0 (min (k.maxVal : ℚ) (idealDotQQ ws ((List.range n).map py)))|
      ≤ (1 / 2 + (ws.length : ℚ) * k.maxVal / 2 ^ (p + 1)) + (ws.map (|·|)).sum * e := by
  have hM : (0 : ℚ) ≤ k.maxVal := by exact_mod_cast (passInt_range hk hacc).1.trans (passInt_range hk hacc).2
  have hl : (window n px).length = ws.length := (window_length ..).trans hn
  refine (abs_sub_le _ (max 0 (min (k.maxVal : ℚ) (idealDotQ ws (window n px)))) _).trans
    (add_le_add (passInt_err hk ws hp1 hlen hl hq (forall_mem_window hx) hacc)
      ((clamp_lipschitz 0 _ hM _ _).trans ?_))
  rw [idealDotQ_eq_QQ_map]
  refine two_pass_err ws _ _ e (by rw [List.length_map, hl]) (by rw [List.length_map, List.length_range, hn])
    fun i hi => ?_
  have hi' : i < n := hn ▸ hi
  have e1 : ((window n px).map fun (x : Int) => (x : ℚ)).getD i 0 = ((px i : Int) : ℚ) := by
    simp [window, List.getD_eq_getElem?_getD, hi']
  have e2 : ((List.range n).map py).getD i 0 = py i := by simp [List.getD_eq_getElem?_getD, hi']
  rw [e1, e2]
  exact hxy i hi'

/-- the ideal (exact rational, clamped to the component range after each pass as the 8-bit pipeline does)
    temporary sample at temporary column `tx`, destination row `y` -/
def idealTemp8 (src : Img) (xFirst : Nat) (vc : Coeffs) (wsV : Nat → List ℚ) (tx y ch : Nat) : ℚ :=
  max 0 (min 255 (idealDotQ (wsV y) (vWindow .u8 src xFirst vc tx y ch)))

def idealTwoPass8 (src : Img) (xFirst : Nat) (vc hc : Coeffs) (wsV wsH : Nat → List ℚ) (x y ch : Nat) : ℚ :=
  max 0 (min 255 (idealDotQQ (wsH x)
    ((List.range (chunkAt .u8 hc x).2.size).map fun j => idealTemp8 src xFirst vc wsV ((chunkAt .u8 hc x).1 + j) y ch)))

/-- every component of the model's two-pass 8-bit result is within
    `(1/2 + n_H·255/2^(p_H+1)) + Σ|w^H|·(1/2 + n_V·255/2^(p_V+1))` of the ideal separable filter -/
theorem twoPass_err_u8 (src : Img) (dstW dstH tempW xFirst : Nat) (vc hc : Coeffs) (wsV wsH : Nat → List ℚ)
    (hpV1 : 1 ≤ (qOf .u8 vc).precision) (hpV : (qOf .u8 vc).precision < 32)
    (hpH1 : 1 ≤ (qOf .u8 hc).precision) (hpH : (qOf .u8 hc).precision < 32)
    (hlenV : ∀ y, y < dstH → (chunkAt .u8 vc y).2.toList.length = (wsV y).length)
    (hqV : ∀ y, y < dstH → ∀ i, i < (wsV y).length →
      |(((chunkAt .u8 vc y).2.toList.getD i 0 : Int) : ℚ) - (wsV y).getD i 0 * 2 ^ (qOf .u8 vc).precision| ≤ 1 / 2)
    (hsamp : ∀ x y ch, x < tempW → y < dstH → ch < src.n → ∀ s ∈ vWindow .u8 src xFirst vc x y ch, 0 ≤ s ∧ s ≤ 255)
    (haccV : ∀ x y ch, x < tempW → y < dstH → ch < src.n →
      AccOK8 (chunkAt .u8 vc y).2.toList (vWindow .u8 src xFirst vc x y ch) (qOf .u8 vc).precision)
    (hlenH : ∀ x, x < dstW → (chunkAt .u8 hc x).2.toList.length = (wsH x).length)
    (hqH : ∀ x, x < dstW → ∀ i, i < (wsH x).length →
      |(((chunkAt .u8 hc x).2.toList.getD i 0 : Int) : ℚ) - (wsH x).getD i 0 * 2 ^ (qOf .u8 hc).precision| ≤ 1 / 2)
    (hfit : ∀ x, x < dstW → (chunkAt .u8 hc x).1 + (chunkAt .u8 hc x).2.size ≤ tempW)
    (haccH : ∀ x y ch, x < dstW → y < dstH → ch < src.n →
      AccOK8 (chunkAt .u8 hc x).2.toList (hWindow .u8 (vertPass .u8 src tempW dstH xFirst vc) 0 hc x y ch) (qOf .u8 hc).precision)
    (x y ch : Nat) (hx : x < dstW) (hy : y < dstH) (hc' : ch < src.n) :
    |(((horizPass .u8 (vertPass .u8 src tempW dstH xFirst vc) dstW dstH 0 hc).get x y ch : Int) : ℚ)
        - idealTwoPass8 src xFirst vc hc wsV wsH x y ch|
      ≤ (1 / 2 + ((wsH x).length : ℚ) * 255 / 2 ^ ((qOf .u8 hc).precision + 1))
        + ((wsH x).map (|·|)).sum * (1 / 2 + ((wsV y).length : ℚ) * 255 / 2 ^ ((qOf .u8 vc).precision + 1)) := by
  have hf := hfit x hx
  rw [horizPass_get (.inl rfl) hx hy (src := vertPass .u8 src tempW dstH xFirst vc) hc']
  refine passInt_err_of_close (.inl rfl) (wsH x) _ _ _ hpH1 (hlenH x hx)
    (by rw [← hlenH x hx, Array.length_toList]) (hqH x hx) (fun j hj => ?_) (haccH x y ch hx hy hc') fun j hj => ?_
  · rw [vertPass_get (.inl rfl) (by omega) (by omega) hc']
    exact passInt_range (.inl rfl) (haccV _ _ ch (by omega) (by omega) hc')
  · have := vertPass_err_u8 src tempW dstH xFirst vc wsV hpV1 hpV hlenV hqV hsamp haccV
      ((chunkAt .u8 hc x).1 + j) (0 + y) ch (by omega) (by omega) hc'
    rwa [Nat.zero_add] at this ⊢

def idealTemp16 (src : Img) (yFirst : Nat) (hc : Coeffs) (wsH : Nat → List ℚ) (x ty ch : Nat) : ℚ :=
  max 0 (min 65535 (idealDotQ (wsH x) (hWindow .u16 src yFirst hc x ty ch)))

def idealTwoPass16 (src : Img) (yFirst : Nat) (hc vc : Coeffs) (wsH wsV : Nat → List ℚ) (x y ch : Nat) : ℚ :=
  max 0 (min 65535 (idealDotQQ (wsV y)
    ((List.range (chunkAt .u16 vc y).2.size).map fun j => idealTemp16 src yFirst hc wsH x ((chunkAt .u16 vc y).1 + j) ch)))

theorem twoPass_err_u16 (src : Img) (dstW dstH tempH yFirst : Nat) (hc vc : Coeffs) (wsH wsV : Nat → List ℚ)
    (hpH1 : 1 ≤ (qOf .u16 hc).precision) (hpH : (qOf .u16 hc).precision < 64)
    (hpV1 : 1 ≤ (qOf .u16 vc).precision) (hpV : (qOf .u16 vc).precision < 64)
    (hlenH : ∀ x, x < dstW → (chunkAt .u16 hc x).2.toList.length = (wsH x).length)
    (hqH : ∀ x, x < dstW → ∀ i, i < (wsH x).length →
      |(((chunkAt .u16 hc x).2.toList.getD i 0 : Int) : ℚ) - (wsH x).getD i 0 * 2 ^ (qOf .u16 hc).precision| ≤ 1 / 2)
    (hsamp : ∀ x y ch, x < dstW → y < tempH → ch < src.n → ∀ s ∈ hWindow .u16 src yFirst hc x y ch, 0 ≤ s ∧ s ≤ 65535)
    (haccH : ∀ x y ch, x < dstW → y < tempH → ch < src.n →
      AccOK16 (chunkAt .u16 hc x).2.toList (hWindow .u16 src yFirst hc x y ch) (qOf .u16 hc).precision)
    (hlenV : ∀ y, y < dstH → (chunkAt .u16 vc y).2.toList.length = (wsV y).length)
    (hqV : ∀ y, y < dstH → ∀ i, i < (wsV y).length →
      |(((chunkAt .u16 vc y).2.toList.getD i 0 : Int) : ℚ) - (wsV y).getD i 0 * 2 ^ (qOf .u16 vc).precision| ≤ 1 / 2)
    (hfit : ∀ y, y < dstH → (chunkAt .u16 vc y).1 + (chunkAt .u16 vc y).2.size ≤ tempH)
    (haccV : ∀ x y ch, x < dstW → y < dstH → ch < src.n →
      AccOK16 (chunkAt .u16 vc y).2.toList (vWindow .u16 (horizPass .u16 src dstW tempH yFirst hc) 0 vc x y ch) (qOf .u16 vc).precision)
    (x y ch : Nat) (hx : x < dstW) (hy : y < dstH) (hc' : ch < src.n) :
    |(((vertPass .u16 (horizPass .u16 src dstW tempH yFirst hc) dstW dstH 0 vc).get x y ch : Int) : ℚ)
        - idealTwoPass16 src yFirst hc vc wsH wsV x y ch|
      ≤ (1 / 2 + ((wsV y).length : ℚ) * 65535 / 2 ^ ((qOf .u16 vc).precision + 1))
        + ((wsV y).map (|·|)).sum * (1 / 2 + ((wsH x).length : ℚ) * 65535 / 2 ^ ((qOf .u16 hc).precision + 1)) := by
  have hf := hfit y hy
  rw [vertPass_get (.inr rfl) hx hy (src := horizPass .u16 src dstW tempH yFirst hc) hc']
  refine passInt_err_of_close (.inr rfl) (wsV y) _ _ _ hpV1 (hlenV y hy)
    (by rw [← hlenV y hy, Array.length_toList]) (hqV y hy) (fun j hj => ?_) (haccV x y ch hx hy hc') fun j hj => ?_
  · rw [horizPass_get (.inr rfl) (by omega) (by omega) hc']
    exact passInt_range (.inr rfl) (haccH _ _ ch (by omega) (by omega) hc')
  · have := horizPass_err_u16 src dstW tempH yFirst hc wsH hpH1 hpH hlenH hqH hsamp haccH
      (0 + x) ((chunkAt .u16 vc y).1 + j) ch (by omega) (by omega) hc'
    rwa [Nat.zero_add] at this ⊢

/-! ### the link to `doConvolution` (float-oblivious: the Boolean outcomes of the float tests are hypotheses) -/

/-- when both passes are needed and the pixel type is 8-bit, `doConvolution` IS the composition the
    theorems above speak about (temporary image = columns `[boundsFirst, boundsLast)` of the vertical pass,
    horizontal windows shifted by `boundsFirst`) -/
theorem doConvolution_two_pass_u8 (p : PixT) (hk : p.kind = .u8) (src prev : Img) (cl ct cw ch : Float) (f : FilterSpec) (adaptive : Bool)
    (hw : prev.w ≠ 0) (hh : prev.h ≠ 0) (hcw : (cw ≤ 0.0) = false) (hch : (ch ≤ 0.0) = false)
    (hneedH : (Float.ofNat prev.w != cw || cl != cl.round) = true)
    (hneedV : (Float.ofNat prev.h != ch || ct != ct.round) = true)
    (htemp : boundsLast (precomputeCoefficients src.w cl (cl + cw) prev.w f adaptive)
              - boundsFirst (precomputeCoefficients src.w cl (cl + cw) prev.w f adaptive) ≠ 0) :
    let hc := precomputeCoefficients src.w cl (cl + cw) prev.w f adaptive
    let vc := precomputeCoefficients src.h ct (ct + ch) prev.h f adaptive
    doConvolution p src cl ct cw ch prev f adaptive =
      horizPass .u8 (vertPass .u8 src (boundsLast hc - boundsFirst hc) prev.h (boundsFirst hc) vc) prev.w prev.h 0
        { hc with bounds := hc.bounds.map fun b => (b.1 - boundsFirst hc, b.2) } := by
  intro hc vc
  have hne : ¬ (prev.w = 0 ∨ prev.h = 0 ∨ cw ≤ 0.0 ∨ ch ≤ 0.0) := by simp [hw, hh, hcw, hch]
  have hk' : (p.kind == CKind.u8) = true := by rw [hk]; rfl
  unfold doConvolution
  simp only [if_neg hne, hneedH, hneedV, ite_true, hk', if_neg htemp]
  rw [hk]
  rfl

theorem doConvolution_two_pass_not_u8 (p : PixT) (hk : (p.kind == CKind.u8) = false) (src prev : Img) (cl ct cw ch : Float) (f : FilterSpec) (adaptive : Bool)
    (hw : prev.w ≠ 0) (hh : prev.h ≠ 0) (hcw : (cw ≤ 0.0) = false) (hch : (ch ≤ 0.0) = false)
    (hneedH : (Float.ofNat prev.w != cw || cl != cl.round) = true)
    (hneedV : (Float.ofNat prev.h != ch || ct != ct.round) = true) :
    let hc := precomputeCoefficients src.w cl (cl + cw) prev.w f adaptive
    let vc := precomputeCoefficients src.h ct (ct + ch) prev.h f adaptive
    doConvolution p src cl ct cw ch prev f adaptive =
      vertPass p.kind (horizPass p.kind src prev.w (boundsLast vc - boundsFirst vc) (boundsFirst vc) hc) prev.w prev.h 0
        { vc with bounds := vc.bounds.map fun b => (b.1 - boundsFirst vc, b.2) } := by
  intro hc vc
  have hne : ¬ (prev.w = 0 ∨ prev.h = 0 ∨ cw ≤ 0.0 ∨ ch ≤ 0.0) := by simp [hw, hh, hcw, hch]
  unfold doConvolution
  simp only [if_neg hne, hneedH, hneedV, ite_true, hk]
  rfl

end Fir.Proofs
