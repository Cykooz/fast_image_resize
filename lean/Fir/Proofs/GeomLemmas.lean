/-
  Fir.Proofs.GeomLemmas - the clamped window `[x_min, x_max)` of `precompute_coefficients`
  (src/convolution/mod.rs) for an arbitrary rounding function:

      x_min = (in_center - filter_radius).floor().max(0.) as u32
      x_max = (in_center + filter_radius).ceil().min(in_size as f64) as u32
      window_size = (filter_radius.ceil() as usize * 2 + 1).min(in_size)       (saturating)

  `fl : ℚ → ℚ` rounds the one subtraction / addition; it is only assumed monotone and exact on the few integers
  named in each statement (IEEE round-to-nearest is exact on all integers up to 2^53: `Fir.Ieee.flP_int`).  `c` is the centre *as computed* (whatever rounding produced it),
  `r ≥ 0` the radius as computed.  The last section does the same for the signs of the weights and coefficients (C18).
-/
import Mathlib.Data.Rat.Floor
import Fir.Proofs.FloatLemmas

namespace Fir.Proofs

/-- `x_min` -/
def xMinOf (fl : ℚ → ℚ) (c r : ℚ) : ℕ := ⌊fl (c - r)⌋.toNat
/-- `x_max` -/
def xMaxOf (fl : ℚ → ℚ) (c r : ℚ) (inSize : ℕ) : ℕ := min ⌈fl (c + r)⌉.toNat inSize
/-- `window_size` -/
def windowSizeOf (r : ℚ) (inSize : ℕ) : ℕ := min (⌈r⌉.toNat * 2 + 1) inSize

theorem floor_ge_of_int (fl : ℚ → ℚ) (hfl : Monotone fl) (x : ℚ) (n : ℤ) (hn : fl n = n) (h : (n : ℚ) ≤ x) :
    n ≤ ⌊fl x⌋ :=
  Int.le_floor.mpr (Flt.le_fl hfl hn h)

theorem ceil_le_of_int (fl : ℚ → ℚ) (hfl : Monotone fl) (x : ℚ) (n : ℤ) (hn : fl n = n) (h : x ≤ (n : ℚ)) :
    ⌈fl x⌉ ≤ n :=
  Int.ceil_le.mpr (Flt.fl_le hfl hn h)

theorem span_int (fl : ℚ → ℚ) (hfl : Monotone fl) (c r : ℚ)
    (h1 : fl ((⌈c⌉ + ⌈r⌉ : ℤ) : ℚ) = ((⌈c⌉ + ⌈r⌉ : ℤ) : ℚ)) (h2 : fl ((⌊c⌋ - ⌈r⌉ : ℤ) : ℚ) = ((⌊c⌋ - ⌈r⌉ : ℤ) : ℚ)) :
    ⌈fl (c + r)⌉ - ⌊fl (c - r)⌋ ≤ 2 * ⌈r⌉ + 1 := by
  have h1' : ⌈fl (c + r)⌉ ≤ ⌈c⌉ + ⌈r⌉ :=
    ceil_le_of_int fl hfl _ _ h1 (by push_cast; exact add_le_add (Int.le_ceil c) (Int.le_ceil r))
  have h2' : ⌊c⌋ - ⌈r⌉ ≤ ⌊fl (c - r)⌋ :=
    floor_ge_of_int fl hfl _ _ h2 (by push_cast; exact sub_le_sub (Int.floor_le c) (Int.le_ceil r))
  have h3 : ⌈c⌉ ≤ ⌊c⌋ + 1 := Int.ceil_le_floor_add_one c
  omega

/-- **`x_min ≤ x_max`** (so `bound_end - bound_start` cannot underflow and `Bounds.window` applies) as
    soon as the radius is non-negative and the window starts inside the image; `fl` only has to be exact on
    the integer `in_size` -/
theorem xmin_le_xmax (fl : ℚ → ℚ) (hfl : Monotone fl) (c r : ℚ) (inSize : ℕ)
    (hsz : fl ((inSize : ℤ) : ℚ) = ((inSize : ℤ) : ℚ))
    (hr : 0 ≤ r) (hin : c - r ≤ inSize) : xMinOf fl c r ≤ xMaxOf fl c r inSize := by
  unfold xMinOf xMaxOf
  apply le_min
  · apply Int.toNat_le_toNat
    have h1 : fl (c - r) ≤ fl (c + r) := hfl (by linarith)
    exact (Int.floor_le_floor h1).trans (Int.floor_le_ceil _)
  · have h : ⌊fl (c - r)⌋ ≤ (inSize : ℤ) :=
      (Int.floor_le_ceil _).trans (ceil_le_of_int fl hfl _ _ hsz (by exact_mod_cast hin))
    omega

/-- **every window fits into `window_size` slots**: `x_max - x_min ≤ min(2⌈r⌉ + 1, in_size)`, so
    `coeffs.resize(cur_index + window_size, 0.)` never truncates the weights just pushed and
    `get_chunks`' `values[0..bound.size]` stays inside its chunk - also with the clamp to `in_size` -/
theorem span_le_window (fl : ℚ → ℚ) (hfl : Monotone fl) (c r : ℚ) (inSize : ℕ) (hr : 0 ≤ r)
    (h1 : fl ((⌈c⌉ + ⌈r⌉ : ℤ) : ℚ) = ((⌈c⌉ + ⌈r⌉ : ℤ) : ℚ)) (h2 : fl ((⌊c⌋ - ⌈r⌉ : ℤ) : ℚ) = ((⌊c⌋ - ⌈r⌉ : ℤ) : ℚ)) :
    xMaxOf fl c r inSize - xMinOf fl c r ≤ windowSizeOf r inSize := by
  unfold xMinOf xMaxOf windowSizeOf
  have hs := span_int fl hfl c r h1 h2
  have hr' : 0 ≤ ⌈r⌉ := Int.ceil_nonneg hr
  have e : ((⌈r⌉.toNat : ℕ) : ℤ) = ⌈r⌉ := Int.toNat_of_nonneg hr'
  apply le_min
  · have : (min ⌈fl (c + r)⌉.toNat inSize : ℕ) ≤ ⌈fl (c + r)⌉.toNat := min_le_left _ _
    omega
  · have : (min ⌈fl (c + r)⌉.toNat inSize : ℕ) ≤ inSize := min_le_right _ _
    omega

/-! ### signs: non-negative kernel values give non-negative weights and coefficients (`ww += w`, `w /= ww`; normalisers:
    `(w * 2^p).round() as i16 / i32`), for every monotone rounding with `fl 0 = 0` -/

/-- Rust's `f64::round` (half away from zero) as an integer -/
def roundHalfAway (p : ℚ) : ℤ := if 0 ≤ p then ⌊p + 1 / 2⌋ else -⌊-p + 1 / 2⌋

theorem roundHalfAway_nonneg (p : ℚ) (hp : 0 ≤ p) : 0 ≤ roundHalfAway p := by
  unfold roundHalfAway
  rw [if_pos hp]
  exact Int.floor_nonneg.mpr (by linarith)

theorem sum_weights_nonneg (fl : ℚ → ℚ) (hfl : Monotone fl) (h0 : fl 0 = 0) (ws : List ℚ) (hw : ∀ w ∈ ws, 0 ≤ w)
    (s : ℚ) (hs : 0 ≤ s) : 0 ≤ ws.foldl (fun s w => fl (s + w)) s := by
  induction ws generalizing s with
  | nil => exact hs
  | cons w ws ih =>
    rw [List.forall_mem_cons] at hw
    exact ih hw.2 _ (Flt.le_fl hfl h0 (add_nonneg hs hw.1))

theorem nonneg_weights (fl : ℚ → ℚ) (hfl : Monotone fl) (h0 : fl 0 = 0) (w ww P : ℚ) (hw : 0 ≤ w) (hww : 0 < ww) (hP : 0 ≤ P) :
    0 ≤ fl (w / ww) ∧ 0 ≤ roundHalfAway (fl (fl (w / ww) * P)) := by
  have h1 : 0 ≤ fl (w / ww) := Flt.le_fl hfl h0 (by positivity)
  exact ⟨h1, roundHalfAway_nonneg _ (Flt.le_fl hfl h0 (mul_nonneg h1 hP))⟩

end Fir.Proofs
