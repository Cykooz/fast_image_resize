/-
  Fir.Proofs.ColorLemmas - the complete-domain check `tableOk` of a colour table, lifted to
  ∀-statements, and `tableAsc`, a check that walks the packed chunks once and implies it.
-/
import Fir.Model.ColorTable
import Fir.Proofs.PackedFields
namespace Fir.Proofs

theorem tableOk_endpoints (n bits : Nat) (chunks : List Nat) (h : tableOk n bits chunks = true) :
    tableEntry bits chunks 0 = 0 ∧ tableEntry bits chunks (n - 1) = 2 ^ bits - 1 := by
  simp only [tableOk, Bool.and_eq_true, beq_iff_eq] at h
  exact ⟨h.1.1, h.1.2⟩

theorem tableOk_step (n bits : Nat) (chunks : List Nat) (h : tableOk n bits chunks = true)
    (i : Nat) (hi : i + 1 < n) (hn : n % 256 = 0) :
    tableEntry bits chunks i ≤ tableEntry bits chunks (i + 1) := by
  simp only [tableOk, Bool.and_eq_true, List.all_eq_true, List.mem_range, Bool.or_eq_true,
    decide_eq_true_eq] at h
  have h2 := h.2 (i / 256) (by omega) (i % 256) (Nat.mod_lt _ (by decide))
  rw [Nat.div_add_mod] at h2
  omega

theorem tableOk_mono (n bits : Nat) (chunks : List Nat) (h : tableOk n bits chunks = true) (hn : n % 256 = 0)
    (i j : Nat) (hij : i ≤ j) (hj : j < n) : tableEntry bits chunks i ≤ tableEntry bits chunks j := by
  induction hij with
  | refl => exact Nat.le_refl _
  | step _ ih => exact Nat.le_trans (ih (by omega)) (tableOk_step n bits chunks h _ hj hn)

/-! ### a cheaper check

`tableOk` looks every entry up by its index: the kernel walks the chunk list anew for each of the 65,536
entries.  `tableAsc` visits each chunk once and compares its 256 fields with their successors all at once
(`fieldsAscB`). -/

theorem tableEntry_eq_field (bits : Nat) (chunks : List Nat) (i : Nat) :
    tableEntry bits chunks i = field bits (chunks.getD (i / 256) 0) (i % 256) := rfl

def chunksAsc (bits : Nat) : List Nat → Bool
  | c :: d :: l => fieldsAscB bits 128 c && Nat.ble (field bits c 255) (field bits d 0) && chunksAsc bits (d :: l)
  | [c] => fieldsAscB bits 128 c
  | [] => true

def tableAsc (n bits : Nat) (chunks : List Nat) : Bool :=
  n == 256 * chunks.length && Nat.ble 1 bits && field bits (chunks.headD 0) 0 == 0 &&
  field bits (chunks.getLastD 0) 255 == 2 ^ bits - 1 && chunksAsc bits chunks

theorem chunksAsc_getD {bits : Nat} {chunks : List Nat} (h : chunksAsc bits chunks = true) (q : Nat)
    (hq : q < chunks.length) :
    fieldsAscB bits 128 (chunks.getD q 0) = true ∧
    (q + 1 < chunks.length → field bits (chunks.getD q 0) 255 ≤ field bits (chunks.getD (q + 1) 0) 0) := by
  fun_induction chunksAsc bits chunks generalizing q with
  | case1 c d l ih =>
    simp only [Bool.and_eq_true, Nat.ble_eq] at h
    cases q with
    | zero => exact ⟨h.1.1, fun _ => h.1.2⟩
    | succ q => simpa using ih h.2 q (by simpa using hq)
  | case2 c =>
    obtain rfl : q = 0 := by simpa using hq
    exact ⟨h, by simp⟩
  | case3 => simp at hq

theorem chunksAsc_step {bits : Nat} {chunks : List Nat} (hb : 1 ≤ bits) (h : chunksAsc bits chunks = true)
    (i : Nat) (hi : i + 1 < 256 * chunks.length) :
    tableEntry bits chunks i ≤ tableEntry bits chunks (i + 1) := by
  obtain ⟨hasc, hnext⟩ := chunksAsc_getD h (i / 256) (by omega)
  simp only [tableEntry_eq_field]
  by_cases hr : i % 256 = 255
  · rw [show (i + 1) / 256 = i / 256 + 1 by omega, show (i + 1) % 256 = 0 by omega, hr]
    exact hnext (by omega)
  · rw [show (i + 1) / 256 = i / 256 by omega, show (i + 1) % 256 = i % 256 + 1 by omega]
    exact fieldsAscB_le hb hasc (by omega)

theorem tableOk_of_tableAsc {n bits : Nat} {chunks : List Nat} (h : tableAsc n bits chunks = true) :
    tableOk n bits chunks = true := by
  simp only [tableAsc, Bool.and_eq_true, beq_iff_eq, Nat.ble_eq] at h
  obtain ⟨⟨⟨⟨hn, hb⟩, h0⟩, hlast⟩, hasc⟩ := h
  simp only [tableOk, Bool.and_eq_true, beq_iff_eq, List.all_eq_true, List.mem_range, Bool.or_eq_true,
    decide_eq_true_eq]
  cases chunks with
  | nil => subst hn; simpa [tableEntry_eq_field, field] using hlast
  | cons c l =>
    refine ⟨⟨h0, ?_⟩, ?_⟩
    · rw [← hlast, tableEntry_eq_field]
      have hpos : 0 < (c :: l).length := Nat.succ_pos _
      have e1 : (n - 1) / 256 = (c :: l).length - 1 := by omega
      have e2 : (n - 1) % 256 = 255 := by omega
      rw [e1, e2, List.getLastD_eq_getLast?, List.getLast?_eq_getElem?, List.getD_eq_getElem?_getD]
    · intro hi _ lo hlo
      by_cases hlt : 256 * hi + lo + 1 < n
      · exact Or.inr (chunksAsc_step hb hasc _ (hn ▸ hlt))
      · exact Or.inl (by omega)

end Fir.Proofs
