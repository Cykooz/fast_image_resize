/-
  Fir.Proofs.SimdU8x1Lemmas - the SSE4.1 horizontal kernels for single-channel 8-bit images (src/convolution/u8x1/sse4.rs,
  `Fir.Model.SimdU8x1`) equal the portable kernel: the four lanes together gain the dot product of the coefficients consumed
  (`spec`).
-/
import Fir.Model.SimdU8x1
import Fir.Proofs.SimdLanes

namespace Fir.Proofs
open Fir.SimdU8x1 Fir.Gen Fir.Proofs.Lanes
open Fir.SimdU8x4 (wrap32 wrap16 add32 madd i16At kBytes low64)

/-- the horizontal sum of four wrapped lanes and the wrapped rounding constant -/
theorem w32_sum5 (a b c d e : Int) : wrap32 (wrap32 a + wrap32 b + wrap32 c + wrap32 d + wrap32 e) = wrap32 (a + b + c + d + e) :=
  wrapInt_add_congr (wrapInt_add_congr (wrapInt_add_congr (wrapInt_add_congr (wrapInt_idem 32 a) (wrapInt_idem 32 b))
    (wrapInt_idem 32 c)) (wrapInt_idem 32 d)) (wrapInt_idem 32 e)

theorem scalar_eq (row : List Int) : ∀ (ks : List Int) (x : Nat) (t : Int), scalar row ks x (wrap32 t) = wrap32 (t + dot1 row ks x)
  | [], x, t => by rw [scalar, dot1, add_zero]
  | k :: ks, x, t => by simp only [scalar, wrapInt_add, scalar_eq row ks, dot1, add_assoc]

theorem scalar_clip {row a b : List Int} {x p : Nat} {v : Int} (h : v = wrap32 (2 ^ (p - 1) + dot1 row a x)) :
    (clip8_table (clip16_index (scalar row b (x + a.length) v) p) : Int) = clip8 (2 ^ (p - 1) + dot1 row (a ++ b) x) p := by
  rw [h, scalar_eq, dot_append (d := dot1 row) (fun _ => rfl) (fun _ _ _ => rfl), add_assoc]
  rfl

namespace U8x1

abbrev enc : (Nat → Int) → List Int := regs 32 4

def spec (row : List Int) : Spec :=
  .sums (fun δ _ => δ 0 + δ 1 + δ 2 + δ 3) (fun _ => dot1 row) (fun _ _ => by funext _; simp only [Pi.add_apply]; ac_rfl)
    (fun _ _ => rfl) (fun _ _ _ _ => rfl)

theorem step8 (row : List Int) (x : Nat) : ∀ k : List Int, k.length = 8 → Step enc (spec row) (fun s => acc8 s row x k) k x
  | [k0, k1, k2, k3, k4, k5, k6, k7], _ => by
    refine ⟨vec [row.getD (x + 0) 0 % 256 * wrap16 k0 + row.getD (x + 1) 0 % 256 * wrap16 k1,
                row.getD (x + 2) 0 % 256 * wrap16 k2 + row.getD (x + 3) 0 % 256 * wrap16 k3,
                row.getD (x + 4) 0 % 256 * wrap16 k4 + row.getD (x + 5) 0 % 256 * wrap16 k5,
                row.getD (x + 6) 0 % 256 * wrap16 k6 + row.getD (x + 7) 0 % 256 * wrap16 k7], ?_, fun t => ?_⟩
    · funext _; simp only [lanes, lanes_proc, dot1]; ac_rfl
    · simp only [lanes, lanes_proc, acc8, cvt, add32, madd, i16At, kBytes]

theorem step4 (row : List Int) (x : Nat) : ∀ k : List Int, k.length = 4 → Step enc (spec row) (fun s => acc4 s row x k) k x
  | [k0, k1, k2, k3], _ => by
    refine ⟨vec [row.getD (x + 0) 0 % 256 * wrap16 k0 + row.getD (x + 1) 0 % 256 * wrap16 k1,
                row.getD (x + 2) 0 % 256 * wrap16 k2 + row.getD (x + 3) 0 % 256 * wrap16 k3, 0, 0], ?_, fun t => ?_⟩
    · funext _; simp only [lanes, lanes_proc, dot1]; ac_rfl
    · simp only [lanes, lanes_proc, acc4, cvt, low64, add32, madd, i16At, kBytes]

/-- the vector pieces `f` of the kernel run from zero, `buf.iter().sum()`, the scalar remainder `b` and the clip -/
theorem finish {row : List Int} {f : List Int → List Int} {a : List Int} {x : Nat} (hf : Step enc (spec row) f a x) (b : List Int)
    (p : Nat) :
    (clip8_table (clip16_index (scalar row b (x + a.length)
        (wrap32 ((f [0, 0, 0, 0]).getD 0 0 + (f [0, 0, 0, 0]).getD 1 0 + (f [0, 0, 0, 0]).getD 2 0 + (f [0, 0, 0, 0]).getD 3 0
          + wrap32 (2 ^ (p - 1))))) p) : Int)
      = clip8 (2 ^ (p - 1) + dot1 row (a ++ b) x) p := by
  obtain ⟨δ, hδ, hf⟩ := hf
  refine scalar_clip ?_
  rw [show f [0, 0, 0, 0] = enc δ from (hf 0).trans (congrArg enc (zero_add δ)),
    ← show δ 0 + δ 1 + δ 2 + δ 3 = dot1 row a x from congrFun hδ 0, add_comm (2 ^ (p - 1))]
  exact w32_sum5 ..

end U8x1
open U8x1 in
/-- the SSE4.1 kernels for single-channel 8-bit images equal the portable kernel (one row and each of four rows) -/
theorem u8x1_sse4_pixel_eq_portable (p : Nat) (row : List Int) (start : Nat) (ks : List Int) :
    SimdU8x1.pixel p row start ks = clip8 (2 ^ (p - 1) + dot1 row ks start) p := by
  obtain ⟨f, hf, hrun⟩ := chunk_loop (Step.pieces enc (spec row)) (n := 8) (loop := loop8 row) (body := fun s x k => acc8 s row x k)
    (fin := (·, ·, ·)) (fun ks x s => by rw [loop8]; rfl) (fun ks x h => step8 row x _ (List.length_take_of_le h))
    (ks.length / 8) ks start (by omega) (by omega)
  obtain ⟨m, hm⟩ : ∃ m, m = 8 * (ks.length / 8) := ⟨_, rfl⟩
  rw [← hm] at hf hrun
  obtain ⟨j, g, hj, hg, hopt⟩ := opt_step (Step.pieces enc (spec row)) (n := 4) (body := fun s x k => acc4 s row x k)
    (fun ks x h => step4 row x _ (List.length_take_of_le h)) (ks.drop m) (start + m)
  have hl := length_take_take start (by omega) hj
  have := finish (hf.comp_take (by omega) hg) ((ks.drop m).drop j) p
  rw [hl, List.append_assoc, List.take_append_drop, List.take_append_drop] at this
  unfold pixel
  simp only [hrun, hopt]
  exact this

end Fir.Proofs
