/-
  Fir.Proofs.AlphaImageLemmas - C07 on whole images of the executable model: in the result of the
  alpha-aware convolution a pixel whose resampled alpha is zero has zero colour, and for a fully opaque
  source whose resampled alpha stays opaque the alpha-aware result equals the plain one.
-/
import Fir.Model.Resizer
import Fir.Props.C06
namespace Fir.Proofs
open Fir.Gen

theorem mul_div_255_opaque (c : Nat) (hc : c < 256) : mul_div_255 c 255 = c :=
  (Fir.C06.mul_div_255_exact c 255 hc (by omega)).1.trans (mulExact_opaque 255 c (by omega))

theorem div_and_clip_opaque (c : Nat) (hc : c < 256) : div_and_clip c (recip_alpha 255) = c :=
  divFaithful_opaque 255 c _ (by omega) (by omega) (Fir.C06.div8_faithful c 255 hc (by omega)).2

theorem mul_div_65535_opaque (c : Nat) (hc : c < 65536) : mul_div_65535 c 65535 = c :=
  (Fir.C06.mul_div_65535_exact c 65535 hc (by omega)).1.trans (mulExact_opaque 65535 c (by omega))

theorem div_and_clip16_opaque (c : Nat) (hc : c < 65536) : div_and_clip16 c (recip_alpha16 65535) = c :=
  divFaithful_opaque 65535 c _ (by omega) (by omega) (Fir.C06.div16_faithful c 65535 hc (by omega))

theorem mulComp_opaque (k : CKind) (hk : k = .u8 ∨ k = .u16) (c : Int) (h0 : 0 ≤ c) (h1 : c ≤ k.maxVal) :
    mulComp k c k.maxVal = c := by
  rcases hk with rfl | rfl <;> simp only [CKind.maxVal] at h1
  · exact (congrArg Nat.cast (mul_div_255_opaque c.toNat (by omega))).trans (Int.toNat_of_nonneg h0)
  · exact (congrArg Nat.cast (mul_div_65535_opaque c.toNat (by omega))).trans (Int.toNat_of_nonneg h0)

theorem divComp_opaque (k : CKind) (hk : k = .u8 ∨ k = .u16) (c : Int) (h0 : 0 ≤ c) (h1 : c ≤ k.maxVal) :
    divComp k c k.maxVal = c := by
  rcases hk with rfl | rfl <;> simp only [CKind.maxVal] at h1
  · exact (congrArg Nat.cast (div_and_clip_opaque c.toNat (by omega))).trans (Int.toNat_of_nonneg h0)
  · exact (congrArg Nat.cast (div_and_clip16_opaque c.toNat (by omega))).trans (Int.toNat_of_nonneg h0)

theorem mulPixels_opaque (p : PixT) (hk : p.kind = .u8 ∨ p.kind = .u16) (hn : 1 ≤ p.n) (px : Array Int)
    (hrange : ∀ i, i < px.size → 0 ≤ px[i]! ∧ px[i]! ≤ p.kind.maxVal)
    (hopaque : ∀ i, i < px.size → i % p.n = p.n - 1 → px[i]! = p.kind.maxVal)
    (hwhole : px.size % p.n = 0) :
    mulPixels p px = px :=
  mapAlphaPixels_opaque p.n (mulComp p.kind) p.kind.maxVal hn px
    (fun c h0 h1 => mulComp_opaque p.kind hk c h0 h1) hrange hopaque hwhole

theorem divPixels_opaque (p : PixT) (hk : p.kind = .u8 ∨ p.kind = .u16) (hn : 1 ≤ p.n) (px : Array Int)
    (hrange : ∀ i, i < px.size → 0 ≤ px[i]! ∧ px[i]! ≤ p.kind.maxVal)
    (hopaque : ∀ i, i < px.size → i % p.n = p.n - 1 → px[i]! = p.kind.maxVal)
    (hwhole : px.size % p.n = 0) :
    divPixels p px = px :=
  mapAlphaPixels_opaque p.n (divComp p.kind) p.kind.maxVal hn px
    (fun c h0 h1 => divComp_opaque p.kind hk c h0 h1) hrange hopaque hwhole

theorem resampleConvolution_alpha {p : PixT} (hsup : Gen.alphaSupported.contains p.name = true)
    (src prev : Img) (cl ct cw ch : Float) (f : FilterSpec) (adaptive : Bool) :
    resampleConvolution p src cl ct cw ch prev f adaptive true
      = divImg p (doConvolution p (mulImg p src) cl ct cw ch prev f adaptive) := by
  rw [resampleConvolution, hsup]
  rfl

theorem resize_alpha_congr (p : PixT) (src src' prev : Img) (cl ct cw ch : Float) (f : FilterSpec) (adaptive : Bool)
    (hsup : Gen.alphaSupported.contains p.name = true)
    (hw : src'.w = src.w) (hh : src'.h = src.h) (hn : src'.n = src.n)
    (hmul : mulPixels p src.data = mulPixels p src'.data) :
    resampleConvolution p src cl ct cw ch prev f adaptive true = resampleConvolution p src' cl ct cw ch prev f adaptive true := by
  rw [resampleConvolution_alpha hsup, resampleConvolution_alpha hsup, mulImg, mulImg, hw, hh, hn, hmul]

/-- C07, second clause, on the model's alpha-aware convolution: a destination pixel whose resampled alpha
    is zero has zero colour (alpha is the last of the `p.n` components; `q` is a pixel index) -/
theorem resampleConvolution_zero_alpha_zero_colour (p : PixT) (hk : p.kind = .u8 ∨ p.kind = .u16) (hn : 2 ≤ p.n)
    (hsup : Gen.alphaSupported.contains p.name = true)
    (src prev : Img) (cl ct cw ch : Float) (f : FilterSpec) (adaptive : Bool) (q c : Nat) (hc : c < p.n - 1)
    (hq : q * p.n + (p.n - 1) < (resampleConvolution p src cl ct cw ch prev f adaptive true).data.size)
    (ha : (resampleConvolution p src cl ct cw ch prev f adaptive true).data[q * p.n + (p.n - 1)]! = 0) :
    (resampleConvolution p src cl ct cw ch prev f adaptive true).data[q * p.n + c]! = 0 := by
  rw [resampleConvolution_alpha hsup] at hq ha ⊢
  generalize doConvolution p (mulImg p src) cl ct cw ch prev f adaptive = X at hq ha ⊢
  -- the alpha that was divided by is the alpha of the result
  have hq' : q * p.n + (p.n - 1) < X.data.size := (mapAlphaPixels_size ..) ▸ hq
  rw [divImg, divPixels, mapAlphaPixels_getElem! _ _ _ _ hq', if_pos (Nat.mul_add_mod_of_lt (by omega))] at ha
  exact divPixels_zero_alpha p hk hn X.data q c hq' hc ha

/-- C07, third clause: for a fully opaque source whose convolved alpha channel is again fully opaque (C10:
    a constant channel stays constant) and whose convolved components are in range, alpha handling is a no-op -/
theorem resampleConvolution_opaque_noop (p : PixT) (hk : p.kind = .u8 ∨ p.kind = .u16) (hn : 1 ≤ p.n)
    (src prev : Img) (cl ct cw ch : Float) (f : FilterSpec) (adaptive : Bool)
    (hsrc_range : ∀ i, i < src.data.size → 0 ≤ src.data[i]! ∧ src.data[i]! ≤ p.kind.maxVal)
    (hsrc_opaque : ∀ i, i < src.data.size → i % p.n = p.n - 1 → src.data[i]! = p.kind.maxVal)
    (hsrc_whole : src.data.size % p.n = 0)
    (hres_range : ∀ i, i < (doConvolution p src cl ct cw ch prev f adaptive).data.size →
        0 ≤ (doConvolution p src cl ct cw ch prev f adaptive).data[i]! ∧ (doConvolution p src cl ct cw ch prev f adaptive).data[i]! ≤ p.kind.maxVal)
    (hres_opaque : ∀ i, i < (doConvolution p src cl ct cw ch prev f adaptive).data.size → i % p.n = p.n - 1 →
        (doConvolution p src cl ct cw ch prev f adaptive).data[i]! = p.kind.maxVal)
    (hres_whole : (doConvolution p src cl ct cw ch prev f adaptive).data.size % p.n = 0) :
    resampleConvolution p src cl ct cw ch prev f adaptive true = resampleConvolution p src cl ct cw ch prev f adaptive false := by
  cases hs : Gen.alphaSupported.contains p.name
  · rw [resampleConvolution, resampleConvolution, hs]
    rfl
  · have hm : mulImg p src = src := by
      rw [mulImg, mulPixels_opaque p hk hn _ hsrc_range hsrc_opaque hsrc_whole]
    rw [resampleConvolution_alpha hs, hm, divImg, divPixels_opaque p hk hn _ hres_range hres_opaque hres_whole]
    rfl

end Fir.Proofs
