/-
  Fir.Proofs.DivG - faithful division: a result is *faithful* when it is one of the two integers around the
  exact quotient `c·m/a` (`Fir.Spec.divFaithful` adds the saturation at `m`).  The reciprocal-multiply
  division of src/alpha/common.rs is faithful, for any constants.  Also here: how a floating-point computation meets
  `divFaithful` (`divFaithful_of_close`), and both spec predicates at full alpha (`mulExact_opaque`, `divFaithful_opaque`).
-/
import Mathlib.Tactic.Linarith
import Fir.Spec.Alpha

namespace Fir.Proofs
open Fir.Spec

theorem ceil_le_floor_succ (n : ℕ) {a : ℕ} (ha : 0 < a) : (n + a - 1) / a ≤ n / a + 1 :=
  (Nat.div_le_div_right (Nat.sub_le _ 1)).trans (Nat.add_div_right n ha).le

theorem between_of_mul {n a r : ℕ} (ha : 0 < a) (h1 : n < (r + 1) * a) (h2 : r * a < n + a) :
    n / a ≤ r ∧ r ≤ (n + a - 1) / a :=
  ⟨Nat.le_of_lt_succ ((Nat.div_lt_iff_lt_mul ha).mpr h1), (Nat.le_div_iff_mul_le ha).mpr (by omega)⟩

theorem divFaithful_of_between {m c a r : ℕ} (ha : 0 < a) (h : c * m / a ≤ r ∧ r ≤ (c * m + a - 1) / a) :
    divFaithful m c a (min r m) := by
  have := ceil_le_floor_succ (c * m) ha
  unfold divFaithful
  rw [if_neg ha.ne']
  omega

theorem faithful_within_one (m c a r r' : ℕ) (h : divFaithful m c a r) (h' : divFaithful m c a r') :
    (r : ℤ) - r' ≤ 1 ∧ (r' : ℤ) - r ≤ 1 := by
  unfold divFaithful at h h'
  rcases Nat.eq_zero_or_pos a with rfl | ha
  · simp only [if_true] at h h'; omega
  · have h3 := ceil_le_floor_succ (c * m) ha
    have h4 : c * m / a ≤ (c * m + a - 1) / a := Nat.div_le_div_right (by omega)
    rw [if_neg ha.ne'] at h h'
    omega

/-- Core of the reciprocal-multiply division: with `x = ⌊2mK/a⌋`, `R = ⌊(x+1)/2⌋` (the rounded
    reciprocal `round(mK/a)`), `r = ⌊(cR+H)/K⌋` and `K = 2H`, the result `r` is one of the two
    integers around `c·m/a` - for every colour `c < K`, every alpha `a > 0`, every depth `m`. -/
theorem divG_core (m c a K H x R r : ℕ) (ha : 0 < a) (hK : K = 2 * H) (hc : c < K)
    (hx1 : a * x ≤ 2 * m * K) (hx2 : 2 * m * K < a * (x + 1))
    (hR1 : 2 * R ≤ x + 1) (hR2 : x ≤ 2 * R)
    (hr1 : K * r ≤ c * R + H) (hr2 : c * R + H < K * (r + 1)) :
    c * m < (r + 1) * a ∧ r * a < c * m + a := by
  subst hK
  -- each half: bring the brackets of `x`, `R`, `r` and the negated goal to the denominator `a·K`
  -- and add them up; what is left over is `a·K ≤ a·c`
  have hca := Nat.mul_lt_mul_of_pos_left hc ha
  constructor
  · by_contra hcon
    have h1 := Nat.mul_lt_mul_of_pos_right hr2 ha
    have h2 := Nat.mul_le_mul_left c (Nat.mul_le_mul_left a hR2)
    have h3 := Nat.mul_le_mul_left (2 * H) (Nat.not_lt.mp hcon)
    have h4 := Nat.mul_le_mul_left c (Nat.succ_le_of_lt hx2)
    linarith only [h1, h2, h3, h4, hca]
  · by_contra hcon
    have h1 := Nat.mul_le_mul_right a hr1
    have h2 := Nat.mul_le_mul_left c (Nat.mul_le_mul_left a hR1)
    have h3 := Nat.mul_le_mul_left (2 * H) (Nat.not_lt.mp hcon)
    have h4 := Nat.mul_le_mul_left c hx1
    linarith only [h1, h2, h3, h4, hca]

theorem divG_between (m c a K H : ℕ) (ha : 0 < a) (hK : K = 2 * H) (hH : 0 < H) (hc : c < K) :
    let R := (2 * m * K / a + 1) / 2
    let r := (c * R + H) / K
    c * m / a ≤ r ∧ r ≤ (c * m + a - 1) / a := by
  intro R r
  have hKpos : 0 < K := by omega
  obtain ⟨hB, hA⟩ := divG_core m c a K H _ R r ha hK hc (Nat.mul_div_le _ _) (Nat.lt_mul_div_succ _ ha)
    (by omega) (by omega) (Nat.mul_div_le _ _) (Nat.lt_mul_div_succ _ hKpos)
  exact between_of_mul ha hB hA

/-- faithful = within one of the saturated exact quotient: the form in which a floating-point
    computation meets `divFaithful` -/
theorem divFaithful_of_close (m c a r : ℕ) (ha : 0 < a) (h : |(r : ℚ) - min (((c * m : ℕ) : ℚ) / a) m| < 1) :
    divFaithful m c a r := by
  have haq : (0 : ℚ) < a := by exact_mod_cast ha
  -- in ℕ: `r` is above `c·m/a - 1`, at most `m`, and below `c·m/a + 1` unless it is `m`
  obtain ⟨h1, h2⟩ := abs_lt.mp h
  rw [neg_lt_sub_iff_lt_add', min_lt_iff, div_lt_iff₀ haq] at h1
  rw [sub_lt_comm, lt_min_iff, lt_div_iff₀ haq] at h2
  have k1 : r * a < c * m + a := by exact_mod_cast (by linarith [h2.1] : (r : ℚ) * a < (c * m : ℕ) + a)
  have k2 : r < m + 1 := by exact_mod_cast (by linarith [h2.2] : (r : ℚ) < m + 1)
  have k3 : c * m < (r + 1) * a ∨ m < r + 1 := by exact_mod_cast h1
  have := ceil_le_floor_succ (c * m) ha
  unfold divFaithful
  rw [if_neg ha.ne']
  rcases k3 with k3 | k3
  · have := between_of_mul ha k3 k1
    omega
  · obtain rfl : r = m := by omega
    have := (Nat.le_div_iff_mul_le ha).mpr (Nat.le_sub_one_of_lt k1)
    omega

theorem mulExact_opaque (m c : Nat) (hm : 0 < m) : mulExact m c m = c := by
  rw [mulExact, ← Nat.mul_assoc, Nat.mul_right_comm, Nat.mul_add_div (by omega),
    Nat.div_eq_of_lt (by omega), Nat.add_zero]

theorem divFaithful_opaque (m c got : Nat) (hm : 0 < m) (hc : c ≤ m) (h : divFaithful m c m got) :
    got = c := by
  rw [divFaithful, if_neg (by omega), Nat.mul_div_cancel _ hm, Nat.add_sub_assoc hm, Nat.mul_comm,
    Nat.mul_add_div hm, Nat.div_eq_of_lt (by omega)] at h
  omega

end Fir.Proofs
