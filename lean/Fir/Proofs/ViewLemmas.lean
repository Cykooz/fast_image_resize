/-
  Fir.Proofs.ViewLemmas - the view model (Fir/Model/View.lean) in closed form.

  A well-formed view is a rectangle of a row-major buffer: it has a first index `base`, a row pitch
  `stride`, and `rows` lists `height` runs of `width` consecutive indices, `stride` apart (`rect`, `rows_eq`).
  Splitting yields views of sub-rectangles (`IsRect`; `splitH_some`, `splitW_some` from a valid request, `splitH_inv`,
  `splitW_inv` from a result `= some ps`, the form the users start from); that the parts tile the band, never alias
  and stay inside it (C04, C08, C14) is then arithmetic on `List.range'`.
-/
import Fir.Model.View
import Mathlib.Data.List.Nodup
import Mathlib.Data.List.Flatten
import Mathlib.Data.List.Perm.Basic
import Mathlib.Order.Monotone.Basic

namespace Fir.Proofs
open Fir.View

/-- size of part `i` of `n` rows or columns split `k` ways (`split_by_*`: the first `n % k` parts are one longer) -/
def sz (n k i : Nat) : Nat := n / k + (if i < n % k then 1 else 0)

/-- where part `i` starts, counted from the start of the band -/
def offs (n k i : Nat) : Nat := i * (n / k) + min i (n % k)

theorem splitSizes_eq (n k : Nat) : splitSizes n k = (List.range k).map (sz n k) := rfl

theorem splitOffsets_eq (s n k : Nat) :
    splitOffsets s n k = (List.range k).map (fun i => s + offs n k i) := by
  simp [splitOffsets, offs, Nat.add_assoc]

theorem offs_zero (n k : Nat) : offs n k 0 = 0 := by simp [offs]

theorem offs_succ (n k i : Nat) : offs n k (i + 1) = offs n k i + sz n k i := by
  simp only [offs, sz, Nat.succ_mul]
  split <;> omega

theorem offs_full (n k : Nat) (hk : 0 < k) : offs n k k = n := by
  rw [offs, Nat.min_eq_right (Nat.le_of_lt (Nat.mod_lt n hk))]
  exact Nat.div_add_mod n k

theorem offs_mono (n k : Nat) : Monotone (offs n k) :=
  monotone_nat_of_le_succ fun i => by rw [offs_succ]; omega

theorem offs_add_sz_le (n k i : Nat) (hi : i < k) : offs n k i + sz n k i ≤ n := by
  have := offs_mono n k (Nat.succ_le_of_lt hi)
  rwa [offs_succ, offs_full n k (by omega)] at this

theorem sz_pos (n k i : Nat) (hk : 0 < k) (hkn : k ≤ n) : 0 < sz n k i :=
  Nat.add_pos_left (Nat.div_pos hkn hk) _

theorem splitRejected_eq_false_iff (e s n k : Nat) :
    splitRejected e s n k = false ↔ (1 ≤ k ∧ k ≤ n ∧ n ≤ e ∧ s + n ≤ e) := by
  simp only [splitRejected, Bool.or_eq_false_iff, decide_eq_false_iff_not]
  omega

theorem ite_splitRejected {α : Type} (e s n k : Nat) (x y : α) :
    (if splitRejected e s n k then x else y) = if 1 ≤ k ∧ k ≤ n ∧ n ≤ e ∧ s + n ≤ e then y else x := by
  simp only [← splitRejected_eq_false_iff]
  cases splitRejected e s n k <;> rfl

theorem zip_offsets_sizes (s n k : Nat) :
    (splitOffsets s n k).zip (splitSizes n k) = (List.range k).map (fun i => (s + offs n k i, sz n k i)) := by
  rw [splitOffsets_eq, splitSizes_eq, List.zip_map']

/-- lists `G i` that are the pieces of an additive family `F` at the part offsets, with the part sizes, glue to
    one piece (`F a m` = rows `[a, a+m)` of a rectangle for a height split, columns `[a, a+m)` of a row for a
    width split) -/
theorem flatten_parts {α : Type} (F : Nat → Nat → List α) (h0 : ∀ a, F a 0 = [])
    (hadd : ∀ a m m', F a (m + m') = F a m ++ F (a + m) m') (a n k : Nat) (hk : 0 < k)
    (G : Nat → List α) (hG : ∀ i < k, G i = F (a + offs n k i) (sz n k i)) :
    ((List.range k).map G).flatten = F a n := by
  suffices ∀ j ≤ k, ((List.range j).map G).flatten = F a (offs n k j) by
    rw [this k (Nat.le_refl k), offs_full n k hk]
  intro j hj
  induction j with
  | zero => rw [offs_zero, h0]; rfl
  | succ j ih =>
    rw [List.range_succ, List.map_append, List.flatten_append, ih (Nat.le_of_succ_le hj), offs_succ, hadd, ← hG j hj]
    simp

theorem sum_sz (n k j : Nat) : ((List.range j).map (sz n k)).sum = offs n k j := by
  induction j with
  | zero => simp [offs_zero]
  | succ j ih => simp [List.range_succ, ih, offs_succ]

theorem splitSizes_sum (n k : Nat) (hk : 0 < k) : (splitSizes n k).sum = n := by
  rw [splitSizes_eq, sum_sz, offs_full n k hk]

theorem seg_eq_range' (a n : Nat) : seg a n = List.range' a n :=
  (List.range'_eq_map_range ..).symm

/-- the index rows of the `w × h` rectangle at `b` in a buffer with row pitch `st`.  Pitch 0 belongs to an image
    of width 0, whose `iter_rows` yields no rows at all -/
def rect (b st w h : Nat) : List (List Nat) :=
  if st = 0 then [] else (List.range' b h st).map (List.range' · w)

theorem rect_pos {b st w h : Nat} (hst : st ≠ 0) : rect b st w h = (List.range' b h st).map (List.range' · w) :=
  if_neg hst

theorem rect_zero (b st w : Nat) : rect b st w 0 = [] := by simp [rect]

theorem rect_eq_map_range (b st w h : Nat) (hst : st ≠ 0) :
    rect b st w h = (List.range h).map fun r => List.range' (b + r * st) w := by
  rw [rect_pos hst]
  apply List.ext_getElem <;> simp [Nat.mul_comm]

theorem rect_length (b st w h : Nat) (hst : st ≠ 0) : (rect b st w h).length = h := by simp [rect_pos hst]

theorem rect_take (b st w h m : Nat) (hm : m ≤ h) : (rect b st w h).take m = rect b st w m := by
  unfold rect
  split
  · exact List.take_nil
  · rw [← List.map_take, List.take_range'_of_length_ge hm]

theorem rect_append (b st w h₁ h₂ : Nat) :
    rect b st w (h₁ + h₂) = rect b st w h₁ ++ rect (b + h₁ * st) st w h₂ := by
  unfold rect
  split
  · rfl
  · rw [← List.map_append, Nat.mul_comm, List.range'_append]

theorem rect_slice (b st w h l w' : Nat) (hl : l + w' ≤ w) :
    (rect b st w h).map (fun row => (row.drop l).take w') = rect (b + l) st w' h := by
  unfold rect
  split
  · rfl
  rw [Nat.add_comm b l, ← List.map_add_range', List.map_map, List.map_map]
  apply List.map_congr_left
  intro a _
  simp only [Function.comp, List.drop_range', Nat.mul_one]
  rw [List.take_range'_of_length_ge (by omega), Nat.add_comm]

theorem rect_getD (b st w h r : Nat) (hst : st ≠ 0) (hr : r < h) :
    (rect b st w h).getD r [] = List.range' (b + r * st) w := by
  simp [rect_pos hst, List.getD_eq_getElem?_getD, hr, Nat.mul_comm]

theorem rect_flatten_nodup (b st w h : Nat) (hw : w ≤ st) : (rect b st w h).flatten.Nodup := by
  by_cases hst : st = 0
  · simp [rect, hst]
  rw [rect_eq_map_range _ _ _ _ hst, List.nodup_flatten, List.pairwise_map]
  refine ⟨fun l hl => ?_, List.pairwise_lt_range.imp fun {r r'} hrr => List.disjoint_left.mpr fun x hx hx' => ?_⟩
  · obtain ⟨r, _, rfl⟩ := List.mem_map.mp hl
    exact List.nodup_range' ..
  · rw [List.mem_range'_1] at hx hx'
    have := Nat.mul_le_mul_right st (Nat.succ_le_of_lt hrr)
    rw [Nat.succ_mul] at this
    omega

theorem rect_flatten_full (b w h : Nat) : (rect b w w h).flatten = List.range' b (w * h) := by
  induction h with
  | zero => simp [rect]
  | succ h ih =>
    rw [rect_append b w w h 1, List.flatten_append, ih, Nat.mul_succ, ← List.range'_append_1, Nat.mul_comm h w]
    unfold rect
    split <;> simp [*]

def _root_.Fir.View.stride : View → Nat
  | typed _ w _ _ => w
  | crop inner _ _ _ _ => inner.stride

def _root_.Fir.View.base : View → Nat
  | typed off _ _ _ => off
  | crop inner l t _ _ => inner.base + t * inner.stride + l

theorem wf_crop {inner : View} {l t w h : Nat} : (crop inner l t w h).wf = true ↔
    inner.wf = true ∧ l < inner.width ∧ t < inner.height ∧ l + w ≤ inner.width ∧ t + h ≤ inner.height := by
  simp [wf, cropValid, and_assoc]

theorem width_le_stride (v : View) (hwf : v.wf = true) : v.width ≤ v.stride := by
  induction v with
  | typed off w h len => exact Nat.le_refl w
  | crop inner l t w h ih =>
    obtain ⟨hin, _, _, hlw, _⟩ := wf_crop.mp hwf
    exact Nat.le_trans (show w ≤ inner.width by omega) (ih hin)

theorem stride_ne_zero (v : View) (hwf : v.wf = true) (hw : 0 < v.width) : v.stride ≠ 0 :=
  Nat.ne_of_gt (Nat.lt_of_lt_of_le hw (width_le_stride v hwf))

/-- `iter_rows(s)` of a well-formed view in closed form -/
theorem rows_eq (v : View) (hwf : v.wf = true) (s : Nat) :
    v.rows s = rect (v.base + s * v.stride) v.stride v.width (v.height - s) := by
  induction v generalizing s with
  | typed off w h len =>
    simp only [rows, stride, base, width, height]
    split
    · exact (if_pos ‹_›).symm
    · simp only [rect_eq_map_range _ _ _ _ ‹_›, seg_eq_range', Nat.add_mul, Nat.add_assoc]
  | crop inner l t w h ih =>
    obtain ⟨hin, hl, _, hlw, hth⟩ := wf_crop.mp hwf
    show ((inner.rows (t + s)).take (h - s)).map _ =
      rect (inner.base + t * inner.stride + l + s * inner.stride) inner.stride w (h - s)
    rw [ih hin, rect_take _ _ _ _ _ (by omega), rect_slice _ _ _ _ _ _ hlw]
    congr 1
    simp only [Nat.add_mul]; omega

theorem rows_flatten_nodup (v : View) (hwf : v.wf = true) (s : Nat) : ((v.rows s).flatten).Nodup :=
  rows_eq v hwf s ▸ rect_flatten_nodup _ _ _ _ (width_le_stride v hwf)

theorem idx_nodup (v : View) (_hwf : v.wf = true) : ((v.rows 0).flatten).Nodup :=
  rows_flatten_nodup v _hwf 0

/-- `p` is a well-formed view of the `w × h` rectangle whose first index is `b`, in a buffer with row pitch `st` -/
structure IsRect (p : View) (b st w h : Nat) : Prop where
  wf : p.wf = true
  base : p.base = b
  stride : p.stride = st
  width : p.width = w
  height : p.height = h

theorem isRect_self {v : View} (hwf : v.wf = true) : IsRect v v.base v.stride v.width v.height :=
  ⟨hwf, rfl, rfl, rfl, rfl⟩

theorem IsRect.crop {p : View} {b st w h l t w' h' b' : Nat} (hp : IsRect p b st w h)
    (hl : l < w) (ht : t < h) (hlw : l + w' ≤ w) (hth : t + h' ≤ h) (hb : b' = b + t * st + l) :
    IsRect (crop p l t w' h') b' st w' h' := by
  obtain ⟨h1, rfl, rfl, rfl, rfl⟩ := hp
  exact ⟨wf_crop.mpr ⟨h1, hl, ht, hlw, hth⟩, hb.symm, rfl, rfl, rfl⟩

theorem IsRect.rows {p : View} {b st w h : Nat} (hp : IsRect p b st w h) : p.rows 0 = rect b st w h := by
  obtain ⟨h1, rfl, rfl, rfl, rfl⟩ := hp
  rw [rows_eq p h1, Nat.zero_mul, Nat.add_zero, Nat.sub_zero]

theorem IsRect.row {p : View} {b st w h r : Nat} (hp : IsRect p b st w h) (hst : st ≠ 0) (hr : r < h) :
    (p.rows 0).getD r [] = List.range' (b + r * st) w := by
  rw [hp.rows, rect_getD _ _ _ _ _ hst hr]

/-! ### splitting: `None` exactly for invalid requests, otherwise rectangles at the part offsets -/

theorem splitH_typed (off w h len s n k : Nat) :
    (typed off w h len).splitH s n k =
      if 1 ≤ k ∧ k ≤ n ∧ n ≤ h ∧ s + n ≤ h then
        some ((List.range k).map fun i => typed (off + (s + offs n k i) * w) w (sz n k i) (sz n k i * w))
      else none := by
  simp only [splitH, height, zip_offsets_sizes, List.map_map, ite_splitRejected]
  rfl

theorem splitH_crop (inner : View) (l t w h s n k : Nat) :
    (crop inner l t w h).splitH s n k =
      if 1 ≤ k ∧ k ≤ n ∧ n ≤ h ∧ s + n ≤ h then
        (inner.splitH (s + t) n k).map fun ps => ps.map fun p => crop p l 0 w p.height
      else none := by
  simp only [splitH, ite_splitRejected]
  rfl

theorem splitW_typed (off w h len s n k : Nat) :
    (typed off w h len).splitW s n k =
      if 1 ≤ k ∧ k ≤ n ∧ n ≤ w ∧ s + n ≤ w then
        some ((List.range k).map fun i => crop (typed off w h len) (s + offs n k i) 0 (sz n k i) h)
      else none := by
  simp only [splitW, width, zip_offsets_sizes, List.map_map, ite_splitRejected]
  rfl

theorem splitW_crop (inner : View) (l t w h s n k : Nat) :
    (crop inner l t w h).splitW s n k =
      if 1 ≤ k ∧ k ≤ n ∧ n ≤ w ∧ s + n ≤ w then
        (inner.splitW (s + l) n k).map fun ps => ps.map fun p => crop p 0 t p.width h
      else none := by
  simp only [splitW, ite_splitRejected]
  rfl

theorem splitH_none (v : View) (s n k : Nat) (h : ¬ (1 ≤ k ∧ k ≤ n ∧ n ≤ v.height ∧ s + n ≤ v.height)) :
    v.splitH s n k = none := by
  cases v
  · exact (splitH_typed ..).trans (if_neg h)
  · exact (splitH_crop ..).trans (if_neg h)

theorem splitW_none (v : View) (s n k : Nat) (h : ¬ (1 ≤ k ∧ k ≤ n ∧ n ≤ v.width ∧ s + n ≤ v.width)) :
    v.splitW s n k = none := by
  cases v
  · exact (splitW_typed ..).trans (if_neg h)
  · exact (splitW_crop ..).trans (if_neg h)

theorem splitH_some (v : View) (hwf : v.wf = true) (s n k : Nat)
    (hb : 1 ≤ k ∧ k ≤ n ∧ n ≤ v.height ∧ s + n ≤ v.height) :
    ∃ f : Nat → View, v.splitH s n k = some ((List.range k).map f) ∧
      ∀ i < k, IsRect (f i) (v.base + (s + offs n k i) * v.stride) v.stride v.width (sz n k i) := by
  induction v generalizing s with
  | typed off w H len =>
    exact ⟨_, (splitH_typed ..).trans (if_pos hb), fun i _ => ⟨by simp [wf, Nat.mul_comm], rfl, rfl, rfl, rfl⟩⟩
  | crop inner l t w H ih =>
    obtain ⟨hin, hl, _, hlw, hth⟩ := wf_crop.mp hwf
    simp only [height] at hb
    obtain ⟨f, hf, hw⟩ := ih hin (s + t) (by omega)
    refine ⟨fun i => crop (f i) l 0 w (f i).height, ?_, fun i hi => ?_⟩
    · rw [splitH_crop, if_pos hb, hf]; simp
    · simp only [(hw i hi).height]
      exact (hw i hi).crop hl (sz_pos n k i hb.1 hb.2.1) hlw (Nat.le_of_eq (Nat.zero_add _))
        (by simp only [base, stride, Nat.add_mul, Nat.zero_mul]; omega)

/-- `0 < v.height`: the parts of a typed image of height 0 are crops at row 0 of an image without rows, which
    `check_crop_box` refuses - the known finding about `split_by_width` on empty images -/
theorem splitW_some (v : View) (hwf : v.wf = true) (s n k : Nat)
    (hb : 1 ≤ k ∧ k ≤ n ∧ n ≤ v.width ∧ s + n ≤ v.width) :
    ∃ f : Nat → View, v.splitW s n k = some ((List.range k).map f) ∧
      (0 < v.height → ∀ i < k, IsRect (f i) (v.base + (s + offs n k i)) v.stride (sz n k i) v.height) := by
  induction v generalizing s with
  | typed off w H len =>
    refine ⟨_, (splitW_typed ..).trans (if_pos hb), fun hh i hi => ?_⟩
    have := offs_add_sz_le n k i hi
    have := sz_pos n k i hb.1 hb.2.1
    simp only [width] at hb
    exact (isRect_self hwf).crop (show _ < w by omega) hh (show _ ≤ w by omega) (Nat.le_of_eq (Nat.zero_add _))
      (by simp [base])
  | crop inner l t w H ih =>
    obtain ⟨hin, _, ht, hlw, hth⟩ := wf_crop.mp hwf
    simp only [width] at hb
    obtain ⟨f, hf, hw⟩ := ih hin (s + l) (by omega)
    refine ⟨fun i => crop (f i) 0 t (f i).width H, ?_, fun _ i hi => ?_⟩
    · rw [splitW_crop, if_pos hb, hf]; simp
    · have hp := hw (by omega) i hi
      simp only [hp.width]
      exact hp.crop (sz_pos n k i hb.1 hb.2.1) ht (Nat.le_of_eq (Nat.zero_add _)) hth
        (by simp only [base]; omega)

theorem splitH_none_iff (v : View) (hwf : v.wf = true) (s n k : Nat) :
    v.splitH s n k = none ↔ ¬ (1 ≤ k ∧ k ≤ n ∧ n ≤ v.height ∧ s + n ≤ v.height) := by
  refine ⟨fun h hb => ?_, splitH_none v s n k⟩
  obtain ⟨f, hf, _⟩ := splitH_some v hwf s n k hb
  cases h.symm.trans hf

theorem splitW_none_iff (v : View) (hwf : v.wf = true) (s n k : Nat) :
    v.splitW s n k = none ↔ ¬ (1 ≤ k ∧ k ≤ n ∧ n ≤ v.width ∧ s + n ≤ v.width) := by
  refine ⟨fun h hb => ?_, splitW_none v s n k⟩
  obtain ⟨f, hf, _⟩ := splitW_some v hwf s n k hb
  cases h.symm.trans hf

theorem splitH_inv {v : View} (hwf : v.wf = true) {s n k : Nat} {ps : List View} (h : v.splitH s n k = some ps) :
    (1 ≤ k ∧ k ≤ n ∧ n ≤ v.height ∧ s + n ≤ v.height) ∧ ∃ f : Nat → View, ps = (List.range k).map f ∧
      ∀ i < k, IsRect (f i) (v.base + (s + offs n k i) * v.stride) v.stride v.width (sz n k i) := by
  have hb := not_not.mp (mt (splitH_none v s n k) (by simp [h]))
  obtain ⟨f, hf, hw⟩ := splitH_some v hwf s n k hb
  exact ⟨hb, f, Option.some.inj (h.symm.trans hf), hw⟩

theorem splitW_inv {v : View} (hwf : v.wf = true) (hh : 0 < v.height) {s n k : Nat} {ps : List View}
    (h : v.splitW s n k = some ps) :
    (1 ≤ k ∧ k ≤ n ∧ n ≤ v.width ∧ s + n ≤ v.width) ∧ ∃ f : Nat → View, ps = (List.range k).map f ∧
      ∀ i < k, IsRect (f i) (v.base + (s + offs n k i)) v.stride (sz n k i) v.height := by
  have hb := not_not.mp (mt (splitW_none v s n k) (by simp [h]))
  obtain ⟨f, hf, hw⟩ := splitW_some v hwf s n k hb
  exact ⟨hb, f, Option.some.inj (h.symm.trans hf), hw hh⟩

theorem splitH_tiles (v : View) (hwf : v.wf = true) (s n k : Nat) (ps : List View)
    (h : v.splitH s n k = some ps) :
    ps.length = k ∧ ps.map View.height = splitSizes n k ∧
    (∀ p ∈ ps, p.width = v.width ∧ p.wf = true) ∧
    (ps.map (fun p => p.rows 0)).flatten = (v.rows s).take n := by
  obtain ⟨⟨hk, _, _, hsn⟩, f, rfl, hf⟩ := splitH_inv hwf h
  refine ⟨by simp, ?_, ?_, ?_⟩
  · rw [List.map_map, splitSizes_eq]
    exact List.map_congr_left fun i hi => (hf i (List.mem_range.mp hi)).height
  · exact List.forall_mem_map.mpr fun i hi => ⟨(hf i (List.mem_range.mp hi)).width, (hf i (List.mem_range.mp hi)).wf⟩
  · rw [List.map_map, rows_eq v hwf, rect_take _ _ _ _ _ (by omega)]
    exact flatten_parts (fun a m => rect (v.base + a * v.stride) v.stride v.width m) (fun _ => rect_zero ..)
      (fun a m m' => by rw [rect_append, Nat.add_mul, Nat.add_assoc]) s n k hk _ fun i hi => (hf i hi).rows

theorem splitW_tiles (v : View) (hwf : v.wf = true) (hh : 0 < v.height) (s n k : Nat) (ps : List View)
    (h : v.splitW s n k = some ps) :
    ps.length = k ∧ ps.map View.width = splitSizes n k ∧
    (∀ p ∈ ps, p.height = v.height ∧ p.wf = true) ∧
    (∀ r, r < v.height →
      (ps.map (fun p => (p.rows 0).getD r [])).flatten = (((v.rows 0).getD r []).drop s).take n) := by
  obtain ⟨⟨hk, hkn, _, hsn⟩, f, rfl, hf⟩ := splitW_inv hwf hh h
  have hst := stride_ne_zero v hwf (by omega)
  refine ⟨by simp, ?_, ?_, fun r hr => ?_⟩
  · rw [List.map_map, splitSizes_eq]
    exact List.map_congr_left fun i hi => (hf i (List.mem_range.mp hi)).width
  · exact List.forall_mem_map.mpr fun i hi => ⟨(hf i (List.mem_range.mp hi)).height, (hf i (List.mem_range.mp hi)).wf⟩
  · rw [List.map_map, (isRect_self hwf).row hst hr, List.drop_range', List.take_range'_of_length_ge (by omega), Nat.mul_one,
      Nat.add_right_comm]
    exact flatten_parts (fun a m => List.range' (v.base + a + r * v.stride) m) (fun _ => rfl)
      (fun a m m' => by rw [← List.range'_append_1, Nat.add_right_comm _ _ m, Nat.add_assoc _ a m]) s n k hk _ fun i hi => (hf i hi).row hst hr

theorem disjoint_of_nodup_flatten {α β : Type} (g : β → List α) (ps : List β) (hnd : (ps.map g).flatten.Nodup)
    (i j : Nat) (hij : i < j) (hj : j < ps.length) (x : α) (hx : x ∈ g (ps[i]'(by omega))) : x ∉ g ps[j] := by
  have := List.pairwise_iff_getElem.mp (List.nodup_flatten.mp hnd).2 i j (by simp; omega) (by simpa using hj) hij
  simp only [List.getElem_map] at this
  exact fun hx' => List.disjoint_left.mp this hx hx'

theorem perm_flatten_comm {α β γ : Type} (L : List α) (R : List β) (f : α → β → List γ) :
    (L.flatMap fun i => R.flatMap (f i)).Perm (R.flatMap fun r => L.flatMap (f · r)) := by
  induction L with
  | nil => simp
  | cons a L ih =>
    simp only [List.flatMap_cons]
    exact (List.Perm.append_left _ ih).trans (List.flatMap_append_perm R (f a) _)

theorem splitH_parts_subset (v : View) (hwf : v.wf = true) (s n k : Nat) (ps : List View)
    (h : v.splitH s n k = some ps) (p : View) (hp : p ∈ ps) (x : Nat) (hx : x ∈ (p.rows 0).flatten) :
    x ∈ ((v.rows s).take n).flatten := by
  rw [← (splitH_tiles v hwf s n k ps h).2.2.2, List.mem_flatten]
  obtain ⟨row, hrow, hxr⟩ := List.mem_flatten.mp hx
  exact ⟨row, List.mem_flatten.mpr ⟨_, List.mem_map_of_mem hp, hrow⟩, hxr⟩

theorem splitH_parts_disjoint (v : View) (hwf : v.wf = true) (s n k : Nat) (ps : List View)
    (h : v.splitH s n k = some ps) (i j : Nat) (hij : i < j) (hj : j < ps.length) (x : Nat)
    (hx : x ∈ ((ps[i]'(by omega)).rows 0).flatten) : x ∉ ((ps[j]).rows 0).flatten := by
  refine disjoint_of_nodup_flatten (fun p => (p.rows 0).flatten) ps ?_ i j hij hj x hx
  rw [show (ps.map fun p => (p.rows 0).flatten) = (ps.map fun p => p.rows 0).map List.flatten by
    rw [List.map_map]; rfl, ← List.flatten_flatten, (splitH_tiles v hwf s n k ps h).2.2.2]
  exact ((List.take_sublist _ _).flatten).nodup (rows_flatten_nodup v hwf s)

theorem splitW_perm (v : View) (hwf : v.wf = true) (hh : 0 < v.height) (s n k : Nat) (ps : List View)
    (h : v.splitW s n k = some ps) :
    ((ps.map fun p => (p.rows 0).flatten).flatten).Perm (rect (v.base + s) v.stride n v.height).flatten := by
  obtain ⟨⟨hk, hkn, _, hsn⟩, f, rfl, hf⟩ := splitW_inv hwf hh h
  have hst := stride_ne_zero v hwf (by omega)
  have hpart : ∀ i ∈ List.range k, ((fun p => (p.rows 0).flatten) ∘ f) i =
      (List.range v.height).flatMap fun r => List.range' (v.base + (s + offs n k i) + r * v.stride) (sz n k i) :=
    fun i hi => by
      rw [Function.comp, (hf i (List.mem_range.mp hi)).rows, rect_eq_map_range _ _ _ _ hst, ← List.flatMap_def]
  rw [List.map_map, List.map_congr_left hpart, ← List.flatMap_def, rect_eq_map_range _ _ _ _ hst, ← List.flatMap_def]
  refine (perm_flatten_comm _ _ _).trans (List.Perm.of_eq (List.flatMap_congr fun r _ => ?_))
  rw [List.flatMap_def]
  exact flatten_parts (fun a m => List.range' (v.base + a + r * v.stride) m) (fun _ => rfl)
    (fun a m m' => by rw [← List.range'_append_1, Nat.add_right_comm _ _ m, Nat.add_assoc _ a m]) s n k hk _ fun _ _ => rfl

theorem splitW_parts_disjoint (v : View) (hwf : v.wf = true) (hh : 0 < v.height) (s n k : Nat) (ps : List View)
    (h : v.splitW s n k = some ps) (i j : Nat) (hij : i < j) (hj : j < ps.length) (x : Nat)
    (hx : x ∈ ((ps[i]'(by omega)).rows 0).flatten) : x ∉ ((ps[j]).rows 0).flatten := by
  have hsn := (splitW_inv hwf hh h).1.2.2.2
  exact disjoint_of_nodup_flatten (fun p => (p.rows 0).flatten) ps ((splitW_perm v hwf hh s n k ps h).nodup_iff.mpr
    (rect_flatten_nodup _ _ _ _ (by have := width_le_stride v hwf; omega))) i j hij hj x hx

theorem wf_rows_exact (v : View) (hwf : v.wf = true) (hw : 0 < v.width) (s : Nat) :
    (v.rows s).length = v.height - s ∧ ∀ row ∈ v.rows s, row.length = v.width := by
  have hst := stride_ne_zero v hwf (by omega)
  rw [rows_eq v hwf, rect_pos hst]
  refine ⟨by simp, fun row hrow => ?_⟩
  obtain ⟨a, _, rfl⟩ := List.mem_map.mp hrow
  exact List.length_range'

theorem rows_add (v : View) (s a : Nat) : v.rows (s + a) = (v.rows s).drop a := by
  induction v generalizing s a with
  | typed off w h len =>
    simp only [rows]
    split
    · exact List.drop_nil.symm
    · rw [← List.map_drop, List.range_eq_range' (n := h - s), List.drop_range', List.range'_eq_map_range, List.map_map,
        Nat.sub_add_eq]
      simp [Function.comp_def, Nat.add_assoc]
  | crop inner l t w h ih =>
    simp only [rows]
    rw [← Nat.add_assoc, ih, ← List.map_drop, List.drop_take, Nat.sub_add_eq]

theorem crop_rows_subset (inner : View) (l t w h s : Nat) (q : Nat)
    (hq : q ∈ ((View.crop inner l t w h).rows s).flatten) : q ∈ (inner.rows 0).flatten := by
  simp only [rows, List.mem_flatten, List.mem_map] at hq
  obtain ⟨row, ⟨r0, hr0, rfl⟩, hqr⟩ := hq
  have h1 : r0 ∈ inner.rows (0 + (t + s)) := by rw [Nat.zero_add]; exact List.mem_of_mem_take hr0
  rw [rows_add] at h1
  exact List.mem_flatten.mpr ⟨r0, List.mem_of_mem_drop h1, List.mem_of_mem_drop (List.mem_of_mem_take hqr)⟩

end Fir.Proofs
