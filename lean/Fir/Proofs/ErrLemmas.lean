/-
  Fir.Proofs.ErrLemmas - rational error bounds behind C01: one pass against ideal real weights,
  the clamp is 1-Lipschitz, propagation of a first-pass error through a second pass.  The bounds on
  sums are instances of one termwise triangle inequality, `abs_sum_sub_sum_le`; so is the distance of a sum of
  quantised coefficients from `2^p` (C10).
-/
import Fir.Proofs.FixedLemmas
import Mathlib.Algebra.Order.Group.MinMax
import Mathlib.Tactic.Linarith
import Mathlib.Tactic.Ring
import Mathlib.Algebra.BigOperators.Ring.List
namespace Fir.Proofs

/-- The triangle inequality term by term, in the form its users need: both sums run over one common list `xs`
    (the samples in `dot_quant_err` and `weights_perturbation`, the weights in `two_pass_err`), and the bound on a
    term may depend on the entry of `xs`. -/
theorem abs_sum_sub_sum_le {α β γ : Type} [Zero α] [Zero β] [Zero γ] (f : α → γ → ℚ) (g : β → γ → ℚ) (c : γ → ℚ)
    (as : List α) (bs : List β) (xs : List γ) (ha : as.length = xs.length) (hb : bs.length = xs.length)
    (h : ∀ i, i < xs.length → |f (as.getD i 0) (xs.getD i 0) - g (bs.getD i 0) (xs.getD i 0)| ≤ c (xs.getD i 0)) :
    |(List.zipWith f as xs).sum - (List.zipWith g bs xs).sum| ≤ (xs.map c).sum := by
  induction xs generalizing as bs with
  | nil => simp
  | cons x xs ih =>
    obtain ⟨a, as, rfl⟩ := List.exists_cons_of_length_eq_add_one ha
    obtain ⟨b, bs, rfl⟩ := List.exists_cons_of_length_eq_add_one hb
    have ih' := ih as bs (Nat.succ.inj ha) (Nat.succ.inj hb) fun i hi => h (i + 1) (Nat.succ_lt_succ hi)
    simp only [List.zipWith_cons_cons, List.sum_cons, List.map_cons, add_sub_add_comm]
    exact (abs_add_le _ _).trans (add_le_add (h 0 (Nat.succ_pos _)) ih')

theorem sum_map_const {γ : Type} (xs : List γ) (c : ℚ) : (xs.map fun _ => c).sum = xs.length * c := by
  rw [List.map_const', List.sum_replicate, nsmul_eq_mul]

theorem cast_dotL (ks xs : List Int) :
    ((dotL ks xs : Int) : ℚ) = (List.zipWith (fun k x : Int => ((k * x : Int) : ℚ)) ks xs).sum :=
  (map_list_sum (Int.castRingHom ℚ) _).trans (by rw [List.map_zipWith]; rfl)

theorem dot_quant_err (ws : List ℚ) (ks xs : List Int) (P m : ℚ)
    (hlen : ks.length = ws.length) (hlen2 : xs.length = ws.length)
    (hq : ∀ i, i < ws.length → |(ks.getD i 0 : ℚ) - ws.getD i 0 * P| ≤ 1 / 2)
    (hx : ∀ x ∈ xs, |(x : ℚ)| ≤ m) :
    |((dotL ks xs : Int) : ℚ) - P * (List.zipWith (fun (w : ℚ) (x : Int) => w * (x : ℚ)) ws xs).sum|
      ≤ (ws.length : ℚ) * (1 / 2 * m) := by
  rw [cast_dotL, ← List.sum_zipWith_distrib_left, ← hlen2, ← sum_map_const]
  refine abs_sum_sub_sum_le _ _ _ ks ws xs (hlen.trans hlen2.symm) hlen2.symm fun i hi => ?_
  rw [show ((ks.getD i 0 * xs.getD i 0 : Int) : ℚ) - P * (ws.getD i 0 * xs.getD i 0)
      = (ks.getD i 0 - ws.getD i 0 * P) * xs.getD i 0 by push_cast; ring, abs_mul]
  exact mul_le_mul (hq i (hlen2 ▸ hi)) (hx _ (getD_mem hi 0)) (abs_nonneg _) (by norm_num)

theorem quant_sum_err (ws : List ℚ) (ks : List Int) (P : ℚ)
    (hlen : ks.length = ws.length)
    (hq : ∀ i, i < ws.length → |(ks.getD i 0 : ℚ) - ws.getD i 0 * P| ≤ 1 / 2) :
    |((ks.sum : Int) : ℚ) - ws.sum * P| ≤ (ws.length : ℚ) / 2 := by
  have h := dot_quant_err ws ks (List.replicate ws.length 1) P 1 hlen (List.length_replicate ..) hq (by simp)
  rwa [← hlen, dotL_replicate, hlen, sum_zipWith_replicate, one_mul, Int.cast_one, mul_one, mul_one, mul_comm,
    mul_one_div] at h

/-- the coefficient sum is within `n/2` (rounding, `quant_sum_err`) plus `ε·2^p` (the weights' defect from sum one)
    of `2^p` -/
theorem quant_sum_close_int (ws : List ℚ) (ks : List Int) (p : Nat) (m : Int) (ε : ℚ) (hm : 0 ≤ m)
    (hlen : ks.length = ws.length)
    (hq : ∀ i, i < ws.length → |(ks.getD i 0 : ℚ) - ws.getD i 0 * 2 ^ p| ≤ 1 / 2)
    (hsum : |ws.sum - 1| ≤ ε)
    (hn : (m : ℚ) * ((ws.length : ℚ) / 2 + ε * 2 ^ p) < 2 ^ (p - 1)) :
    m * |ks.sum - 2 ^ p| < 2 ^ (p - 1) := by
  have h : |((ks.sum - 2 ^ p : Int) : ℚ)| ≤ (ws.length : ℚ) / 2 + ε * 2 ^ p := by
    push_cast
    refine (abs_sub_le _ (ws.sum * 2 ^ p) _).trans (add_le_add (quant_sum_err ws ks (2 ^ p) hlen hq) ?_)
    rw [← sub_one_mul, abs_mul, abs_of_nonneg (by positivity : (0 : ℚ) ≤ 2 ^ p)]
    exact mul_le_mul_of_nonneg_right hsum (by positivity)
  have := (mul_le_mul_of_nonneg_left h (by exact_mod_cast hm)).trans_lt hn
  exact_mod_cast this

theorem abs_sub_le_of_scaled {P y S a E : ℚ} (hP : 0 < P) (h1 : |P * y - a| ≤ P / 2) (h2 : |a - P * S| ≤ E) :
    |y - S| ≤ 1 / 2 + E / P := by
  have h := (abs_sub_le (P * y) a (P * S)).trans (add_le_add h1 h2)
  rwa [← mul_sub, abs_mul, abs_of_pos hP, ← le_div_iff₀' hP, add_div, div_right_comm, div_self hP.ne'] at h

/-- one pass against the ideal weights: rounding to nearest (`round_nearest`) gives the half unit,
    coefficient quantisation (`dot_quant_err`) the rest, both on the scale `2^p` -/
theorem pass_err (ws : List ℚ) (ks xs : List Int) (p : Nat) (hp1 : 1 ≤ p) (m : ℚ)
    (hlen : ks.length = ws.length) (hlen2 : xs.length = ws.length)
    (hq : ∀ i, i < ws.length → |(ks.getD i 0 : ℚ) - ws.getD i 0 * 2 ^ p| ≤ 1 / 2)
    (hx : ∀ x ∈ xs, |(x : ℚ)| ≤ m) :
    |(((2 ^ (p - 1) + dotL ks xs) / 2 ^ p : Int) : ℚ)
        - (List.zipWith (fun (w : ℚ) (x : Int) => w * (x : ℚ)) ws xs).sum|
      ≤ 1 / 2 + (ws.length : ℚ) * m / 2 ^ (p + 1) := by
  obtain ⟨hr1, hr2⟩ := round_nearest (dotL ks xs) p hp1
  have c1 := (Int.cast_le (R := ℚ)).mpr hr1
  have c2 := (Int.cast_lt (R := ℚ)).mpr hr2
  have hP := congrArg (Int.cast (R := ℚ)) (pow2_pred p hp1)
  push_cast at c1 c2 hP
  rw [show (ws.length : ℚ) * m / 2 ^ (p + 1) = (ws.length : ℚ) * (1 / 2 * m) / 2 ^ p by rw [pow_succ]; ring]
  refine abs_sub_le_of_scaled (a := (dotL ks xs : Int)) (by positivity) (abs_le.mpr ?_)
    (dot_quant_err ws ks xs (2 ^ p) m hlen hlen2 hq hx)
  constructor <;> linarith

theorem clamp_lipschitz (lo hi : ℚ) (hlh : lo ≤ hi) (a b : ℚ) :
    |max lo (min hi a) - max lo (min hi b)| ≤ |a - b| := by
  refine (abs_max_sub_max_le_max ..).trans ?_
  rw [sub_self, abs_zero, max_eq_right (abs_nonneg _)]
  refine (abs_min_sub_min_le_max ..).trans ?_
  rw [sub_self, abs_zero, max_eq_right (abs_nonneg _)]

theorem two_pass_err (ws : List ℚ) (xs ys : List ℚ) (e : ℚ) (hlen : xs.length = ws.length)
    (hlen2 : ys.length = ws.length)
    (hxy : ∀ i, i < ws.length → |xs.getD i 0 - ys.getD i 0| ≤ e) :
    |(List.zipWith (· * ·) ws xs).sum - (List.zipWith (· * ·) ws ys).sum|
      ≤ (ws.map (|·|)).sum * e := by
  rw [List.zipWith_comm (bs := xs), List.zipWith_comm (bs := ys)]
  refine (abs_sum_sub_sum_le _ _ (|·| * e) xs ys ws hlen hlen2 fun i hi => ?_).trans_eq (List.sum_map_mul_right ..)
  rw [← mul_sub, abs_mul]
  exact mul_le_mul_of_nonneg_left (hxy i hi) (abs_nonneg _)

end Fir.Proofs
