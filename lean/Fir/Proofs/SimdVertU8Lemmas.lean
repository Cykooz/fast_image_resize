/-
  Fir.Proofs.SimdVertU8Lemmas - the SSE4.1 vertical pass for 8-bit components (src/convolution/vertical_u8/sse4.rs,
  `Fir.Model.SimdVertU8`) equals the portable kernel: in the 8-, the 4- and the 16-component step every row adds
  `component * coefficient` (mod 2^32) to the lane of its component (`Lanes.rows_loop`).
-/
import Fir.Model.SimdVertU8
import Fir.Proofs.SimdLanes

namespace Fir.Proofs
open Fir.SimdU8x4 Fir.SimdVertU8 Fir.Proofs.Lanes

theorem dotV_nil_right (rows : List (List Int)) (x : Nat) : dotV rows [] x = 0 := by
  cases rows <;> rfl

namespace VertU8

def term (x : Nat) (row : List Int) (k : Int) : Nat → Int := fun j => row.getD (x + j) 0 % 256 * wrap16 k

def enc8 (t : Nat → Int) : List Int × List Int := (regs 32 4 t, regs 32 4 fun i => t (4 + i))

def enc16 (t : Nat → Int) : List (List Int) := (List.range 4).map fun a => regs 32 4 fun i => t (4 * a + i)

theorem zero16_getD (i : Nat) : zero16.getD i 0 = 0 := by
  rw [zero16, List.getD_eq_getElem?_getD, List.getElem?_replicate]; split <;> rfl

/-- bytes widened to 16 bits by unpacking with zero, then `_mm_madd_epi16`: lane `j` is the pair of bytes `2 j`, `2 j + 1` of
    the low half of `s` times the pair of coefficients in lane `j` of `m` -/
theorem madd_lo (s m : List Int) : madd (unpacklo8 s zero16) m = regs 32 4 fun j =>
    i16pair (s.getD (2 * j) 0) 0 * i16At m (2 * j) + i16pair (s.getD (2 * j + 1) 0) 0 * i16At m (2 * j + 1) := by
  simp only [lanes, lanes_proc, unpacklo8, zero16_getD, madd, i16At]

theorem madd_hi (s m : List Int) : madd (unpackhi8 s zero16) m = regs 32 4 fun j =>
    i16pair (s.getD (8 + 2 * j) 0) 0 * i16At m (2 * j) + i16pair (s.getD (8 + 2 * j + 1) 0) 0 * i16At m (2 * j + 1) := by
  simp only [lanes, lanes_proc, unpackhi8, zero16_getD, madd, i16At]

theorem pair8_eq (x : Nat) (t : Nat → Int) (rA rB : List Int) (k0 k1 : Int) :
    pair8 (enc8 t) rA rB x k0 k1 = enc8 (t + (term x rA k0 + term x rB k1)) := by
  -- `↓`: `madd_lo`, `madd_hi` are to fire before `unpacklo8 _ zero16` is unfolded
  simp only [lanes, lanes_proc, ↓madd_lo, ↓madd_hi, enc8, term, pair8, clone4, unpacklo8, load8, add32, i16At, kBytes]

theorem last8_eq (x : Nat) (t : Nat → Int) (r : List Int) (k : Int) : last8 (enc8 t) r x k = enc8 (t + term x r k) := by
  simp only [lanes, lanes_proc, ↓madd_lo, ↓madd_hi, enc8, term, last8, set1k, clone4, unpacklo8, zero16_getD, load8, add32, i16At]

theorem pair4_eq (x : Nat) (t : Nat → Int) (rA rB : List Int) (k0 k1 : Int) :
    pair4 (regs 32 4 t) rA rB x k0 k1 = regs 32 4 (t + (term x rA k0 + term x rB k1)) := by
  simp only [lanes, lanes_proc, ↓madd_lo, term, pair4, clone4, unpacklo8, load4, add32, i16At, kBytes]

theorem last4_eq (x : Nat) (t : Nat → Int) (r : List Int) (k : Int) : last4 (regs 32 4 t) r x k = regs 32 4 (t + term x r k) := by
  simp only [lanes, lanes_proc, term, last4, set1k, clone4, load4, add32, madd, i16At]

theorem pair16_eq (x : Nat) (t : Nat → Int) (rA rB : List Int) (k0 k1 : Int) :
    pair16 (enc16 t) rA rB x k0 k1 = enc16 (t + (term x rA k0 + term x rB k1)) := by
  simp only [lanes, lanes_proc, ↓madd_lo, ↓madd_hi, enc16, term, pair16, clone4, unpacklo8, unpackhi8, load16, add32, i16At, kBytes]

theorem last16_eq (x : Nat) (t : Nat → Int) (r : List Int) (k : Int) : last16 (enc16 t) r x k = enc16 (t + term x r k) := by
  simp only [lanes, lanes_proc, ↓madd_lo, ↓madd_hi, enc16, term, last16, set1k, clone4, unpacklo8, unpackhi8, zero16_getD, load16, add32,
    i16At]

end VertU8
open VertU8

theorem loop8_eq (x : Nat) (rows : List (List Int)) (ks : List Int) (h : ks.length ≤ rows.length) (t : Nat → Int) :
    loop8 x rows ks (enc8 t) = enc8 (t + fun j => dotV rows ks (x + j)) :=
  rows_loop (loop := loop8 x) (pair := fun s rA rB k0 k1 => pair8 s rA rB x k0 k1) (last := fun s r k => last8 s r x k)
    (term := term x) (dv := fun rows ks j => dotV rows ks (x + j))
    (fun _ _ _ _ _ _ _ => rfl) (fun r rows k s => by cases rows <;> rfl) (fun rows s => by rcases rows with _ | ⟨_, _ | _⟩ <;> rfl)
    (pair8_eq x) (last8_eq x) (fun _ _ _ _ => rfl)
    (fun rows => funext fun _ => dotV_nil_right rows _) rows ks t h

/-- the 8-component step of the SSE4.1 vertical pass equals the portable kernel, for every number of
    rows (pairs of rows and an odd last row) and every content -/
theorem vert_u8_sse4_chunk8_eq (p : Nat) (hp : p < 32) (rows : List (List Int)) (ks : List Int) (h : ks.length ≤ rows.length) (x : Nat) :
    chunk8 p rows ks x = (List.range 8).map fun j => clip8 (2 ^ (p - 1) + dotV rows ks (x + j)) p := by
  have hl := loop8_eq x rows ks h fun _ => 2 ^ (p - 1)
  simp only [lanes, lanes_proc, enc8] at hl
  simp only [chunk8, hl, lanes, lanes_proc, lane_finish _ p hp]

theorem loop4_eq (x : Nat) (rows : List (List Int)) (ks : List Int) (h : ks.length ≤ rows.length) (t : Nat → Int) :
    loop4 x rows ks (regs 32 4 t) = regs 32 4 (t + fun j => dotV rows ks (x + j)) :=
  rows_loop (loop := loop4 x) (pair := fun s rA rB k0 k1 => pair4 s rA rB x k0 k1) (last := fun s r k => last4 s r x k)
    (term := term x) (dv := fun rows ks j => dotV rows ks (x + j))
    (fun _ _ _ _ _ _ _ => rfl) (fun r rows k s => by cases rows <;> rfl) (fun rows s => by rcases rows with _ | ⟨_, _ | _⟩ <;> rfl)
    (pair4_eq x) (last4_eq x) (fun _ _ _ _ => rfl)
    (fun rows => funext fun _ => dotV_nil_right rows _) rows ks t h

/-- the 4-component step of the SSE4.1 vertical pass equals the portable kernel -/
theorem vert_u8_sse4_chunk4_eq (p : Nat) (hp : p < 32) (rows : List (List Int)) (ks : List Int) (h : ks.length ≤ rows.length) (x : Nat) :
    chunk4 p rows ks x = (List.range 4).map fun j => clip8 (2 ^ (p - 1) + dotV rows ks (x + j)) p := by
  have hl := loop4_eq x rows ks h fun _ => 2 ^ (p - 1)
  simp only [lanes, lanes_proc] at hl
  simp only [chunk4, hl, lanes, lanes_proc, lane_finish _ p hp]

/-! ### the 32-component step: two independent 16-byte column blocks -/

theorem loop16_eq (x : Nat) (rows : List (List Int)) (ks : List Int) (h : ks.length ≤ rows.length) (t : Nat → Int) :
    loop16 x rows ks (enc16 t) = enc16 (t + fun j => dotV rows ks (x + j)) :=
  rows_loop (loop := loop16 x) (pair := fun s rA rB k0 k1 => pair16 s rA rB x k0 k1) (last := fun s r k => last16 s r x k)
    (term := term x) (dv := fun rows ks j => dotV rows ks (x + j))
    (fun _ _ _ _ _ _ _ => rfl) (fun r rows k s => by cases rows <;> rfl) (fun rows s => by rcases rows with _ | ⟨_, _ | _⟩ <;> rfl)
    (pair16_eq x) (last16_eq x) (fun _ _ _ _ => rfl)
    (fun rows => funext fun _ => dotV_nil_right rows _) rows ks t h

theorem block16_eq (p : Nat) (hp : p < 32) (rows : List (List Int)) (ks : List Int) (h : ks.length ≤ rows.length) (x : Nat) :
    block16 p rows ks x = (List.range 16).map fun j => clip8 (2 ^ (p - 1) + dotV rows ks (x + j)) p := by
  have hl := loop16_eq x rows ks h fun _ => 2 ^ (p - 1)
  simp only [lanes, lanes_proc, enc16] at hl
  simp only [block16, hl, lanes, lanes_proc, List.flatten_cons, List.flatten_nil, lane_finish _ p hp]

/-- the 32-component step of the SSE4.1 vertical pass equals the portable kernel -/
theorem vert_u8_sse4_chunk32_eq (p : Nat) (hp : p < 32) (rows : List (List Int)) (ks : List Int) (h : ks.length ≤ rows.length) (x : Nat) :
    chunk32 p rows ks x = (List.range 32).map fun j => clip8 (2 ^ (p - 1) + dotV rows ks (x + j)) p := by
  simp only [chunk32, block16_eq p hp rows ks h, lanes, lanes_proc]

end Fir.Proofs
