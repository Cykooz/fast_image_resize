/-
  Fir.Proofs.LayoutLemmas - reading (`extractImg`) and writing (`injectImg`) a logical image through a
  view (Fir/Model/ProtoResize.lean), used by C05 (write set) and C13 (layout independence).

  `injectImg` is a list of component writes `(index, value)` with pairwise distinct targets
  (`injectImg_eq`, `compWrites_keys_nodup`); what such a list does to a buffer is `setAll_of_mem` /
  `setAll_of_not_mem`.
-/
import Fir.Model.ProtoResize
import Fir.Proofs.ViewLemmas
namespace Fir.Proofs

def setAll (ws : List (Nat × Int)) (b : Array Int) : Array Int :=
  ws.foldl (fun b w => b.setIfInBounds w.1 w.2) b

theorem setAll_size (ws : List (Nat × Int)) (b : Array Int) : (setAll ws b).size = b.size := by
  induction ws generalizing b with
  | nil => rfl
  | cons w ws ih => exact (ih _).trans (Array.size_setIfInBounds ..)

theorem setAll_of_not_mem (ws : List (Nat × Int)) (b : Array Int) (j : Nat) (h : ∀ w ∈ ws, w.1 ≠ j) :
    (setAll ws b)[j]? = b[j]? := by
  induction ws generalizing b with
  | nil => rfl
  | cons w ws ih =>
    exact (ih _ fun w' hw' => h w' (List.mem_cons_of_mem _ hw')).trans
      (Array.getElem?_setIfInBounds_ne (h w List.mem_cons_self))

theorem setAll_of_mem (ws : List (Nat × Int)) (hnd : (ws.map Prod.fst).Nodup) (b : Array Int) (j : Nat) (x : Int)
    (hw : (j, x) ∈ ws) (hj : j < b.size) : (setAll ws b)[j]? = some x := by
  induction ws generalizing b with
  | nil => cases hw
  | cons w ws ih =>
    rw [List.map_cons, List.nodup_cons] at hnd
    rcases List.mem_cons.mp hw with rfl | hw
    · rw [show setAll (_ :: ws) b = setAll ws _ from rfl,
        setAll_of_not_mem _ _ _ fun w' hw' e => hnd.1 (List.mem_map.mpr ⟨w', hw', e⟩),
        Array.getElem?_setIfInBounds_self, if_pos hj]
    · exact ih hnd.2 _ hw (by rwa [Array.size_setIfInBounds])

def compWrites (n : Nat) (im : Img) (idx : List Nat) : List (Nat × Int) :=
  idx.zipIdx.flatMap fun qp => (List.range n).map fun c => (qp.1 * n + c, im.data.getD (qp.2 * n + c) 0)

theorem injectImg_eq (v : View) (n : Nat) (im : Img) (buf : Array Int) :
    injectImg v n im buf = setAll (compWrites n im (v.rows 0).flatten) buf := by
  simp only [injectImg, writePixel, setAll, compWrites, List.foldl_flatMap, List.foldl_map]

theorem mem_compWrites {n : Nat} {im : Img} {idx : List Nat} {w : Nat × Int} :
    w ∈ compWrites n im idx ↔
      ∃ k q c, idx[k]? = some q ∧ c < n ∧ w = (q * n + c, im.data.getD (k * n + c) 0) := by
  simp only [compWrites, List.mem_flatMap, List.mem_map, List.mem_range, Prod.exists, List.mem_zipIdx_iff_getElem?]
  constructor
  · rintro ⟨q, k, hk, c, hc, rfl⟩; exact ⟨k, q, c, hk, hc, rfl⟩
  · rintro ⟨k, q, c, hk, hc, rfl⟩; exact ⟨q, k, hk, c, hc, rfl⟩

theorem compWrites_keys (n : Nat) (im : Img) (idx : List Nat) :
    (compWrites n im idx).map Prod.fst = idx.flatMap fun q => List.range' (q * n) n := by
  conv_rhs => rw [← List.zipIdx_map_fst 0 idx, List.flatMap_map]
  simp only [compWrites, List.map_flatMap, List.map_map, Function.comp_def, List.range'_eq_map_range]

theorem compWrites_keys_nodup (n : Nat) (im : Img) (idx : List Nat) (hnd : idx.Nodup) :
    ((compWrites n im idx).map Prod.fst).Nodup := by
  rw [compWrites_keys, List.nodup_flatMap]
  refine ⟨fun _ _ => List.nodup_range' .., hnd.imp fun {q q'} hne => List.disjoint_left.mpr fun x hx hx' => hne ?_⟩
  rw [List.mem_range'_1, ← Nat.succ_mul] at hx hx'
  exact (Nat.div_eq_of_lt_le hx.1 hx.2).symm.trans (Nat.div_eq_of_lt_le hx'.1 hx'.2)

theorem inject_size (v : View) (n : Nat) (im : Img) (buf : Array Int) : (injectImg v n im buf).size = buf.size := by
  rw [injectImg_eq, setAll_size]

theorem inject_outside_unchanged (v : View) (n : Nat) (im : Img) (buf : Array Int) (j : Nat)
    (hout : ∀ q ∈ (v.rows 0).flatten, j / n ≠ q) (hn : 0 < n) :
    (injectImg v n im buf).getD j 0 = buf.getD j 0 := by
  rw [Array.getD_eq_getD_getElem?, Array.getD_eq_getD_getElem?, injectImg_eq, setAll_of_not_mem]
  rintro w hw rfl
  obtain ⟨k, q, c, hk, hc, rfl⟩ := mem_compWrites.mp hw
  exact hout q (List.mem_of_getElem? hk) (by rw [Nat.mul_comm, Nat.mul_add_div hn, Nat.div_eq_of_lt hc, Nat.add_zero])

theorem inject_inside_assigned (v : View) (hwf : v.wf = true) (n : Nat) (im : Img) (buf : Array Int) (k c : Nat)
    (hk : k < ((v.rows 0).flatten).length) (hc : c < n)
    (hfit : ∀ q ∈ (v.rows 0).flatten, (q + 1) * n ≤ buf.size) :
    (injectImg v n im buf).getD (((v.rows 0).flatten).getD k 0 * n + c) 0 = im.data.getD (k * n + c) 0 := by
  have hq : ((v.rows 0).flatten)[k]? = some (((v.rows 0).flatten).getD k 0) := by
    rw [List.getD_eq_getElem?_getD, List.getElem?_eq_getElem hk]; rfl
  have hlt := hfit _ (List.mem_of_getElem? hq)
  rw [Nat.succ_mul] at hlt
  rw [Array.getD_eq_getD_getElem?, injectImg_eq, setAll_of_mem _ (compWrites_keys_nodup _ _ _ (idx_nodup v hwf)) _ _ _
    (mem_compWrites.mpr ⟨k, _, c, hq, hc, rfl⟩) (by omega)]
  rfl

theorem extract_dims (v : View) (n : Nat) (buf : Array Int) :
    (extractImg v n buf).w = v.width ∧ (extractImg v n buf).h = v.height ∧ (extractImg v n buf).n = n :=
  ⟨rfl, rfl, rfl⟩

theorem extract_depends_on_view_only (v : View) (n : Nat) (buf buf' : Array Int)
    (h : ∀ q ∈ (v.rows 0).flatten, ∀ c, c < n → buf.getD (q * n + c) 0 = buf'.getD (q * n + c) 0) :
    extractImg v n buf = extractImg v n buf' := by
  refine congrArg (fun g => Img.mk v.width v.height n (Array.ofFn g)) (funext fun i => ?_)
  have hn : 0 < n := Nat.pos_of_ne_zero fun h0 => by have := i.isLt; simp [h0] at this
  have hq : i.val / n < ((v.rows 0).flatten).length := (Nat.div_lt_iff_lt_mul hn).mpr i.isLt
  rw [getElem!_pos (v.rows 0).flatten _ hq]
  exact h _ (List.getElem_mem hq) _ (Nat.mod_lt _ hn)

theorem extract_data_size (v : View) (n : Nat) (buf : Array Int) :
    (extractImg v n buf).data.size = ((v.rows 0).flatten).length * n :=
  Array.size_ofFn

theorem extract_data_getElem (v : View) (n : Nat) (buf : Array Int) (i : Nat)
    (hi : i < ((v.rows 0).flatten).length * n) :
    (extractImg v n buf).data[i]'(by rw [extract_data_size]; exact hi)
      = buf.getD (((v.rows 0).flatten).getD (i / n) 0 * n + i % n) 0 :=
  (Array.getElem_ofFn ..).trans (by rw [List.getD_eq_getElem?_getD, List.getElem!_eq_getElem?_getD]; rfl)

theorem extract_inject (v : View) (hwf : v.wf = true) (n : Nat) (hn : 0 < n) (im : Img) (buf : Array Int)
    (hdim : im.data.size = ((v.rows 0).flatten).length * n)
    (hfit : ∀ q ∈ (v.rows 0).flatten, (q + 1) * n ≤ buf.size) :
    (extractImg v n (injectImg v n im buf)).data = im.data := by
  refine Array.ext (by rw [extract_data_size, hdim]) fun i h1 h2 => ?_
  have hi : i < ((v.rows 0).flatten).length * n := extract_data_size v n _ ▸ h1
  rw [extract_data_getElem v n _ i hi,
    inject_inside_assigned v hwf n im buf (i / n) (i % n) ((Nat.div_lt_iff_lt_mul hn).mpr hi) (Nat.mod_lt _ hn) hfit,
    Nat.div_add_mod', Array.getD_eq_getD_getElem?, Array.getElem?_eq_getElem h2]
  rfl

/-! ### typed views: the index list is the contiguous block `[off, off + w*h)` -/

theorem scratch_fully_overwritten (off w h n : Nat) (hn : 0 < n) (im : Img) (g : Array Int)
    (hdim : im.data.size = w * h * n) (hw : 0 < w)
    (hfit : (off + w * h) * n ≤ g.size) :
    (extractImg (View.typed off w h (w * h)) n (injectImg (View.typed off w h (w * h)) n im g)).data = im.data := by
  have hwf : (View.typed off w h (w * h)).wf = true := by simp [View.wf]
  have hidx : ((View.typed off w h (w * h)).rows 0).flatten = List.range' off (w * h) :=
    (congrArg List.flatten (isRect_self hwf).rows).trans (rect_flatten_full off w h)
  apply extract_inject _ hwf n hn im g
  · rw [hidx, List.length_range', hdim]
  · intro q hq
    rw [hidx, List.mem_range'_1] at hq
    exact (Nat.mul_le_mul_right n hq.2).trans hfit

end Fir.Proofs
