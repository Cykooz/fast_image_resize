/-
  Fir.Proofs.SimdLanes - what all the lane-accurate kernel proofs share.

  A kernel keeps its running sums in the lanes of one or more registers, every lane reduced modulo `2 ^ w`.  `enc t` is
  the register state that holds the (unreduced) totals `t : Nat → Int`, lane `i` holding `t i`.  Every piece of a kernel -
  one 8 / 4 / 2 / 1 coefficient step, a remainder, a whole loop - is a translation: it maps `enc t` to `enc (t + δ)` for
  some increments `δ` that do not depend on `t` (`Step`).  Translations compose by adding their increments, so a loop
  is a translation as soon as its body is (`chunk_loop`); which increments are acceptable for a list of coefficients
  is a `Spec`, closed under concatenation because the portable dot product is (`dot_append`).
-/
import Fir.Model.SimdU8x4
import Fir.Proofs.FixedLemmas
import Fir.Proofs.SimdSimpAttr
import Mathlib.Tactic.Ring
namespace Fir.Proofs.Lanes
open Fir.Gen

/-! ### the simp set `lanes`

A step lemma is a finite fact about concrete masks: one `simp only [lanes, lanes_proc, <the kernel's definitions and masks>]`
computes what the step does to registers written as explicit lists.  `lanes` unfolds the list plumbing (`List.range n`,
`map`, `zipWith`, `getD` on a literal list) and normalises indices (`4 * (x + 1) + 0` to `4 * x + 4`) and sums; `lanes_proc`,
the simproc set that `register_simp_attr lanes` declares with it, evaluates literals (`if -1 < 0`, `Int.toNat 8 % 16`) on the
way, so that no intermediate term ever holds a whole shuffled register.  What may remain is a sum in another order: `ac_rfl`. -/

attribute [lanes] List.range List.range.loop List.map List.flatMap_cons List.flatMap_nil List.cons_append
  List.nil_append List.getD_cons_succ List.getD_cons_zero List.zipWith List.replicate List.take List.drop Pi.add_apply
  Nat.mul_add Nat.add_assoc Nat.add_zero Int.add_zero Int.zero_add Int.zero_mul
attribute [lanes_proc] reduceIte Int.reduceLT Int.reduceToNat Nat.reduceMod Nat.reduceMul Nat.reduceAdd 
  Nat.reduceLT Nat.reduceDiv Nat.reduceEqDiff

/-! ### wrapping: `wrapInt w` is the reduction modulo `2 ^ w`, so it may be dropped under an outer `wrapInt w (_ + _)` -/

attribute [lanes] wrapInt_add

@[lanes] theorem wrapInt_add_right (w : Nat) (a b : Int) : wrapInt w (a + wrapInt w b) = wrapInt w (a + b) := by
  rw [add_comm, wrapInt_add, add_comm]

@[lanes] theorem wrapInt_idem (w : Nat) (a : Int) : wrapInt w (wrapInt w a) = wrapInt w a := by
  simpa using wrapInt_add w a 0

theorem wrapInt_add_congr {w : Nat} {a a' b b' : Int} (ha : wrapInt w a = wrapInt w a') (hb : wrapInt w b = wrapInt w b') :
    wrapInt w (a + b) = wrapInt w (a' + b') := by
  rw [← wrapInt_add, ha, wrapInt_add, ← wrapInt_add_right, hb, wrapInt_add_right]

/-! ### the portable dot product of a strided window splits where the coefficient list splits -/

theorem dot_append {d : List Int → Nat → Int} {g : Nat → Int → Int} (hnil : ∀ x, d [] x = 0)
    (hcons : ∀ k ks x, d (k :: ks) x = g x k + d ks (x + 1)) (a b : List Int) (x : Nat) :
    d (a ++ b) x = d a x + d b (x + a.length) := by
  induction a generalizing x with
  | nil => simp [hnil]
  | cons k a ih => simp only [List.cons_append, hcons, ih, List.length_cons, add_assoc, Nat.add_comm 1]

/-- a kernel's own dot product `d` over channel `c` of `n`-channel pixels - samples masked to their width (`% M`), coefficients
    passed through the wrap `wr` of their register type - is the portable `dotL` of the window once samples and coefficients
    are in range (`hb`, `wr k = k`) -/
theorem dot_eq_dotL {d : List Int → Nat → Int} {row : List Int} {n c : Nat} {M : Int} {wr : Int → Int} (hnil : ∀ x, d [] x = 0)
    (hcons : ∀ k ks x, d (k :: ks) x = row.getD (n * x + c) 0 % M * wr k + d ks (x + 1))
    (hb : ∀ i, row.getD i 0 % M = row.getD i 0) :
    ∀ (ks : List Int) (x : Nat), (∀ k ∈ ks, wr k = k) →
      d ks x = dotL ks ((List.range ks.length).map fun i => row.getD (n * (x + i) + c) 0) := by
  intro ks
  induction ks with
  | nil => intro x _; simp [hnil, dotL]
  | cons k ks ih =>
    intro x hk
    have hw : wr k = k := hk k (List.mem_cons_self ..)
    simp only [hcons, List.length_cons, List.range_succ_eq_map, List.map_cons, List.map_map]
    rw [dotL_cons, ih (x + 1) (fun k' hk' => hk k' (List.mem_cons_of_mem _ hk')), hw, hb]
    have e : ((fun i => row.getD (n * (x + i) + c) 0) ∘ Nat.succ) = fun i => row.getD (n * (x + 1 + i) + c) 0 := by
      funext i; simp only [Function.comp, Nat.succ_eq_add_one]; congr 2; congr 1; omega
    rw [e]
    simp only [Nat.add_zero]
    ring

@[lanes] def regs (w n : Nat) (t : Nat → Int) : List Int := (List.range n).map fun i => wrapInt w (t i)

/-- the totals of the two 128-bit halves of a 256-bit register, interleaved: the low half has the even, the high half the odd
    indices, so that "lane `c` of either half" is a pair `2 * c`, `2 * c + 1` for every `c` -/
def ilv (δ ε : Nat → Int) : Nat → Int := fun i => if i % 2 = 0 then δ (i / 2) else ε (i / 2)

@[lanes] theorem ilv_even (δ ε : Nat → Int) (c : Nat) : ilv δ ε (2 * c) = δ c := by
  simp only [ilv, Nat.mul_mod_right, if_true, Nat.mul_div_cancel_left c (by decide : 0 < 2)]

@[lanes] theorem ilv_odd (δ ε : Nat → Int) (c : Nat) : ilv δ ε (2 * c + 1) = ε c := by
  have h1 : (2 * c + 1) % 2 = 1 := by omega
  have h2 : (2 * c + 1) / 2 = c := by omega
  simp only [ilv, h1, h2, if_false, Nat.one_ne_zero]

@[lanes] def vec (l : List Int) : Nat → Int := fun i => l.getD i 0

/-- which lane increments `δ` amount to consuming the coefficients `ks` at pixel `x` -/
structure Spec where
  ok : List Int → Nat → (Nat → Int) → Prop
  nil : ∀ x, ok [] x 0
  append : ∀ {a b x δ ε}, ok a x δ → ok b (x + a.length) ε → ok (a ++ b) x (δ + ε)

/-- channel `c` is the sum of the lanes that the additive map `col` collects into it, and must gain `dot c ks x` -/
def Spec.sums (col : (Nat → Int) → Nat → Int) (dot : Nat → List Int → Nat → Int) {g : Nat → Nat → Int → Int}
    (hcol : ∀ δ ε, col (δ + ε) = col δ + col ε) (hnil : ∀ c x, dot c [] x = 0)
    (hcons : ∀ c k ks x, dot c (k :: ks) x = g c x k + dot c ks (x + 1)) : Spec where
  ok ks x δ := col δ = fun c => dot c ks x
  nil x := by
    have h := hcol 0 0
    rw [add_zero, left_eq_add] at h
    rw [h]; funext c; exact (hnil c x).symm
  append := fun {a b x δ ε} h1 h2 => by
    rw [hcol, h1, h2]; funext c; exact (dot_append (hnil c) (hcons c) a b x).symm

variable {σ ρ : Type} {enc : (Nat → Int) → σ} {S : Spec}

def Step (enc : (Nat → Int) → σ) (S : Spec) (f : σ → σ) (ks : List Int) (x : Nat) : Prop :=
  ∃ δ, S.ok ks x δ ∧ ∀ t, f (enc t) = enc (t + δ)

theorem Step.id (x : Nat) : Step enc S (fun s => s) [] x := ⟨0, S.nil x, fun t => by rw [add_zero]⟩

/-- a piece that leaves the registers as they are (a half of a 256-bit register that is fed zeros) consumes nothing -/
theorem Step.nop {g : σ → σ} (x : Nat) (h : ∀ t, g (enc t) = enc t) : Step enc S g [] x :=
  ⟨0, S.nil x, fun t => by rw [h, add_zero]⟩

theorem Step.comp {f g : σ → σ} {a b : List Int} {x : Nat} (hf : Step enc S f a x) (hg : Step enc S g b (x + a.length)) :
    Step enc S (fun s => g (f s)) (a ++ b) x := by
  obtain ⟨δ, hδ, hf⟩ := hf
  obtain ⟨ε, hε, hg⟩ := hg
  exact ⟨δ + ε, S.append hδ hε, fun t => by show g (f (enc t)) = _; rw [hf, hg, add_assoc]⟩

/-- a 256-bit step is two 128-bit steps: `f` on the low and `g` on the high half, one after the other in the coefficients -/
theorem Step.pair {S' : Spec} {f g : σ → σ} {a b : List Int} {x : Nat}
    (hS : ∀ {δ ε}, S.ok a x δ → S.ok b (x + a.length) ε → S'.ok (a ++ b) x (ilv δ ε))
    (hf : Step enc S f a x) (hg : Step enc S g b (x + a.length)) :
    Step (fun t => (enc fun c => t (2 * c), enc fun c => t (2 * c + 1))) S' (fun s => (f s.1, g s.2)) (a ++ b) x := by
  obtain ⟨δ, hδ, hf⟩ := hf
  obtain ⟨ε, hε, hg⟩ := hg
  refine ⟨ilv δ ε, hS hδ hε, fun t => ?_⟩
  simp only [hf, hg]
  congr 2 <;> (funext c; simp only [Pi.add_apply, ilv_even, ilv_odd])

/-- a contract on the pieces of a kernel (`ok f ks x`: "`f` consumes the coefficients `ks` at pixel `x`") that doing nothing meets
    and sequencing preserves; the loop lemmas below need no more than that -/
structure Pieces (σ : Type) where
  ok : (σ → σ) → List Int → Nat → Prop
  id : ∀ x, ok (fun s => s) [] x
  comp : ∀ {f g a b x}, ok f a x → ok g b (x + a.length) → ok (fun s => g (f s)) (a ++ b) x

def Step.pieces (enc : (Nat → Int) → σ) (S : Spec) : Pieces σ := ⟨Step enc S, Step.id, Step.comp⟩

/-- `for k in coeffs.chunks_exact(n) { s = body(s, x, k); x += n }`, then `fin` on the remainder: after its `q` iterations the
    loop has consumed the first `n * q` coefficients and hands on to `fin` (a remainder cascade, or the triple for the next phase) -/
theorem chunk_loop (P : Pieces σ) {n : Nat} {body : σ → Nat → List Int → σ} {fin : σ → Nat → List Int → ρ}
    {loop : List Int → Nat → σ → ρ}
    (hloop : ∀ (ks : List Int) x s,
      loop ks x s = if n ≤ ks.length then loop (ks.drop n) (x + n) (body s x (ks.take n)) else fin s x ks)
    (hbody : ∀ (ks : List Int) x, n ≤ ks.length → P.ok (fun s => body s x (ks.take n)) (ks.take n) x) (q : Nat) :
    ∀ (ks : List Int) (x : Nat), n * q ≤ ks.length → ks.length < n * q + n →
      ∃ f, P.ok f (ks.take (n * q)) x ∧ ∀ s, loop ks x s = fin (f s) (x + n * q) (ks.drop (n * q)) := by
  induction q with
  | zero => exact fun ks x _ h => ⟨fun s => s, P.id x, fun s => by rw [hloop, if_neg (by omega)]; rfl⟩
  | succ q ih =>
    intro ks x h1 h2
    rw [Nat.mul_succ] at h1 h2
    have hlen : n ≤ ks.length := by omega
    obtain ⟨f, hf, hrun⟩ := ih (ks.drop n) (x + n) (by rw [List.length_drop]; omega) (by rw [List.length_drop]; omega)
    have hl : x + (ks.take n).length = x + n := by rw [List.length_take, Nat.min_eq_left hlen]
    refine ⟨fun s => f (body s x (ks.take n)), ?_, fun s => ?_⟩
    · rw [Nat.mul_succ, Nat.add_comm, List.take_add]
      exact P.comp (hbody ks x hlen) (hl ▸ hf)
    · rw [hloop, if_pos hlen, hrun, List.drop_drop, Nat.mul_succ, Nat.add_comm (n * q), Nat.add_assoc]

/-- `if let Some(k) = rest.chunks_exact(n).next() { s = body(s, x, k); x += n }`: at most one more step of `n` coefficients -/
theorem opt_step (P : Pieces σ) {n : Nat} {body : σ → Nat → List Int → σ}
    (hbody : ∀ (ks : List Int) x, n ≤ ks.length → P.ok (fun s => body s x (ks.take n)) (ks.take n) x)
    (ks : List Int) (x : Nat) :
    ∃ j f, j ≤ ks.length ∧ P.ok f (ks.take j) x ∧
      ∀ s, (if ks.length ≥ n then (body s x (ks.take n), x + n, ks.drop n) else (s, x, ks)) = (f s, x + j, ks.drop j) := by
  by_cases h : ks.length ≥ n
  · exact ⟨n, _, h, hbody ks x h, fun s => by rw [if_pos h]⟩
  · exact ⟨0, _, Nat.zero_le _, P.id x, fun s => by rw [if_neg h]; rfl⟩

theorem Step.comp_take {f g : σ → σ} {ks rest : List Int} {m x : Nat} (hm : m ≤ ks.length) (hf : Step enc S f (ks.take m) x)
    (hg : Step enc S g rest (x + m)) : Step enc S (fun s => g (f s)) (ks.take m ++ rest) x :=
  hf.comp (by rwa [List.length_take, Nat.min_eq_left hm])

/-- where the next phase starts after `chunk_loop` has taken `m` coefficients and `opt_step` another `j` -/
theorem length_take_take {ks : List Int} {m j : Nat} (x : Nat) (hm : m ≤ ks.length) (hj : j ≤ (ks.drop m).length) :
    x + (ks.take m ++ (ks.drop m).take j).length = x + m + j := by
  rw [List.length_append, List.length_take, List.length_take, Nat.min_eq_left hm, Nat.min_eq_left hj, Nat.add_assoc]

theorem take8 {C : List Int → Prop} (h : ∀ k0 k1 k2 k3 k4 k5 k6 k7, C [k0, k1, k2, k3, k4, k5, k6, k7]) :
    ∀ ks : List Int, 8 ≤ ks.length → C (ks.take 8)
  | k0 :: k1 :: k2 :: k3 :: k4 :: k5 :: k6 :: k7 :: _, _ => h k0 k1 k2 k3 k4 k5 k6 k7

theorem loop8_ok (P : Pieces σ) {body fin : σ → Nat → List Int → σ} {loop : List Int → Nat → σ → σ}
    (hloop : ∀ (ks : List Int) x s, loop ks x s = if 8 ≤ ks.length then loop (ks.drop 8) (x + 8) (body s x (ks.take 8)) else fin s x ks)
    (hbody : ∀ x k0 k1 k2 k3 k4 k5 k6 k7, P.ok (fun s => body s x [k0, k1, k2, k3, k4, k5, k6, k7]) [k0, k1, k2, k3, k4, k5, k6, k7] x)
    (hfin : ∀ x (ks : List Int), ks.length < 8 → P.ok (fun s => fin s x ks) ks x) (ks : List Int) (x : Nat) :
    P.ok (fun s => loop ks x s) ks x := by
  obtain ⟨f, hf, hrun⟩ := chunk_loop P hloop
    (fun ks x => take8 (C := fun k => P.ok (fun s => body s x k) k x) (hbody x) ks) (ks.length / 8) ks x (by omega) (by omega)
  have := P.comp hf (hfin _ (ks.drop (8 * (ks.length / 8))) (by rw [List.length_drop]; omega))
  rw [List.take_append_drop, List.length_take, Nat.min_eq_left (by omega)] at this
  exact (funext hrun) ▸ this

/-! ### the vertical kernels: a loop over the source rows, two at a time, every lane its own column -/

/-- `for (two_rows, two_coeffs) in rows.zip(coeffs.chunks_exact(2)) { pair }`, then `last` for an odd coefficient: if a row with
    coefficient `k` adds `term r k` to the lanes, the loop adds the column sums `dv` -/
theorem rows_loop {enc : (Nat → Int) → σ} {dv : List (List Int) → List Int → Nat → Int} {term : List Int → Int → Nat → Int}
    {pair : σ → List Int → List Int → Int → Int → σ} {last : σ → List Int → Int → σ}
    {loop : List (List Int) → List Int → σ → σ}
    (hpair : ∀ rA rB rows k0 k1 ks s, loop (rA :: rB :: rows) (k0 :: k1 :: ks) s = loop rows ks (pair s rA rB k0 k1))
    (hlast : ∀ r rows k s, loop (r :: rows) [k] s = last s r k) (hnil : ∀ rows s, loop rows [] s = s)
    (hp : ∀ t rA rB k0 k1, pair (enc t) rA rB k0 k1 = enc (t + (term rA k0 + term rB k1)))
    (hl : ∀ t r k, last (enc t) r k = enc (t + term r k))
    (hd : ∀ r rows k ks, dv (r :: rows) (k :: ks) = term r k + dv rows ks) (hd0 : ∀ rows, dv rows [] = 0) :
    ∀ (rows : List (List Int)) (ks : List Int) (t : Nat → Int), ks.length ≤ rows.length →
      loop rows ks (enc t) = enc (t + dv rows ks)
  | rows, [], t, _ => by rw [hnil, hd0, add_zero]
  | r :: rows, [k], t, _ => by rw [hlast, hl, hd, hd0, add_zero]
  | rA :: rB :: rows, k0 :: k1 :: ks, t, h => by
    rw [hpair, hp, rows_loop hpair hlast hnil hp hl hd hd0 rows ks _ (by simpa using h), hd, hd, add_assoc, add_assoc]
  | [], _ :: _, _, h => by simp at h
  | [_], _ :: _ :: _, _, h => by simp at h

end Fir.Proofs.Lanes

namespace Fir.Proofs
open Fir.SimdU8x4 Fir.Gen Fir.Proofs.Lanes

/-! ### the intrinsics every kernel uses (`Fir.Model.SimdU8x4`) on one lane -/

@[lanes] theorem i16_byte (a : Int) : i16pair (a % 256) 0 = a % 256 := by
  unfold i16pair; simp only; split <;> omega

@[lanes] theorem i16_zero : i16pair 0 0 = 0 := by decide

@[lanes] theorem i16_lohi (k : Int) : i16pair (k % 256) (k / 256 % 256) = wrap16 k := by
  unfold i16pair wrap16; simp only; split <;> omega

@[lanes] theorem wrap16_idem (k : Int) : wrap16 (wrap16 k) = wrap16 k := by unfold wrap16; omega

theorem w32_range (a : Int) : -(2 ^ 31 : Int) ≤ wrap32 a ∧ wrap32 a < 2 ^ 31 := by
  unfold wrap32 wrapInt; simp only; split <;> omega

theorem clip8_wrap (t : Int) (p : Nat) : clip8 (wrap32 t) p = clip8 t p := by
  unfold clip8; rw [show Gen.wrapInt 32 (wrap32 t) = Gen.wrapInt 32 t from wrapInt_idem 32 t]

/-- `srai`, `packs_epi32`, `packus_epi16` on a lane holding the total `t` -/
theorem lane_finish (t : Int) (p : Nat) (hp : p < 32) : packus8 (packs16 (wrap32 t / 2 ^ p)) = clip8 t p := by
  rw [← clip8_wrap, clip8_eq_packs (wrap32 t) p hp (w32_range t)]
  rfl

end Fir.Proofs
