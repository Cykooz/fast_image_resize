/-
  Fir.Proofs.FitCropLemmas - the crop box of `fit_src_into_dst_size` (C15): the ideal box `fitQ` over ℚ, which
  is the rounded computation `fitF` at the identity rounding (`fitQ_eq_fitF`), and `fitF` for any monotone rounding.
-/
import Fir.Spec.FitCrop
import Fir.Proofs.FloatLemmas
namespace Fir.Proofs
open Fir.Spec

theorem margin_bounds_fl (fl : ℚ → ℚ) (hfl : Monotone fl) (h0 : fl 0 = 0) (hid : ∀ x, fl (fl x) = fl x)
    (m c : ℚ) (hm : 0 ≤ m) :
    0 ≤ fl (fl m * max 0 (min c 1)) ∧ fl (fl m * max 0 (min c 1)) ≤ fl m := by
  have hm' : 0 ≤ fl m := Flt.le_fl hfl h0 hm
  exact ⟨Flt.le_fl hfl h0 (mul_nonneg hm' (le_max_left _ _)),
    Flt.fl_le hfl (hid m) (mul_le_of_le_one_right hm' (max_le zero_le_one (min_le_right _ _)))⟩

theorem margin_bounds (m c : ℚ) (hm : 0 ≤ m) :
    0 ≤ m * max 0 (min c 1) ∧ m * max 0 (min c 1) ≤ m :=
  margin_bounds_fl id monotone_id rfl (fun _ => rfl) m c hm

/-- the branch that crops one side returns the other side untouched, whatever the rounding -/
theorem fitF_spans (fl : ℚ → ℚ) (eps sw sh dw dh cx cy : ℚ) :
    let b := fitF fl eps sw sh dw dh cx cy
    b.2.2.1 = sw ∨ b.2.2.2 = sh := by
  simp only [fitF]
  split_ifs <;> simp

/-- the ideal box is the computation of the code with nothing rounded -/
theorem fitQ_eq_fitF (eps sw sh dw dh cx cy : ℚ) : fitQ eps sw sh dw dh cx cy = fitF id eps sw sh dw dh cx cy := rfl

theorem fitQ_size (eps sw sh dw dh cx cy : ℚ) (hsw : 0 < sw) (hsh : 0 < sh) (hdw : 0 < dw) (hdh : 0 < dh) :
    let b := fitQ eps sw sh dw dh cx cy
    0 < b.2.2.1 ∧ b.2.2.1 ≤ sw ∧ 0 < b.2.2.2 ∧ b.2.2.2 ≤ sh := by
  have hrr : 0 < dw / dh := div_pos hdw hdh
  simp only [fitQ]
  split_ifs with h1 h2
  · exact ⟨hsw, le_rfl, hsh, le_rfl⟩
  · exact ⟨mul_pos hrr hsh, (le_div_iff₀ hsh).mp h2, hsh, le_rfl⟩
  · exact ⟨hsw, le_rfl, div_pos hsw hrr,
      (div_le_iff₀ hrr).mpr (by linarith [(div_lt_iff₀ hsh).mp (not_le.mp h2)])⟩

theorem fitQ_inside (eps sw sh dw dh cx cy : ℚ) (he : 0 ≤ eps) (hsw : 0 < sw) (hsh : 0 < sh) (hdw : 0 < dw) (hdh : 0 < dh) :
    let b := fitQ eps sw sh dw dh cx cy
    0 ≤ b.1 ∧ b.1 + b.2.2.1 ≤ sw ∧ 0 ≤ b.2.1 ∧ b.2.1 + b.2.2.2 ≤ sh ∧ 0 < b.2.2.1 ∧ 0 < b.2.2.2 := by
  intro b
  obtain ⟨hw0, hw, hh0, hh⟩ := fitQ_size eps sw sh dw dh cx cy hsw hsh hdw hdh
  -- the origin is the clamped centering times the margin left by the size (`fitQ_centering`)
  obtain ⟨l0, l1⟩ := margin_bounds (sw - b.2.2.1) cx (sub_nonneg.mpr hw)
  obtain ⟨t0, t1⟩ := margin_bounds (sh - b.2.2.2) cy (sub_nonneg.mpr hh)
  exact ⟨l0, le_sub_iff_add_le.mp l1, t0, le_sub_iff_add_le.mp t1, hw0, hh0⟩

theorem fitQ_aspect (eps sw sh dw dh cx cy : ℚ) (he : 0 ≤ eps) (hsw : 0 < sw) (hsh : 0 < sh) (hdw : 0 < dw) (hdh : 0 < dh) :
    let b := fitQ eps sw sh dw dh cx cy
    b.2.2.1 / b.2.2.2 = dw / dh ∨ (|sw / sh - dw / dh| < eps ∧ b.2.2.1 = sw ∧ b.2.2.2 = sh) := by
  simp only [fitQ]
  split_ifs with h1 h2
  · exact Or.inr ⟨h1, rfl, rfl⟩
  · exact Or.inl (mul_div_cancel_right₀ _ hsh.ne')
  · exact Or.inl (div_div_cancel₀ hsw.ne')

theorem fitQ_spans (eps sw sh dw dh cx cy : ℚ) (hsw : 0 < sw) (hsh : 0 < sh) (hdw : 0 < dw) (hdh : 0 < dh) :
    let b := fitQ eps sw sh dw dh cx cy
    b.2.2.1 = sw ∨ b.2.2.2 = sh :=
  fitQ_eq_fitF eps sw sh dw dh cx cy ▸ fitF_spans id eps sw sh dw dh cx cy

theorem fitQ_centering (eps sw sh dw dh cx cy : ℚ) :
    let b := fitQ eps sw sh dw dh cx cy
    b.1 = (sw - b.2.2.1) * max 0 (min cx 1) ∧ b.2.1 = (sh - b.2.2.2) * max 0 (min cy 1) := by
  intro b
  exact ⟨rfl, rfl⟩

end Fir.Proofs
