/-
  Fir.Proofs.SimdU8x1ALemmas - the AVX2 kernels for single-channel 8-bit images (src/convolution/u8x1/avx2.rs,
  `Fir.Model.SimdU8x1A`) equal the portable kernel: each half of a 16-step is the SSE4.1 8-step (`Lanes.Step.pair`), the eight
  lanes together gain the dot product of the coefficients consumed (`specA`), and the wrapped horizontal sum of wrapped lanes is
  the wrapped total.
-/
import Fir.Model.SimdU8x1A
import Fir.Proofs.SimdU8x1Lemmas

namespace Fir.Proofs.U8x1A
open Fir.SimdU8x1 Fir.SimdU8x1A Fir.Gen Fir.Proofs.Lanes Fir.Proofs.U8x1
open Fir.SimdU8x4 (wrap32 add32)

abbrev encA (t : Nat → Int) : St := (regs 32 4 fun c => t (2 * c), regs 32 4 fun c => t (2 * c + 1))

def specA (row : List Int) : Spec :=
  .sums (fun δ _ => δ 0 + δ 1 + δ 2 + δ 3 + δ 4 + δ 5 + δ 6 + δ 7) (fun _ => dot1 row)
    (fun _ _ => by funext _; simp only [Pi.add_apply]; ac_rfl) (fun _ _ => rfl) (fun _ _ _ _ => rfl)

theorem halves {row a b : List Int} {x : Nat} {δ ε : Nat → Int} (h1 : (spec row).ok a x δ) (h2 : (spec row).ok b (x + a.length) ε) :
    (specA row).ok (a ++ b) x (ilv δ ε) := by
  funext _
  simp only [ilv, lanes_proc, dot_append (d := dot1 row) (fun _ => rfl) (fun _ _ _ => rfl), ← congrFun h1 0, ← congrFun h2 0]
  ac_rfl

theorem step16 (row : List Int) (x : Nat) (k : List Int) (hk : k.length = 16) :
    Step encA (specA row) (fun s => acc16A s row x k) k x := by
  have h8 : (k.take 8).length = 8 := by rw [List.length_take, hk]; rfl
  have := Step.pair halves (step8 row x _ h8) (step8 row (x + (k.take 8).length) (k.drop 8) (by rw [List.length_drop, hk]))
  rwa [h8, List.take_append_drop] at this

theorem step8A (row : List Int) (x : Nat) (k : List Int) (hk : k.length = 8) : Step encA (specA row) (fun s => acc8A s row x k) k x := by
  have := Step.pair halves (step8 row x k hk)
    (Step.nop (g := fun s => add32 s [0, 0, 0, 0]) _ fun t => by simp only [lanes, lanes_proc, add32])
  rwa [List.append_nil] at this

theorem hsum_eq (t : Nat → Int) : hsum (encA t) = wrap32 (t 0 + t 1 + t 2 + t 3 + t 4 + t 5 + t 6 + t 7) := by
  simp only [lanes, lanes_proc, hsum, add32]
  ac_rfl

/-- the vector pieces `f` of the kernel run from `1 << (precision - 4)` in every lane, `hsum_i32x8_avx2`, the scalar remainder `b`
    and the clip -/
theorem finish {row : List Int} {f : St → St} {a : List Int} {x : Nat} (hf : Step encA (specA row) f a x) (b : List Int) (p : Nat)
    (hp4 : 4 ≤ p) :
    (clip8_table (clip16_index (scalar row b (x + a.length) (hsum (f (encA fun _ => 2 ^ (p - 4))))) p) : Int)
      = clip8 (2 ^ (p - 1) + dot1 row (a ++ b) x) p := by
  obtain ⟨δ, hδ, hf⟩ := hf
  have hδ : δ 0 + δ 1 + δ 2 + δ 3 + δ 4 + δ 5 + δ 6 + δ 7 = dot1 row a x := congrFun hδ 0
  refine scalar_clip ?_
  rw [hf, hsum_eq, ← hδ, show p - 1 = p - 4 + 3 by omega, pow_add]
  exact congrArg wrap32 (by simp only [Pi.add_apply]; ring)

/-- the AVX2 kernels for single-channel 8-bit images equal the portable kernel (one row and each of four rows), for every
    precision of at least 4 (eight lanes started at `1 << (precision - 4)`) -/
theorem pixelA_eq_portable (p : Nat) (hp4 : 4 ≤ p) (row : List Int) (start : Nat) (ks : List Int) :
    pixelA p row start ks = clip8 (2 ^ (p - 1) + dot1 row ks start) p := by
  obtain ⟨f, hf, hrun⟩ := chunk_loop (Step.pieces encA (specA row)) (n := 16) (loop := loopA row)
    (body := fun s x k => acc16A s row x k) (fin := (·, ·, ·)) (fun ks x s => by rw [loopA]; rfl)
    (fun ks x h => step16 row x _ (List.length_take_of_le h)) (ks.length / 16) ks start (by omega) (by omega)
  obtain ⟨m, hm⟩ : ∃ m, m = 16 * (ks.length / 16) := ⟨_, rfl⟩
  rw [← hm] at hf hrun
  obtain ⟨j, g, hj, hg, hopt⟩ := opt_step (Step.pieces encA (specA row)) (n := 8) (body := fun s x k => acc8A s row x k)
    (fun ks x h => step8A row x _ (List.length_take_of_le h)) (ks.drop m) (start + m)
  have hl := length_take_take start (by omega) hj
  have := finish (hf.comp_take (by omega) hg) ((ks.drop m).drop j) p hp4
  rw [hl, List.append_assoc, List.take_append_drop, List.take_append_drop] at this
  unfold pixelA
  simp only [hrun, hopt]
  exact this

end Fir.Proofs.U8x1A
