/-
  C12 - Resizing to the same size is an exact copy.

  About `Fir.resizeModel` (src/resizer.rs, resize_typed): the copy fast path precedes the algorithm
  dispatch, so whenever the crop box is integer-aligned and has the destination's size the result is
  the bit-exact copy of that region - for every algorithm, pixel type, alpha setting; nothing is
  computed from the values.  Float tests are opaque to the kernel: the theorems hold for every value
  they can take ("float-oblivious").
-/
import Fir.Proofs.StructLemmas

namespace Fir.C12

/-- `copy_image` succeeds exactly when all four crop fields are integers and the crop size is the
    destination size (as the u32 the code compares with) -/
theorem copyImage_some_iff (src prev : Img) (cl ct cw ch : Float) :
    (copyImage src cl ct cw ch prev).isSome = true ↔
      ((cl != cl.round || ct != ct.round || cw != cw.round || ch != ch.round) = false ∧
       (prev.w != cw.toUInt32.toNat || prev.h != ch.toUInt32.toNat) = false) :=
  Fir.Proofs.copyImage_some_iff src prev cl ct cw ch

/-- when it succeeds on a non-empty destination, the result is the region copied pixel by pixel -/
theorem copyImage_is_copy (src prev r : Img) (cl ct cw ch : Float) (h : copyImage src cl ct cw ch prev = some r)
    (hw : 0 < prev.w) (hh : 0 < prev.h) :
    r = copyPass src cl.toUInt32.toNat ct.toUInt32.toNat prev.w prev.h :=
  Fir.Proofs.copyImage_is_copy src prev r cl ct cw ch h hw hh

/-- every component of the copy is the corresponding source component, unchanged -/
theorem copyPass_get (src : Img) (l t w h x y c : Nat) (hx : x < w) (hy : y < h) (hc : c < src.n) :
    (copyPass src l t w h).get x y c = src.get (l + x) (t + y) c :=
  Fir.Proofs.copyPass_get src l t w h x y c hx hy hc

/-- same size => copy, for EVERY algorithm and alpha setting (explicit crop box) -/
theorem same_size_is_copy (p : PixT) (src prev r : Img) (alg : Alg) (useAlpha : Bool) (cl ct cw ch : Float)
    (hne : (cw == 0.0 || ch == 0.0 || prev.w == 0 || prev.h == 0) = false)
    (hcrop : cropCheck floatOps src.w src.h cl ct cw ch = 0)
    (hcopy : copyImage src cl ct cw ch prev = some r) :
    resizeModel p src prev ⟨alg, .box cl ct cw ch, useAlpha⟩ = (0, r) :=
  Fir.Proofs.same_size_is_copy p src prev r alg useAlpha cl ct cw ch hne hcrop hcopy

/-- ... and for the whole source (no cropping option) -/
theorem same_size_is_copy_nocrop (p : PixT) (src prev r : Img) (alg : Alg) (useAlpha : Bool)
    (hne : (Float.ofNat src.w == 0.0 || Float.ofNat src.h == 0.0 || prev.w == 0 || prev.h == 0) = false)
    (hcrop : cropCheck floatOps src.w src.h 0.0 0.0 (Float.ofNat src.w) (Float.ofNat src.h) = 0)
    (hcopy : copyImage src 0.0 0.0 (Float.ofNat src.w) (Float.ofNat src.h) prev = some r) :
    resizeModel p src prev ⟨alg, .none, useAlpha⟩ = (0, r) := by
  simp only [resizeModel, hne, hcrop, hcopy]
  simp

/-- only the width matches (and `left` is an integer): no horizontal coefficients are computed; the
    result is the vertical pass alone, and its column `x` reads source column `left + x` only -/
theorem one_dim_no_resample (p : PixT) (src prev : Img) (cl ct cw ch : Float) (f : FilterSpec) (adaptive : Bool)
    (hne : ¬ (prev.w = 0 ∨ prev.h = 0 ∨ cw ≤ 0.0 ∨ ch ≤ 0.0))
    (hH : (Float.ofNat prev.w != cw || cl != cl.round) = false)
    (hV : (Float.ofNat prev.h != ch || ct != ct.round) = true) :
    doConvolution p src cl ct cw ch prev f adaptive =
      vertPass p.kind src prev.w prev.h cl.toUInt32.toNat (precomputeCoefficients src.h ct (ct + ch) prev.h f adaptive) :=
  Fir.Proofs.one_dim_no_resample p src prev cl ct cw ch f adaptive hne hH hV

/-- a vertical pass never mixes columns: component (x, y, c) is a function of source column `offset + x` only -/
theorem vertPass_column_local (k : CKind) (src src' : Img) (dstW dstH offset : Nat) (c : Coeffs) (x y ch : Nat)
    (hx : x < dstW) (hy : y < dstH) (hch : ch < src.n) (hn : src'.n = src.n)
    (hcol : ∀ r, src'.get (offset + x) r ch = src.get (offset + x) r ch) :
    (vertPass k src' dstW dstH offset c).get x y ch = (vertPass k src dstW dstH offset c).get x y ch :=
  Fir.Proofs.vertPass_column_local k src src' dstW dstH offset c x y ch hx hy hch hn hcol

/-- a super-sampling intermediate that already has the destination size is copied, not convolved -/
theorem ss_internal_same_size (p : PixT) (src prev r : Img) (cl ct cw ch : Float) (f : FilterSpec) (m : Nat) (useAlpha : Bool)
    (hne : ¬ (prev.w = 0 ∨ prev.h = 0 ∨ cw ≤ 0.0 ∨ ch ≤ 0.0))
    (hfac : (ssFactor cw ch prev.w prev.h m > 1.2) = true)
    (hcopy : copyImage
        (nearestPass src cl ct cw ch (Img.fill (ssTmpDim cw (ssFactor cw ch prev.w prev.h m)) (ssTmpDim ch (ssFactor cw ch prev.w prev.h m)) src.n 0))
        0.0 0.0 (Float.ofNat (ssTmpDim cw (ssFactor cw ch prev.w prev.h m))) (Float.ofNat (ssTmpDim ch (ssFactor cw ch prev.w prev.h m)))
        prev = some r) :
    resampleSuperSampling p src cl ct cw ch prev f m useAlpha = r :=
  Fir.Proofs.ss_internal_same_size p src prev r cl ct cw ch f m useAlpha hne hfac hcopy

end Fir.C12
