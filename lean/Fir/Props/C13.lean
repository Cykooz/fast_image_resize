/-
  C13 - The result does not depend on the container or memory layout of the images.

  In the model an operation sees its images only through `extractImg` (reading through the row index
  lists of the view) and `injectImg` (writing through them).  Reading back what was written through a
  view returns the logical image, whatever the stride / offset / nesting, and the logical source seen
  through a view depends only on the buffer components at the view's indices - so two layouts of the
  same logical images give the same logical result.  The dynamic entry points dispatch on the
  pixel-type tag to the typed ones over the same bytes (translated dispatch lists, C06/C17/C16).
  Not proved: that SIMD loads past a row end never influence a result lane (poisoned parents in the
  correspondence check).
-/
import Fir.Proofs.LayoutLemmas

namespace Fir.C13

theorem extract_dims (v : View) (n : Nat) (buf : Array Int) :
    (extractImg v n buf).w = v.width ∧ (extractImg v n buf).h = v.height ∧ (extractImg v n buf).n = n :=
  Fir.Proofs.extract_dims v n buf

/-- reading through a view looks only at the components of the pixels the view exposes: two buffers
    that agree there give the same logical image, whatever else they contain (strides, margins, poison) -/
theorem extract_depends_on_view_only (v : View) (n : Nat) (buf buf' : Array Int)
    (h : ∀ q ∈ (v.rows 0).flatten, ∀ c, c < n → buf.getD (q * n + c) 0 = buf'.getD (q * n + c) 0) :
    extractImg v n buf = extractImg v n buf' :=
  Fir.Proofs.extract_depends_on_view_only v n buf buf' h

/-- write then read through the same (well-formed) view returns the logical image: the layout is invisible -/
theorem extract_inject (v : View) (hwf : v.wf = true) (n : Nat) (hn : 0 < n) (im : Img) (buf : Array Int)
    (hdim : im.data.size = ((v.rows 0).flatten).length * n)
    (hfit : ∀ q ∈ (v.rows 0).flatten, (q + 1) * n ≤ buf.size) :
    (extractImg v n (injectImg v n im buf)).data = im.data :=
  Fir.Proofs.extract_inject v hwf n hn im buf hdim hfit

/-- the whole operation of the model, through any two source layouts and any two destination layouts of
    the same logical images: the logical results are equal -/
theorem op_layout_independent (p : PixT) (o : ROpts) (sv sv' dv dv' : View) (n : Nat) (sbuf sbuf' dbuf dbuf' : Array Int)
    (hs : extractImg sv n sbuf = extractImg sv' n sbuf') (hd : extractImg dv n dbuf = extractImg dv' n dbuf') :
    resizeModel p (extractImg sv n sbuf) (extractImg dv n dbuf) o = resizeModel p (extractImg sv' n sbuf') (extractImg dv' n dbuf') o := by
  rw [hs, hd]

end Fir.C13
