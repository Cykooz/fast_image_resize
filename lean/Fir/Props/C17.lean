/-
  C17 - Depth conversion is monotone, keeps end points, saturates, and is lossless when widening.

  Integer pairs: theorems about `Fir.Gen.conv_*`, re-translated from src/pixels.rs on every run.
  Float pairs: theorems about the exact soft-float model `Fir.Soft` (round trip and monotonicity for
  every component depth, `Fir.Proofs.SoftRoundTrip`; u8 / u16 are instances) and, for arbitrary float
  inputs, about the shape clamp -> scale -> round -> saturating cast under any monotone rounding function.  `float_sources_as_modelled` pins the Rust
  source text of the float conversions to the text the model was written against.
-/
import Fir.Model.Convert
import Fir.Proofs.SoftRoundTrip
import Fir.Proofs.WrapLemmas

namespace Fir.C17
open Fir.Gen

theorem u8_u16_is_bit_replication (x : Nat) (hx : x < 256) : conv_u8_u16 x = 257 * x ∧ conv_u8_u16_ok x := by
  have h : ∀ x : Fin 256, conv_u8_u16 x.val = 257 * x.val ∧ conv_u8_u16_ok x.val := by decide +kernel
  exact h ⟨x, hx⟩

theorem u8_u16_monotone (x y : Nat) (hx : x < 256) (hy : y < 256) (h : x ≤ y) : conv_u8_u16 x ≤ conv_u8_u16 y := by
  rw [(u8_u16_is_bit_replication x hx).1, (u8_u16_is_bit_replication y hy).1]; omega

theorem u8_u16_endpoints : conv_u8_u16 0 = 0 ∧ conv_u8_u16 255 = 65535 := by decide

theorem u16_u8_monotone (x y : Nat) (_hx : x < 65536) (hy : y < 65536) (h : x ≤ y) : conv_u16_u8 x ≤ conv_u16_u8 y := by
  unfold conv_u16_u8; omega

theorem u16_u8_endpoints : conv_u16_u8 0 = 0 ∧ conv_u16_u8 65535 = 255 := by decide

theorem u8_u16_u8_roundtrip (x : Nat) (hx : x < 256) : conv_u16_u8 (conv_u8_u16 x) = x := by
  have h : ∀ x : Fin 256, conv_u16_u8 (conv_u8_u16 x.val) = x.val := by decide +kernel
  exact h ⟨x, hx⟩

theorem u8_i32_value (x : Nat) (hx : x < 256) : conv_u8_i32 x = (x : Int) * 8388608 := by
  unfold conv_u8_i32; exact Fir.Proofs.wrapInt32_id _ (by omega) (by omega)

theorem u16_i32_value (x : Nat) (hx : x < 65536) : conv_u16_i32 x = (x : Int) * 32768 := by
  unfold conv_u16_i32; exact Fir.Proofs.wrapInt32_id _ (by omega) (by omega)

theorem u8_i32_monotone (x y : Nat) (hx : x < 256) (hy : y < 256) (h : x ≤ y) : conv_u8_i32 x ≤ conv_u8_i32 y := by
  rw [u8_i32_value x hx, u8_i32_value y hy]; omega

theorem u16_i32_monotone (x y : Nat) (hx : x < 65536) (hy : y < 65536) (h : x ≤ y) : conv_u16_i32 x ≤ conv_u16_i32 y := by
  rw [u16_i32_value x hx, u16_i32_value y hy]; omega

theorem u8_i32_min : conv_u8_i32 0 = 0 := by decide
theorem u16_i32_min : conv_u16_i32 0 = 0 := by decide

/-- KNOWN FINDING F13a: the end-point clause is *false* for u8 -> i32: 255 does not reach i32::MAX -/
theorem u8_i32_max_not_reached : conv_u8_i32 255 = 2139095040 ∧ conv_u8_i32 255 ≠ 2147483647 := by decide

/-- KNOWN FINDING F13b: the end-point clause is *false* for u16 -> i32: 65535 does not reach i32::MAX -/
theorem u16_i32_max_not_reached : conv_u16_i32 65535 = 2147450880 ∧ conv_u16_i32 65535 ≠ 2147483647 := by decide

theorem i32_u8_monotone (x y : Int) (h : x ≤ y) : conv_i32_u8 x ≤ conv_i32_u8 y := by
  unfold conv_i32_u8; omega

theorem i32_u16_monotone (x y : Int) (h : x ≤ y) : conv_i32_u16 x ≤ conv_i32_u16 y := by
  unfold conv_i32_u16; omega

/-- every non-positive i32 (in particular i32::MIN) maps to 0 and i32::MAX maps to the maximum:
    out-of-range input saturates, the shift/add cannot wrap -/
theorem i32_u8_endpoints (x : Int) (hx : x ≤ 0) : conv_i32_u8 x = 0 ∧ conv_i32_u8 2147483647 = 255 := by
  unfold conv_i32_u8; omega

theorem i32_u16_endpoints (x : Int) (hx : x ≤ 0) : conv_i32_u16 x = 0 ∧ conv_i32_u16 2147483647 = 65535 := by
  unfold conv_i32_u16; omega

theorem u8_i32_u8_roundtrip (x : Nat) (hx : x < 256) : conv_i32_u8 (conv_u8_i32 x) = x := by
  rw [u8_i32_value x hx]; unfold conv_i32_u8; omega

theorem u16_i32_u16_roundtrip (x : Nat) (hx : x < 65536) : conv_i32_u16 (conv_u16_i32 x) = x := by
  rw [u16_i32_value x hx]; unfold conv_i32_u16; omega

/-! ### u8 / u16 <-> f32 on the exact soft-float model -/

open Fir.Soft

/-- u8 -> f32 -> u8 is the identity for all 256 values -/
theorem f32_roundtrip_u8 (x : Nat) (hx : x < 256) : f32ToUnsigned 255 (unsignedToF32 255 x) = x :=
  Fir.Proofs.f32_roundtrip 255 x (by omega) (by norm_num)

/-- u16 -> f32 -> u16 is the identity for all 65,536 values -/
theorem f32_roundtrip_u16 (x : Nat) (hx : x < 65536) : f32ToUnsigned 65535 (unsignedToF32 65535 x) = x :=
  Fir.Proofs.f32_roundtrip 65535 x (by omega) (by norm_num)

/-- value of a dyadic as a natural number scaled by 2^bias (order-preserving) -/
def dyVal (a : Nat × Nat) : Nat := a.1 * 2 ^ a.2

/-- uN -> f32 is monotone, as the correctly rounded quotient `x / max` -/
theorem unsigned_to_f32_monotone_dyVal (max x y : Nat) (h : x ≤ y) (hy : y < 2 ^ 64) (hm : max < 2 ^ 64) :
    dyVal (unsignedToF32 max x) ≤ dyVal (unsignedToF32 max y) :=
  (Fir.Proofs.valQ_le_iff _ _).mp (Fir.Proofs.rnd24_mono x y max h hy hm)

theorem u16_f32_monotone (x y : Nat) (hy : y ≤ 65535) (h : x ≤ y) :
    dyVal (unsignedToF32 65535 x) ≤ dyVal (unsignedToF32 65535 y) :=
  unsigned_to_f32_monotone_dyVal 65535 x y h (by omega) (by norm_num)

theorem u8_f32_monotone (x y : Nat) (hy : y ≤ 255) (h : x ≤ y) :
    dyVal (unsignedToF32 255 x) ≤ dyVal (unsignedToF32 255 y) :=
  unsigned_to_f32_monotone_dyVal 255 x y h (by omega) (by norm_num)

/-- end points: 0 -> +0.0, max -> 1.0 (IEEE bit patterns), and back -/
theorem unsigned_f32_endpoints :
    toBits (unsignedToF32 255 0) = 0 ∧ toBits (unsignedToF32 255 255) = 0x3f800000 ∧
    toBits (unsignedToF32 65535 0) = 0 ∧ toBits (unsignedToF32 65535 65535) = 0x3f800000 ∧
    f32ToUnsigned 255 (ofBits 0) = 0 ∧ f32ToUnsigned 255 (ofBits 0x3f800000) = 255 ∧
    f32ToUnsigned 65535 (ofBits 0) = 0 ∧ f32ToUnsigned 65535 (ofBits 0x3f800000) = 65535 := by
  decide +kernel

/-- out-of-range float input saturates: everything from 1.0 upwards (here: 2.0, f32::MAX, 2^100)
    maps to the maximum -/
theorem f32_unsigned_saturates :
    f32ToUnsigned 255 (ofBits 0x40000000) = 255 ∧ f32ToUnsigned 65535 (ofBits 0x7f7fffff) = 65535 ∧
    f32ToUnsigned 255 (ofBits 0x71800000) = 255 := by
  decide +kernel

/-! ### arbitrary float input: monotone for every monotone rounding function -/

section Abstract
variable (fl : ℚ → ℚ)

/-- `(x.clamp(lo, 1) * m).round() as T` with saturation bounds `[smin, smax]`; `fl` is the rounding of
    the one float multiplication; `round` is half away from zero -/
noncomputable def floatToInt (lo m : ℚ) (smin smax : ℤ) (x : ℚ) : ℤ :=
  let c := max lo (min x 1)
  let p := fl (c * m)
  let r : ℤ := if 0 ≤ p then ⌊p + 1 / 2⌋ else -⌊-p + 1 / 2⌋
  max smin (min r smax)

theorem roundHalfAway_mono : Monotone (fun p : ℚ => (if 0 ≤ p then ⌊p + 1 / 2⌋ else -⌊-p + 1 / 2⌋ : ℤ)) := by
  intro a b hab
  dsimp only
  -- each branch is monotone, and the negative one lies below 0, the other above
  split_ifs with ha hb hb
  · exact Int.floor_mono (add_le_add_left hab _)
  · exact absurd (ha.trans hab) hb
  · exact (neg_nonpos.mpr (Int.floor_nonneg.mpr (by linarith))).trans (Int.floor_nonneg.mpr (by linarith))
  · exact neg_le_neg (Int.floor_mono (add_le_add_left (neg_le_neg hab) _))

/-- f32 -> u8 / u16 / i32 is monotone non-decreasing for **all** inputs, whatever the (monotone)
    rounding of the multiplication does -/
theorem float_to_int_monotone (hfl : Monotone fl) (lo m : ℚ) (hm : 0 ≤ m) (smin smax : ℤ) : Monotone (floatToInt fl lo m smin smax) :=
  -- a composition of monotone maps: clamp, scale, `fl`, round, saturate
  fun _ _ hxy => max_le_max le_rfl (min_le_min (roundHalfAway_mono (hfl
    (mul_le_mul_of_nonneg_right (max_le_max le_rfl (min_le_min hxy le_rfl)) hm))) le_rfl)

/-- `i32 -> f32`: `fl (fl x / 2^31)` is monotone -/
theorem int_to_float_monotone (hfl : Monotone fl) : Monotone (fun x : ℚ => fl (fl x / 2147483648)) := by
  intro x y hxy
  exact hfl (div_le_div_of_nonneg_right (hfl hxy) (by norm_num))

end Abstract

/-- the Rust source text of the six float `into_component` bodies is exactly the text the model
    (`Fir.convComp`, `Fir.Soft`, `floatToInt`) was written against -/
theorem float_sources_as_modelled : floatConvSources = floatConvModelled := by rfl

/-- supported pairs: same component count; I32 only as a single-component type; everything else
    falls through to the rejecting default arm (checked by the translator) -/
theorem supported_pairs :
    convertPairs = [
      ("U8", ["U8", "U16", "I32", "F32"]), ("U8x2", ["U8x2", "U16x2", "F32x2"]), ("U8x3", ["U8x3", "U16x3", "F32x3"]),
      ("U8x4", ["U8x4", "U16x4", "F32x4"]), ("U16", ["U8", "U16", "I32", "F32"]), ("U16x2", ["U8x2", "U16x2", "F32x2"]),
      ("U16x3", ["U8x3", "U16x3", "F32x3"]), ("U16x4", ["U8x4", "U16x4", "F32x4"]), ("I32", ["U8", "U16", "I32", "F32"]),
      ("F32", ["U8", "U16", "I32", "F32"]), ("F32x2", ["U8x2", "U16x2", "F32x2"]), ("F32x3", ["U8x3", "U16x3", "F32x3"]),
      ("F32x4", ["U8x4", "U16x4", "F32x4"])] := by decide

/-! ### non-vacuity -/
example : conv_i32_u8 (conv_u8_i32 200) = 200 := by decide
example : conv_i32_u16 (-5) = 0 ∧ conv_i32_u16 2147483647 = 65535 := by decide
example : f32ToUnsigned 65535 (unsignedToF32 65535 12345) = 12345 := by decide +kernel

/-! ### the premises about rounding discharged for IEEE-754 round-to-nearest-even (`Fir.Ieee.flP`) -/

section IeeeInstances
open Fir.Ieee
/-- `float_to_int_monotone` for IEEE binary32 (the `f32 -> u8 / u16 / i32` conversions) -/
theorem float_to_int_monotone_ieee (lo m : ℚ) (hm : 0 ≤ m) (smin smax : ℤ) : Monotone (floatToInt (flP 24) lo m smin smax) :=
  float_to_int_monotone (flP 24) (flP_monotone 24 (by norm_num)) lo m hm smin smax
end IeeeInstances

section SoftIsIeee
open Fir.Ieee
/-! ### the soft-float model is IEEE round-to-nearest-even -/

/-- the executable binary32 rounding of the soft-float model equals the mathematical
    round-to-nearest-even to 24 bits, for all operands below 2^64 -/
theorem soft_rounding_is_ieee (n d : ℕ) (hn : 1 ≤ n) (hd : 1 ≤ d) (hn2 : n < 2 ^ 64) (hd2 : d < 2 ^ 64) :
    Fir.Proofs.valQ (rnd24 n d) = flP 24 ((n : ℚ) / d) :=
  Fir.Proofs.rnd24_eq_flP_small n d hn2 hd2

/-- `u8 / u16 -> f32` (`x as f32 / max as f32`) is the correctly rounded quotient `x / max`, for every
    component depth below 2^24 - in particular monotone, 0 -> 0 and max -> 1 -/
theorem unsigned_to_f32_correctly_rounded (max x : ℕ) (hx : 1 ≤ x) (hm : 1 ≤ max) (hx2 : x < 2 ^ 24) (hm2 : max < 2 ^ 24) :
    Fir.Proofs.valQ (unsignedToF32 max x) = flP 24 ((x : ℚ) / max) := by
  unfold unsignedToF32
  exact Fir.Proofs.rnd24_eq_flP_small x max (lt_trans hx2 (by norm_num)) (lt_trans hm2 (by norm_num))

/-- ... hence monotone in `x` for all depths -/
theorem unsigned_to_f32_monotone (max x y : ℕ) (hx : 1 ≤ x) (hxy : x ≤ y) (hm : 1 ≤ max) (hy2 : y < 2 ^ 24) (hm2 : max < 2 ^ 24) :
    Fir.Proofs.valQ (unsignedToF32 max x) ≤ Fir.Proofs.valQ (unsignedToF32 max y) :=
  Fir.Proofs.rnd24_mono x y max hxy (hy2.trans (by norm_num)) (hm2.trans (by norm_num))

end SoftIsIeee

end Fir.C17
