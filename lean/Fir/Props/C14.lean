/-
  C14 - Splitting a view yields an exact, ordered, non-overlapping tiling.

  Property theorems about `Fir.View.splitH` / `Fir.View.splitW` (Fir/Model/View.lean), the model of
  split_by_height / split_by_width and their mutable variants for every container kind (typed images
  split their slice, cropped views delegate to the wrapped view and re-wrap, to any nesting depth).
  No bound on sizes: everything is list induction / arithmetic.
-/
import Fir.Proofs.ViewLemmas

namespace Fir.C14
open Fir.View

/-- all buffer indices a view exposes, row by row -/
def idx (v : View) : List Nat := (v.rows 0).flatten

/-! ### sizes: `k` parts, `n / k` each, the first `n % k` one larger -/

theorem splitSizes_length (n k : Nat) : (splitSizes n k).length = k := by
  simp [splitSizes]

theorem splitSizes_sum (n k : Nat) (hk : 0 < k) : (splitSizes n k).sum = n :=
  Fir.Proofs.splitSizes_sum n k hk

theorem splitSizes_differ_by_at_most_one (n k : Nat) (a b : Nat) (ha : a ∈ splitSizes n k) (hb : b ∈ splitSizes n k) :
    a ≤ b + 1 := by
  obtain ⟨i, _, rfl⟩ := List.mem_map.mp ha
  obtain ⟨j, _, rfl⟩ := List.mem_map.mp hb
  split <;> split <;> omega

theorem splitSizes_pos (n k : Nat) (hk : 0 < k) (hkn : k ≤ n) (a : Nat) (ha : a ∈ splitSizes n k) : 0 < a := by
  obtain ⟨i, _, rfl⟩ := List.mem_map.mp ha
  exact Fir.Proofs.sz_pos n k i hk hkn

/-! ### `None` exactly for invalid requests -/

theorem splitH_none_iff (v : View) (hwf : v.wf = true) (s n k : Nat) :
    v.splitH s n k = none ↔ ¬ (1 ≤ k ∧ k ≤ n ∧ n ≤ v.height ∧ s + n ≤ v.height) :=
  Fir.Proofs.splitH_none_iff v hwf s n k

theorem splitW_none_iff (v : View) (hwf : v.wf = true) (s n k : Nat) :
    v.splitW s n k = none ↔ ¬ (1 ≤ k ∧ k ≤ n ∧ n ≤ v.width ∧ s + n ≤ v.width) :=
  Fir.Proofs.splitW_none_iff v hwf s n k

/-- split by height, every container kind, every nesting depth: `k` parts, heights as `splitSizes`,
    every part as wide as the view and itself a well-formed view, and the rows of the parts, glued
    in order, are exactly the rows `[s, s+n)` of the view -/
theorem splitH_tiles (v : View) (hwf : v.wf = true) (s n k : Nat) (ps : List View)
    (h : v.splitH s n k = some ps) :
    ps.length = k ∧ ps.map View.height = splitSizes n k ∧
    (∀ p ∈ ps, p.width = v.width ∧ p.wf = true) ∧
    (ps.map (fun p => p.rows 0)).flatten = (v.rows s).take n :=
  Fir.Proofs.splitH_tiles v hwf s n k ps h

/-- split by width: `k` parts, widths as `splitSizes`, every part as high as the view, and in every
    row the pixels of the parts, glued in order, are exactly the columns `[s, s+n)` of that row -/
theorem splitW_tiles (v : View) (hwf : v.wf = true) (hh : 0 < v.height) (s n k : Nat) (ps : List View)
    (h : v.splitW s n k = some ps) :
    ps.length = k ∧ ps.map View.width = splitSizes n k ∧
    (∀ p ∈ ps, p.height = v.height ∧ p.wf = true) ∧
    (∀ r, r < v.height →
      (ps.map (fun p => (p.rows 0).getD r [])).flatten = (((v.rows 0).getD r []).drop s).take n) :=
  Fir.Proofs.splitW_tiles v hwf hh s n k ps h

/-! ### parts never alias (so mutable parts may be written concurrently) -/

/-- a well-formed view exposes every buffer index at most once -/
theorem idx_nodup (v : View) (hwf : v.wf = true) : (idx v).Nodup :=
  Fir.Proofs.idx_nodup v hwf

theorem splitH_parts_disjoint (v : View) (hwf : v.wf = true) (s n k : Nat) (ps : List View)
    (h : v.splitH s n k = some ps) (i j : Nat) (hij : i < j) (hj : j < ps.length) (x : Nat)
    (hx : x ∈ idx (ps[i]'(by omega))) : x ∉ idx (ps[j]) :=
  Fir.Proofs.splitH_parts_disjoint v hwf s n k ps h i j hij hj x hx

theorem splitW_parts_disjoint (v : View) (hwf : v.wf = true) (hh : 0 < v.height) (s n k : Nat) (ps : List View)
    (h : v.splitW s n k = some ps) (i j : Nat) (hij : i < j) (hj : j < ps.length) (x : Nat)
    (hx : x ∈ idx (ps[i]'(by omega))) : x ∉ idx (ps[j]) :=
  Fir.Proofs.splitW_parts_disjoint v hwf hh s n k ps h i j hij hj x hx

/-- every index exposed by a part is exposed by the view it was split from (parts expose nothing
    outside the band) -/
theorem splitH_parts_subset (v : View) (hwf : v.wf = true) (s n k : Nat) (ps : List View)
    (h : v.splitH s n k = some ps) (p : View) (hp : p ∈ ps) (x : Nat) (hx : x ∈ idx p) :
    x ∈ ((v.rows s).take n).flatten :=
  Fir.Proofs.splitH_parts_subset v hwf s n k ps h p hp x hx

/-! ### split of a split: a part is again a well-formed view, so all of the above applies to it -/

theorem split_of_split (v : View) (hwf : v.wf = true) (s n k : Nat) (ps : List View)
    (h : v.splitH s n k = some ps) (p : View) (hp : p ∈ ps) (s2 n2 k2 : Nat) (qs : List View)
    (h2 : p.splitW s2 n2 k2 = some qs) (hph : 0 < p.height) :
    qs.length = k2 ∧ (∀ q ∈ qs, q.wf = true) ∧
    (∀ r, r < p.height →
      (qs.map (fun q => (q.rows 0).getD r [])).flatten = (((p.rows 0).getD r []).drop s2).take n2) := by
  have hpwf := ((splitH_tiles v hwf s n k ps h).2.2.1 p hp).2
  have t := splitW_tiles p hpwf hph s2 n2 k2 qs h2
  exact ⟨t.1, fun q hq => (t.2.2.1 q hq).2, t.2.2.2⟩

/-! ### non-vacuity -/
example : (View.crop (View.typed 0 5 4 20) 1 1 3 2).wf = true := by decide
example : ((View.crop (View.typed 0 5 4 20) 1 1 3 2).splitW 1 2 2).isSome = true := by decide
example : ((View.typed 0 3 7 21).splitH 1 5 3).map (·.map View.height) = some [2, 2, 1] := by decide

end Fir.C14
