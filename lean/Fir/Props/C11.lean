/-
  C11 - Nearest-neighbour resizing picks the source pixel under each destination centre.

  About `Fir.nearestPass` (resample_nearest in src/resizer.rs): every destination component is a
  bit-exact copy of a source component - no arithmetic on the values, no alpha processing (the
  dispatch precedes any alpha code) - taken from column `nearestCol x`, row `nearestRow y`, which are
  always inside the source.  That these indices equal ⌊left + (x+½)·cw/dw⌋ is the float-noise clause:
  the correspondence check compares them with the exact rational coordinate on every generated case.
-/
import Fir.Proofs.StructLemmas
import Fir.Proofs.NearestLemmas
import Fir.Proofs.IeeeLemmas

namespace Fir.C11

/-- the selected source column / row always exist (clamped to the last column / row) -/
theorem nearest_in_bounds (srcW srcH : Nat) (hw : 0 < srcW) (hh : 0 < srcH) (xs xsc ys ysc : Float) (x y : Nat) :
    nearestCol srcW xs xsc x < srcW ∧ nearestRow srcH ys ysc y < srcH :=
  Fir.Proofs.nearest_in_bounds srcW srcH hw hh xs xsc ys ysc x y

/-- destination pixel (x, y) is a bit-exact copy of source pixel (nearestCol x, nearestRow y) -/
theorem nearest_copy (src prev : Img) (cl ct cw ch : Float) (x y c : Nat)
    (hne : ¬ (prev.w = 0 ∨ prev.h = 0 ∨ cw ≤ 0.0 ∨ ch ≤ 0.0 ∨ src.h = 0))
    (hx : x < prev.w) (hy : y < prev.h) (hc : c < src.n) :
    (nearestPass src cl ct cw ch prev).get x y c =
      src.get (nearestCol src.w (cl + cw / Float.ofNat prev.w * 0.5) (cw / Float.ofNat prev.w) x)
              (nearestRow src.h (ct + ch / Float.ofNat prev.h * 0.5) (ch / Float.ofNat prev.h) y) c :=
  Fir.Proofs.nearest_copy src prev cl ct cw ch x y c hne hx hy hc

theorem nearest_dims (src prev : Img) (cl ct cw ch : Float) :
    (nearestPass src cl ct cw ch prev).w = prev.w ∧ (nearestPass src cl ct cw ch prev).h = prev.h :=
  Fir.Proofs.nearest_dims src prev cl ct cw ch

/-- Nearest never takes the alpha path: the result does not depend on the alpha setting or pixel type -/
theorem nearest_no_alpha (p p' : PixT) (src prev : Img) (crop : Cropping) (a a' : Bool) :
    resizeModel p src prev ⟨.nearest, crop, a⟩ = resizeModel p' src prev ⟨.nearest, crop, a'⟩ :=
  Fir.Proofs.nearest_no_alpha p p' src prev crop a a'

/-! ### the row loop of `resample_nearest` (forward-only iterator + cached row) against direct indexing -/

open Fir.RowCursor in
/-- the stateful loop (`src_rows.nth(req - next_row_y)`, cached `cur_row`, `next_row_y = req + 1`) hands
    the destination rows exactly the requested source rows, in order, without ever hitting `break`, for
    every non-decreasing sequence of requested rows inside the source - so `Fir.nearestPass`, which
    indexes row `nearestRow y` directly, describes it -/
theorem row_cursor_eq_direct (H : Nat) (reqs : List Nat) (hlt : ∀ r ∈ reqs, r < H) (hsorted : reqs.Pairwise (· ≤ ·)) :
    run H (init (reqs.headD 0)) reqs = reqs :=
  Fir.Proofs.row_cursor_eq_direct H reqs hlt hsorted

/-- the requested rows `min(⌊y⌋, H-1)` are non-decreasing: `y += y_scale` with `y_scale ≥ 0` never
    decreases under any monotone rounding that keeps representable values fixed -/
theorem requested_rows_sorted (fl : ℚ → ℚ) (hfl : Monotone fl) (y : ℕ → ℚ) (step : ℚ) (hs : 0 ≤ step)
    (hy : ∀ k, y (k + 1) = fl (y k + step)) (hfix : ∀ k, fl (y k) = y k) (maxY : ℕ) (k : ℕ) :
    min ⌊y k⌋.toNat maxY ≤ min ⌊y (k + 1)⌋.toNat maxY := by
  have h : y k ≤ y (k + 1) := hy k ▸ Fir.Flt.le_fl hfl (hfix k) (by linarith)
  exact min_le_min (Int.toNat_le_toNat (Int.floor_mono h)) (le_refl _)

example : Fir.RowCursor.run 5 (Fir.RowCursor.init 1) [1, 1, 2, 4, 4] = [1, 1, 2, 4, 4] := by decide

/-! ### the ideal coordinate (exact rationals) - what the float-noise clause is measured against.
    `Fir.Proofs.nearestIdeal l cw dw x = ⌊l + (x+½)·cw/dw⌋` is the coordinate the correspondence oracle
    (`checkNearest`) evaluates for every generated case. -/

/-- the selected source pixel is the one whose extent [i, i+1) contains the destination centre -/
theorem ideal_pixel_under_centre (l cw : ℚ) (dw x : Nat) :
    (Fir.Proofs.nearestIdeal l cw dw x : ℚ) ≤ l + ((x : ℚ) + 1 / 2) * cw / dw ∧
    l + ((x : ℚ) + 1 / 2) * cw / dw < Fir.Proofs.nearestIdeal l cw dw x + 1 := by
  unfold Fir.Proofs.nearestIdeal
  exact ⟨Int.floor_le _, Int.lt_floor_add_one _⟩

/-- for every crop box inside the source the ideal coordinate is a valid source index: no clamping is
    needed in exact arithmetic (the clamp of the code only absorbs float noise) -/
theorem ideal_in_bounds (l cw : ℚ) (sw dw x : Nat) (hl : 0 ≤ l) (hcw : 0 < cw) (hfit : l + cw ≤ sw)
    (hd : 0 < dw) (hx : x < dw) :
    0 ≤ Fir.Proofs.nearestIdeal l cw dw x ∧ Fir.Proofs.nearestIdeal l cw dw x < sw := by
  unfold Fir.Proofs.nearestIdeal
  have hdq : (0 : ℚ) < (dw : ℚ) := by exact_mod_cast hd
  have hxq : (x : ℚ) + 1 ≤ (dw : ℚ) := by exact_mod_cast hx
  have h1 : ((x : ℚ) + 1 / 2) * cw / dw < cw := by
    rw [div_lt_iff₀ hdq, mul_comm]
    exact mul_lt_mul_of_pos_left (by linarith) hcw
  exact ⟨Int.floor_nonneg.mpr (by positivity), Int.floor_lt.mpr (by rw [Int.cast_natCast]; linarith)⟩

theorem ideal_mono (l cw : ℚ) (dw x x' : Nat) (hcw : 0 ≤ cw) (h : x ≤ x') :
    Fir.Proofs.nearestIdeal l cw dw x ≤ Fir.Proofs.nearestIdeal l cw dw x' := by
  unfold Fir.Proofs.nearestIdeal
  gcongr

/-- integer up-scaling repeats every source pixel exactly `k` times -/
theorem ideal_integer_upscale (sw k x : Nat) (hk : 0 < k) (hs : 0 < sw) (hx : x < sw * k) :
    Fir.Proofs.nearestIdeal 0 sw (sw * k) x = (x / k : Nat) :=
  Fir.Proofs.nearestIdeal_integer_upscale sw k x hs

/-- odd integer down-scaling picks the middle pixel of every block -/
theorem ideal_odd_downscale (dw j x : Nat) (hd : 0 < dw) (hx : x < dw) :
    Fir.Proofs.nearestIdeal 0 ((dw * (2 * j + 1) : Nat) : ℚ) dw x = (x * (2 * j + 1) + j : Nat) :=
  Fir.Proofs.nearestIdeal_odd_downscale dw j x hd

example : Fir.Proofs.nearestIdeal 0 4 8 5 = 2 := by decide +kernel

/-! ### the premises about rounding discharged for IEEE-754 round-to-nearest-even (`Fir.Ieee.flP`) -/

section IeeeInstances
open Fir.Ieee
/-- the requested rows are non-decreasing for IEEE binary64 (`y += y_scale`, `y_scale ≥ 0`, start representable) -/
theorem requested_rows_sorted_ieee (y : ℕ → ℚ) (step : ℚ) (hs : 0 ≤ step)
    (hy : ∀ k, y (k + 1) = flP 53 (y k + step)) (h0 : flP 53 (y 0) = y 0) (maxY : ℕ) (k : ℕ) :
    min ⌊y k⌋.toNat maxY ≤ min ⌊y (k + 1)⌋.toNat maxY := by
  apply requested_rows_sorted (flP 53) (flP_monotone 53 (by norm_num)) y step hs hy _ maxY k
  intro j
  cases j with
  | zero => exact h0
  | succ j => rw [hy j]; exact flP_idem 53 (by norm_num) _
end IeeeInstances

end Fir.C11
