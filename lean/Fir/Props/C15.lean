/-
  C15 - Fit-into-destination crop is in bounds, keeps aspect, honours centering.

  Proved for the ideal rational crop box `Fir.Spec.fitQ` - all positive sizes (no bound), all
  centerings.  The f64 evaluation (`Fir.fitCrop`, a bit-exact mirror of the Rust code, its source text
  pinned below) is tied to the ideal numerically by the correspondence check; the last-ulp in-bounds
  clause for f64 is established by enumeration, not by theorem (DESIGN, C15).
-/
import Fir.Model.FitCrop
import Fir.Proofs.FitCropLemmas
import Fir.Proofs.IeeeLemmas

namespace Fir.C15
open Fir.Spec

/-- the crop box lies inside the source: 0 ≤ left, left + width ≤ source width (same vertically) -/
theorem fitQ_inside (eps sw sh dw dh cx cy : ℚ) (he : 0 ≤ eps) (hsw : 0 < sw) (hsh : 0 < sh) (hdw : 0 < dw) (hdh : 0 < dh) :
    let b := fitQ eps sw sh dw dh cx cy
    0 ≤ b.1 ∧ b.1 + b.2.2.1 ≤ sw ∧ 0 ≤ b.2.1 ∧ b.2.1 + b.2.2.2 ≤ sh ∧ 0 < b.2.2.1 ∧ 0 < b.2.2.2 :=
  Fir.Proofs.fitQ_inside eps sw sh dw dh cx cy he hsw hsh hdw hdh

/-- the crop box has the destination's aspect ratio - exactly, unless the source ratio is already
    within `eps` of it (then the whole source is taken) -/
theorem fitQ_aspect (eps sw sh dw dh cx cy : ℚ) (he : 0 ≤ eps) (hsw : 0 < sw) (hsh : 0 < sh) (hdw : 0 < dw) (hdh : 0 < dh) :
    let b := fitQ eps sw sh dw dh cx cy
    b.2.2.1 / b.2.2.2 = dw / dh ∨ (|sw / sh - dw / dh| < eps ∧ b.2.2.1 = sw ∧ b.2.2.2 = sh) :=
  Fir.Proofs.fitQ_aspect eps sw sh dw dh cx cy he hsw hsh hdw hdh

/-- the crop box spans the full source in at least one dimension -/
theorem fitQ_spans (eps sw sh dw dh cx cy : ℚ) (hsw : 0 < sw) (hsh : 0 < sh) (hdw : 0 < dw) (hdh : 0 < dh) :
    let b := fitQ eps sw sh dw dh cx cy
    b.2.2.1 = sw ∨ b.2.2.2 = sh :=
  Fir.Proofs.fitQ_spans eps sw sh dw dh cx cy hsw hsh hdw hdh

/-- the fraction of the removed margin on the left / top equals the centering clamped to [0, 1] -/
theorem fitQ_centering (eps sw sh dw dh cx cy : ℚ) :
    let b := fitQ eps sw sh dw dh cx cy
    b.1 = (sw - b.2.2.1) * max 0 (min cx 1) ∧ b.2.1 = (sh - b.2.2.2) * max 0 (min cy 1) :=
  Fir.Proofs.fitQ_centering eps sw sh dw dh cx cy

/-- with eps = 0 (pure mathematics) the aspect ratio is exact -/
theorem fitQ_aspect_exact (sw sh dw dh cx cy : ℚ) (hsw : 0 < sw) (hsh : 0 < sh) (hdw : 0 < dw) (hdh : 0 < dh) :
    let b := fitQ 0 sw sh dw dh cx cy
    b.2.2.1 / b.2.2.2 = dw / dh := by
  intro b
  rcases fitQ_aspect 0 sw sh dw dh cx cy (le_refl 0) hsw hsh hdw hdh with h | ⟨h, _, _⟩
  · exact h
  · exact absurd h (not_lt.mpr (abs_nonneg _))

/-! ### the rounded computation (`fitF`: the code's operation order, every operation rounded by an
    arbitrary monotone `fl`) - clauses that hold for the f64 code whatever the rounding does -/

/-- spans the full source in at least one dimension: exact for the floating-point code too (the branch
    that crops one side returns the other side untouched) -/
theorem fitF_spans (fl : ℚ → ℚ) (eps sw sh dw dh cx cy : ℚ) :
    let b := fitF fl eps sw sh dw dh cx cy
    b.2.2.1 = sw ∨ b.2.2.2 = sh :=
  Fir.Proofs.fitF_spans fl eps sw sh dw dh cx cy

/-- the origin is never negative and never exceeds the (rounded) removed margin, for every centering
    (incl. values far outside [0, 1], which are clamped), provided the crop size does not exceed the source
    size - the one clause that needs IEEE's last-ulp behaviour and is established by enumeration -/
theorem fitF_origin (fl : ℚ → ℚ) (hfl : Monotone fl) (h0 : fl 0 = 0) (hid : ∀ x, fl (fl x) = fl x)
    (eps sw sh dw dh cx cy : ℚ) :
    let b := fitF fl eps sw sh dw dh cx cy
    (b.2.2.1 ≤ sw → 0 ≤ b.1 ∧ b.1 ≤ fl (sw - b.2.2.1)) ∧ (b.2.2.2 ≤ sh → 0 ≤ b.2.1 ∧ b.2.1 ≤ fl (sh - b.2.2.2)) := by
  simp only [fitF]
  exact ⟨fun h => Fir.Proofs.margin_bounds_fl fl hfl h0 hid _ _ (sub_nonneg.mpr h),
    fun h => Fir.Proofs.margin_bounds_fl fl hfl h0 hid _ _ (sub_nonneg.mpr h)⟩

/-- centering 0 puts the box at the origin, exactly -/
theorem fitF_centering_zero (fl : ℚ → ℚ) (h0 : fl 0 = 0) (eps sw sh dw dh : ℚ) :
    (fitF fl eps sw sh dw dh 0 0).1 = 0 ∧ (fitF fl eps sw sh dw dh 0 0).2.1 = 0 := by
  simp [fitF, h0]

/-- the source text of CropBox::fit_src_into_dst_size is exactly what `Fir.fitCrop` mirrors -/
theorem fit_source_as_modelled : Fir.Gen.fitCropSource = Fir.fitCropSourceModelled := by rfl

/-! ### non-vacuity -/
example : (0 : ℚ) ≤ 1 / 2 ∧ (0 : ℚ) < 100 := by norm_num

/-! ### the premises about rounding discharged for IEEE-754 round-to-nearest-even (`Fir.Ieee.flP`) -/

section IeeeInstances
open Fir.Ieee
theorem fitF_origin_ieee (eps sw sh dw dh cx cy : ℚ) :
    let b := Fir.Spec.fitF (flP 53) eps sw sh dw dh cx cy
    (b.2.2.1 ≤ sw → 0 ≤ b.1 ∧ b.1 ≤ flP 53 (sw - b.2.2.1)) ∧ (b.2.2.2 ≤ sh → 0 ≤ b.2.1 ∧ b.2.1 ≤ flP 53 (sh - b.2.2.2)) :=
  fitF_origin (flP 53) (flP_monotone 53 (by norm_num)) (flP_zero 53) (flP_idem 53 (by norm_num)) eps sw sh dw dh cx cy
end IeeeInstances

end Fir.C15
