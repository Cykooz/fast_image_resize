/-
  C06 - Alpha multiply is exactly rounded and alpha divide is faithful and saturating.

  All statements are about `Fir.Gen.*`, the definitions re-translated
  from src/alpha/common.rs on every run, and about `Fir.mulPixels`/`Fir.divPixels`, the per-image
  model that the correspondence check compares with the real kernels.
-/
import Fir.Generated.Lists
import Fir.Proofs.DivG
import Fir.Proofs.AlphaLemmas

namespace Fir.C06
open Fir.Gen Fir.Spec Fir.Proofs

/-- ∀ 8-bit colour, alpha: `mul_div_255` is round-half-up of `c·a/255` and no intermediate overflows. -/
theorem mul_div_255_exact (c a : Nat) (hc : c < 256) (ha : a < 256) :
    mul_div_255 c a = mulExact 255 c a ∧ mul_div_255_ok c a := by
  have h : c * a ≤ 255 * 255 := Nat.mul_le_mul (by omega) (by omega)
  unfold mul_div_255 mul_div_255_ok mulExact
  -- whichever order the source multiplies in: one name for the product, then pure linear arithmetic
  have ecomm : a * c = c * a := Nat.mul_comm a c
  try simp only [ecomm]
  generalize c * a = t at *
  try simp (disch := omega) only [Nat.mod_eq_of_lt]
  constructor <;> omega

/-- ∀ 16-bit colour, alpha: `mul_div_65535` is round-half-up of `c·a/65535` and no intermediate overflows. -/
theorem mul_div_65535_exact (c a : Nat) (hc : c < 65536) (ha : a < 65536) :
    mul_div_65535 c a = mulExact 65535 c a ∧ mul_div_65535_ok c a := by
  have h : c * a ≤ 65535 * 65535 := Nat.mul_le_mul (by omega) (by omega)
  unfold mul_div_65535 mul_div_65535_ok mulExact
  -- whichever order the source multiplies in: one name for the product, then pure linear arithmetic
  have ecomm : a * c = c * a := Nat.mul_comm a c
  try simp only [ecomm]
  generalize c * a = t at *
  try simp (disch := omega) only [Nat.mod_eq_of_lt]
  constructor <;> omega

/-- every entry of RECIP_ALPHA is `round(255·2^8 / a)`, entry 0 is 0 -/
theorem recip_alpha_is_round (a : Nat) (ha : a < 256) :
    recip_alpha_ok a ∧ recip_alpha a = if a = 0 then 0 else (2 * (255 * 256) + a) / (2 * a) := by
  rcases Nat.eq_zero_or_pos a with rfl | hpos
  · decide
  have hle : 130560 / a ≤ 130560 := Nat.div_le_self _ _
  unfold recip_alpha_ok recip_alpha
  rw [if_pos ⟨hpos, ha⟩, if_neg hpos.ne', ← half_up_div _ hpos]
  -- wherever the source wraps: nothing does, and what is left is linear in `130560 / a`
  simp (disch := omega) only [Nat.mod_eq_of_lt, Nat.reduceMul, and_true]
  omega

/-- every entry of RECIP_ALPHA16 is `round(65535·2^33 / a)`, entry 0 is 0 -/
theorem recip_alpha16_is_round (a : Nat) (ha : a < 65536) :
    recip_alpha16_ok a ∧ recip_alpha16 a = if a = 0 then 0 else (2 * (65535 * 2 ^ 33) + a) / (2 * a) := by
  rcases Nat.eq_zero_or_pos a with rfl | hpos
  · decide
  have hle : 1125882726973440 / a ≤ 1125882726973440 := Nat.div_le_self _ _
  unfold recip_alpha16_ok recip_alpha16
  rw [if_pos ⟨hpos, ha⟩, if_neg hpos.ne', ← half_up_div _ hpos]
  simp (disch := omega) only [Nat.mod_eq_of_lt, Nat.reduceMul, Nat.reducePow, and_true]
  omega

/-- ∀ 65,536 (colour, alpha) pairs: the 8-bit divide returns `⌊255c/a⌋` or `⌈255c/a⌉` capped at 255,
    0 for alpha 0, and its arithmetic does not overflow -/
theorem div8_faithful (c a : Nat) (hc : c < 256) (ha : a < 256) :
    div_and_clip_ok c (recip_alpha a) ∧ divFaithful 255 c a (div_and_clip c (recip_alpha a)) := by
  rcases Nat.eq_zero_or_pos a with rfl | hpos
  · simp [recip_alpha, div_and_clip, div_and_clip_ok, divFaithful]
  have hle : 2 * (255 * 256) / a ≤ 2 * (255 * 256) := Nat.div_le_self _ _
  have hR := (recip_alpha_is_round a ha).2
  rw [if_neg hpos.ne', ← half_up_div _ hpos] at hR
  have hb : c * 255 / a ≤ (c * recip_alpha a + 128) / 256 ∧
      (c * recip_alpha a + 128) / 256 ≤ (c * 255 + a - 1) / a := by
    rw [hR]; exact divG_between 255 c a 256 128 hpos rfl (by norm_num) hc
  -- `c · R ≤ 255 · 65280 < 2^32`: nothing wraps
  have hcR : c * recip_alpha a ≤ 255 * 65280 := Nat.mul_le_mul (by omega) (by omega)
  unfold div_and_clip_ok div_and_clip
  rw [Nat.mod_eq_of_lt (by omega), Nat.mod_eq_of_lt (by omega), Nat.mod_eq_of_lt (by omega)]
  exact ⟨by omega, divFaithful_of_between hpos hb⟩

/-- saturation of the 64-bit intermediate never changes the clipped result -/
theorem sat_transparent (t : Nat) :
    min ((min 18446744073709551615 ((min 18446744073709551615 t) + 4294967296)) / 8589934592) 65535
      = min ((t + 4294967296) / 8589934592) 65535 := by
  omega

/-- ∀ 2^32 (colour, alpha) pairs: the 16-bit divide returns `⌊65535c/a⌋` or `⌈65535c/a⌉` capped at
    65535, and 0 for alpha 0 -/
theorem div16_faithful (c a : Nat) (hc : c < 65536) (ha : a < 65536) :
    divFaithful 65535 c a (div_and_clip16 c (recip_alpha16 a)) := by
  rcases Nat.eq_zero_or_pos a with rfl | hpos
  · simp [divFaithful, recip_alpha16, div_and_clip16]
  have hR := (recip_alpha16_is_round a ha).2
  rw [if_neg hpos.ne', ← half_up_div _ hpos] at hR
  have hb : c * 65535 / a ≤ (c * recip_alpha16 a + 4294967296) / 8589934592 ∧
      (c * recip_alpha16 a + 4294967296) / 8589934592 ≤ (c * 65535 + a - 1) / a := by
    rw [hR]; exact divG_between 65535 c a 8589934592 4294967296 hpos rfl (by norm_num) (by omega)
  unfold div_and_clip16
  rw [sat_transparent, Nat.mod_eq_of_lt (by omega)]
  exact divFaithful_of_between hpos hb

/-- the 16-bit divide never overflows, divides by zero or over-shifts (false before the repair of
    `div_and_clip16`: `c·RECIP_ALPHA16[1]` needs 65 bits for `c ≥ 32769`) -/
theorem div16_no_overflow (c a : Nat) (_hc : c < 65536) (ha : a < 65536) :
    div_and_clip16_ok c (recip_alpha16 a) ∧ recip_alpha16_ok a := by
  refine ⟨by unfold div_and_clip16_ok; omega, (recip_alpha16_is_round a ha).1⟩

/-- exactly the six alpha pixel types are dispatched to an implementation by each of the four entry
    points; every other type has the rejecting default `AlphaMulDiv` impl -/
theorem unsupported_rejected :
    alphaSupported = ["U8x2", "U8x4", "U16x2", "U16x4", "F32x2", "F32x4"] ∧
    dispatch_multiply_alpha = alphaSupported ∧ dispatch_multiply_alpha_inplace = alphaSupported ∧
    dispatch_divide_alpha = alphaSupported ∧ dispatch_divide_alpha_inplace = alphaSupported ∧
    alphaRejecting = ["U8", "U8x3", "U16", "U16x3", "I32", "F32", "F32x3"] := by
  decide

/-! ### image level (the model the correspondence check runs against the real kernels) -/

/-- every alpha operation of the model leaves the alpha component of every pixel unchanged -/
theorem alpha_unchanged (n : Nat) (f : Int → Int → Int) (px : Array Int) (i : Nat) (hi : i < px.size)
    (hlast : i % n = n - 1) :
    (mapAlphaPixels n f px)[i]'(by simp [mapAlphaPixels, hi]) = px[i] :=
  (mapAlphaPixels_getElem n f px i hi).trans (if_pos hlast)

/-- model multiply on 8-bit images is the exactly rounded product, component by component -/
theorem mulPixels_u8_exact (n : Nat) (px : Array Int) (i : Nat) (hi : i < px.size) (hcol : i % n ≠ n - 1)
    (hc : 0 ≤ px[i] ∧ px[i] < 256)
    (ha : 0 ≤ px[i - i % n + (n - 1)]! ∧ px[i - i % n + (n - 1)]! < 256) :
    (mulPixels ⟨.u8, n⟩ px)[i]'(by simp [mulPixels, mapAlphaPixels, hi])
      = (mulExact 255 px[i].toNat (px[i - i % n + (n - 1)]!).toNat : Int) :=
  ((mapAlphaPixels_getElem n _ px i hi).trans (if_neg hcol)).trans
    (congrArg Nat.cast (mul_div_255_exact _ _ (by omega) (by omega)).1)

/-- model divide on 16-bit images is faithful, component by component -/
theorem divPixels_u16_faithful (n : Nat) (px : Array Int) (i : Nat) (hi : i < px.size) (hcol : i % n ≠ n - 1)
    (hc : 0 ≤ px[i] ∧ px[i] < 65536)
    (ha : 0 ≤ px[i - i % n + (n - 1)]! ∧ px[i - i % n + (n - 1)]! < 65536) :
    ∃ r : Nat, (divPixels ⟨.u16, n⟩ px)[i]'(by simp [divPixels, mapAlphaPixels, hi]) = (r : Int) ∧
      divFaithful 65535 px[i].toNat (px[i - i % n + (n - 1)]!).toNat r :=
  ⟨_, (mapAlphaPixels_getElem n _ px i hi).trans (if_neg hcol), div16_faithful _ _ (by omega) (by omega)⟩

/-! ### non-vacuity: the hypotheses are met by concrete, non-trivial inputs -/

example : mul_div_255 200 128 = 100 ∧ mulExact 255 200 128 = 100 := by decide
example : div_and_clip16 300 (recip_alpha16 200) = 65535 := by decide
example : div_and_clip16 40000 (recip_alpha16 1) = 65535 := by decide
example : divFaithful 65535 1234 4321 (div_and_clip16 1234 (recip_alpha16 4321)) := by decide

end Fir.C06
