/-
  C03 - No input reachable through the safe API causes UB, a crash or a panic.

  The index arithmetic that decides memory safety, proved for *all* inputs and float-obliviously
  (whatever values floating point, libm or a custom kernel produce):
    * every coefficient window lies inside the source row / column and the bound subtraction cannot
      underflow (`window_in_source`);
    * the temporary image of a two-pass resize contains every shifted window (`temp_image_fits`);
    * the lookup-table index of the 8-bit clip is always inside the 1280-entry table and computed
      without overflow, for every accumulator value and precision (`clip_index_in_table`, translated);
    * every precision the normaliser can choose has a dispatch arm in `constify_imm8!` as soon as the
      largest weight is below 2^14 (`precision_in_arms`, translated arm list);
    * validation, band-count, alpha and conversion arithmetic never overflow (C04, C06, C08, C17),
      nearest indices are in bounds (C11), scratch slices are large enough (C09).
  Not proved: SIMD load footprints other than those of the RGB8 / RGB16 SSE4.1 kernels (`*_loads_in_row` below;
  the rest by guard pages in the correspondence), the allocator, rayon internals.
-/
import Fir.Props.C04
import Fir.Props.C08
import Fir.Props.C09
import Fir.Props.C11
import Fir.Proofs.IdealFilterLemmas
import Fir.Proofs.GeomLemmas
import Fir.Proofs.ReadsLemmas
import Fir.Proofs.SimdU8x3Lemmas
import Fir.Proofs.SimdU16x3Lemmas

namespace Fir.C03
open Fir.Bounds Fir.Gen

/-- for every zero-test (so for every kernel, incl. NaN weights) and every clamped window
    `xMin ≤ xMax ≤ inSize`: start ≤ start + size ≤ xMax ≤ inSize, size ≤ pushed, pushed = xMax - start -/
theorem window_in_source (isZero : Nat → Bool) (xMin xMax inSize : Nat) (h1 : xMin ≤ xMax) (h2 : xMax ≤ inSize) :
    let w := Bounds.window isZero xMin xMax
    xMin ≤ w.1 ∧ w.1 + w.2.1 ≤ xMax ∧ w.1 + w.2.1 ≤ inSize ∧ w.2.1 ≤ w.2.2 ∧ w.1 + w.2.2 = xMax :=
  Fir.Proofs.window_in_source isZero xMin xMax inSize h1 h2

/-- with a window that was not clamped empty (xMin < xMax) and a kernel that is non-zero somewhere in it,
    the window is non-empty -/
theorem window_nonempty (isZero : Nat → Bool) (xMin xMax x : Nat) (hx : xMin ≤ x ∧ x < xMax) (hnz : isZero x = false) :
    0 < (Bounds.window isZero xMin xMax).2.1 :=
  Fir.Proofs.window_nonempty isZero xMin xMax x hx hnz

/-- the temporary image (first = minimal start, last = maximal end over ALL windows - the repaired code)
    contains every shifted window, and shifting does not underflow -/
theorem temp_image_fits (bounds : List (Nat × Nat)) (b : Nat × Nat) (hb : b ∈ bounds) :
    let e := tempExtent bounds
    e.1 ≤ b.1 ∧ (b.1 - e.1) + b.2 ≤ e.2 - e.1 :=
  Fir.Proofs.temp_image_fits bounds b hb

/-- shifted windows address the same samples of the temporary image as the original windows address
    in the source: sample `i` of window `b` is at `b.start - first + i` in an image that starts at `first` -/
theorem shift_bounds_same_samples (bounds : List (Nat × Nat)) (b : Nat × Nat) (hb : b ∈ bounds) (i : Nat) :
    (tempExtent bounds).1 + ((b.1 - (tempExtent bounds).1) + i) = b.1 + i :=
  Fir.Proofs.shift_bounds_same_samples bounds b hb i

/-- the clip-table index is inside the table and is computed without overflow, for EVERY 32-bit
    accumulator value and every precision (false before the repair: out of range for large lobes) -/
theorem clip_index_in_table (v : Int) (p : Nat) (hv : -(2 ^ 31 : Int) ≤ v ∧ v < 2 ^ 31) (hp : p < 32) :
    clip16_index v p < clip8_table_size ∧ clip16_index_ok v p :=
  Fir.Proofs.clip_index_in_table v p hv hp

/-- the 16-bit clip never overflows or over-shifts -/
theorem clip32_total (v : Int) (p : Nat) (hp : p < 64) : clip32_ok v p ∧ clip32 v p ≤ 65535 :=
  Fir.Proofs.clip32_total v p hp

/-- the precision loop returns a value below the number of candidate precisions ... -/
theorem precision_lt_bits (next : Nat → Int) (limit : Int) (bits : Nat) (hb : 0 < bits) :
    precisionOf next limit bits < bits :=
  Fir.Proofs.precision_lt_bits next limit bits hb

/-- ... and at least 1 unless the very first candidate already overflows the coefficient type
    (largest weight ≥ 2^14 for i16 coefficients) -/
theorem precision_ge_one (next : Nat → Int) (limit : Int) (bits : Nat) (hb : 2 ≤ bits) (h0 : next 0 < limit) :
    1 ≤ precisionOf next limit bits :=
  Fir.Proofs.precision_ge_one next limit bits hb h0

/-- every precision 1 .. PRECISION_BITS-1 has a non-trivial dispatch arm that expands the operation
    with that very immediate (translated from src/convolution/macros.rs; false before arm 11 was added) -/
theorem precision_in_arms (p : Nat) (h1 : 1 ≤ p) (h2 : p < PRECISION_BITS) :
    p ∈ constify_arms ∧ p ∉ constify_noop_arms ∧ p ≤ constify_mask :=
  Fir.Proofs.precision_in_arms p h1 h2

/-! ### the clamped window under an arbitrary monotone, integer-exact rounding `fl` -/

/-- `x_min ≤ x_max` - the hypothesis `window_in_source` starts from - whenever the radius is non-negative
    and the (computed) window starts inside the image; `bound_end - bound_start` then cannot underflow.
    `fl` only has to be monotone and exact on the integer `in_size` -/
theorem xmin_le_xmax (fl : ℚ → ℚ) (hfl : Monotone fl) (c r : ℚ) (inSize : ℕ)
    (hsz : fl ((inSize : ℤ) : ℚ) = ((inSize : ℤ) : ℚ)) (hr : 0 ≤ r) (hin : c - r ≤ inSize) :
    Fir.Proofs.xMinOf fl c r ≤ Fir.Proofs.xMaxOf fl c r inSize ∧ Fir.Proofs.xMaxOf fl c r inSize ≤ inSize :=
  ⟨Fir.Proofs.xmin_le_xmax fl hfl c r inSize hsz hr hin, min_le_right _ _⟩

/-- every window fits into the `window_size = min(2⌈r⌉ + 1, in_size)` slots reserved for it (the clamp to
    `in_size` is the repair for huge supports): `coeffs.resize(cur_index + window_size)` never truncates.
    `fl` only has to be monotone and exact on the two integers `⌈c⌉ + ⌈r⌉`, `⌊c⌋ - ⌈r⌉` -/
theorem span_le_window (fl : ℚ → ℚ) (hfl : Monotone fl) (c r : ℚ) (inSize : ℕ) (hr : 0 ≤ r)
    (h1 : fl ((⌈c⌉ + ⌈r⌉ : ℤ) : ℚ) = ((⌈c⌉ + ⌈r⌉ : ℤ) : ℚ)) (h2 : fl ((⌊c⌋ - ⌈r⌉ : ℤ) : ℚ) = ((⌊c⌋ - ⌈r⌉ : ℤ) : ℚ)) :
    Fir.Proofs.xMaxOf fl c r inSize - Fir.Proofs.xMinOf fl c r ≤ Fir.Proofs.windowSizeOf r inSize :=
  Fir.Proofs.span_le_window fl hfl c r inSize hr h1 h2

/-- the reserved slots never exceed the image size, whatever the support (no overflow, no giant allocation) -/
theorem window_size_le_in_size (r : ℚ) (inSize : ℕ) : Fir.Proofs.windowSizeOf r inSize ≤ inSize := min_le_right _ _

example : Fir.Proofs.xMinOf id (7 / 2) (3 / 2) = 2 ∧ Fir.Proofs.xMaxOf id (7 / 2) (3 / 2) 4 = 4 ∧ Fir.Proofs.windowSizeOf (3 / 2) 4 = 4 := by
  decide +kernel

/-! ### non-vacuity -/
example : Bounds.window (fun x => x < 3 || x ≥ 7) 1 9 = (3, 4, 6) := by decide
example : tempExtent [(5, 3), (2, 4), (4, 6)] = (2, 10) := by decide
example : clip16_index (2 ^ 31 - 1) 0 = 1279 ∧ clip16_index (-(2 ^ 31)) 0 = 0 := by decide
example : precisionOf (fun p => 2 ^ (p + 1)) (2 ^ 15) 22 = 14 := by decide

open Fir.Spec in
theorem idealGeom_in_source (inSize : Nat) (in0 in1 : ℚ) (outSize : Nat) (support : ℚ) (adaptive : Bool) (o : Nat) :
    let g := idealGeom inSize in0 in1 outSize support adaptive o
    g.2.1 = 0 ∨ g.1 + g.2.1 ≤ inSize :=
  Fir.Proofs.idealGeom_in_source inSize in0 in1 outSize support adaptive o


/-! ### every sample the passes of `do_convolution` read exists -/

/-- component index of sample (x, y, c) inside the buffer of a `w x h` image of `n` components -/
theorem sample_index_lt {w h n x y c : Nat} (hx : x < w) (hy : y < h) (hc : c < n) : (y * w + x) * n + c < w * h * n :=
  Fir.Proofs.sample_index_lt hx hy hc

/-- two-pass resize: with `first` / `last` = minimum start / maximum end over ALL windows of the pass that
    runs second (the repaired sizing), the strip the first pass produces lies inside the source, every
    shifted window of the second pass lies inside the strip, and shifting never underflows - for every set
    of windows inside their axis (`window_in_source`: every kernel, every rounding) -/
theorem two_pass_reads_in_bounds (bounds : List (Nat × Nat)) (inSize : Nat) (hin : ∀ b ∈ bounds, b.1 + b.2 ≤ inSize) :
    (∀ x, x < (tempExtent bounds).2 - (tempExtent bounds).1 → (tempExtent bounds).1 + x < inSize) ∧
    (∀ b ∈ bounds, (tempExtent bounds).1 ≤ b.1 ∧
      ∀ j, j < b.2 → (b.1 - (tempExtent bounds).1) + j < (tempExtent bounds).2 - (tempExtent bounds).1) :=
  Fir.Proofs.two_pass_reads_in_bounds bounds inSize hin

/-- the same about the very quantities `Fir.doConvolution` computes (`boundsFirst`, `boundsLast`) -/
theorem doConvolution_temp_reads_in_bounds (c : Fir.Coeffs) (inSize : Nat) (hin : ∀ b ∈ c.bounds.toList, b.1 + b.2 ≤ inSize) :
    (∀ x, x < Fir.boundsLast c - Fir.boundsFirst c → Fir.boundsFirst c + x < inSize) ∧
    (∀ b ∈ c.bounds.toList, Fir.boundsFirst c ≤ b.1 ∧
      ∀ j, j < b.2 → (b.1 - Fir.boundsFirst c) + j < Fir.boundsLast c - Fir.boundsFirst c) :=
  Fir.Proofs.doConvolution_temp_reads_in_bounds c inSize hin


/-! ### the premises about rounding discharged for IEEE-754 round-to-nearest-even (`Fir.Ieee.flP`) -/

section IeeeInstances
open Fir.Ieee
/-- `xmin_le_xmax` / `span_le_window` for IEEE binary64, for `|c| + r + 2 ≤ 2^53` (image sizes are below 2^32) -/
theorem window_ieee (c r : ℚ) (inSize : ℕ) (hr : 0 ≤ r) (hin : c - r ≤ inSize) (hsz : (inSize : ℤ) ≤ 2 ^ 53)
    (hb : |c| + r + 2 ≤ 2 ^ 53) :
    Fir.Proofs.xMinOf (flP 53) c r ≤ Fir.Proofs.xMaxOf (flP 53) c r inSize ∧
    Fir.Proofs.xMaxOf (flP 53) c r inSize - Fir.Proofs.xMinOf (flP 53) c r ≤ Fir.Proofs.windowSizeOf r inSize := by
  have hmono := flP_monotone 53 (by norm_num)
  have hint : ∀ z : ℤ, |(z : ℚ)| ≤ 2 ^ 53 → flP 53 (z : ℚ) = z := fun z h =>
    flP_int 53 (by norm_num) z (by exact_mod_cast h)
  have hsz' : (inSize : ℚ) ≤ 2 ^ 53 := by exact_mod_cast hsz
  -- the three integers on which `flP 53` has to be exact lie within `|c| + r + 2` of zero
  refine ⟨Fir.Proofs.xmin_le_xmax (flP 53) hmono c r inSize (hint _ ?_) hr hin,
    Fir.Proofs.span_le_window (flP 53) hmono c r inSize hr (hint _ ?_) (hint _ ?_)⟩ <;>
  · rw [abs_le]
    push_cast
    constructor <;> linarith [Int.le_ceil c, Int.ceil_lt_add_one c, Int.floor_le c, Int.lt_floor_add_one c,
      Int.le_ceil r, Int.ceil_lt_add_one r, neg_abs_le c, le_abs_self c]
end IeeeInstances

/-! ### the two documented head-room bits are what keeps the accumulators from overflowing -/

/-- 8-bit formats: with a precision below `PRECISION_BITS` (translated: 32 - 8 - 2) and coefficients whose
    absolute values sum to at most `4·2^p` (normalised weights with `Σ|w| ≤ 4`), the `i32` accumulator of
    every window stays inside `i32` - the premise of `accOK8_of_abs_sum` -/
theorem headroom_u8 (p : Nat) (hp : p < PRECISION_BITS) (S : Int) (hS : S ≤ 4 * 2 ^ p) :
    255 * S + 2 ^ (p - 1) < (2 : Int) ^ 31 :=
  Fir.Proofs.headroom (.inl rfl) hp hS

/-- 16-bit formats: the same with `PRECISION16_BITS` (translated: 64 - 16 - 2) and the `i64` accumulator -/
theorem headroom_u16 (p : Nat) (hp : p < PRECISION16_BITS) (S : Int) (hS : S ≤ 4 * 2 ^ p) :
    65535 * S + 2 ^ (p - 1) < (2 : Int) ^ 63 :=
  Fir.Proofs.headroom (.inr rfl) hp hS

/-! ### SIMD load footprints as theorems (SSE4.1: U8x3 one row, U16x3 both kernels) -/

/-- every 16-byte, 8-byte and single-pixel load of `horiz_convolution_one_row` (src/convolution/u8x3/sse4.rs, modelled in
    `Fir.SimdU8x3.loads` with the kernel's own loop guards `x < src_width - 5` / `- 2`) lies inside the row of `w` pixels
    whenever the coefficient window does - for every width, start and number of coefficients -/
theorem u8x3_sse4_one_row_loads_in_row (w start : Nat) (ks : List Int) (hwin : start + ks.length ≤ w) :
    ∀ e ∈ Fir.SimdU8x3.loads w start ks, 3 * e.1 + e.2 ≤ 3 * w :=
  Fir.Proofs.u8x3_sse4_loads_in_row w start ks hwin

example : Fir.SimdU8x3.loads 15 2 [1, 2, 3, 4, 5, 6, 7, 8, 9, 10, 11, 12, 13] = [(2, 16), (6, 16), (10, 8), (12, 8), (14, 3)] := by decide

/-- the RGB16 twin (src/convolution/u16x3/sse4.rs, both kernels): the pair loop - the only place with a 128-bit load, which covers two
    pixels and a third of the next - runs only when `width - end_x >= 1`; every such load (16 bytes from pixel `x`, 6 bytes per
    pixel; `Fir.SimdU16x3.loads`) lies inside the row of `w` pixels, for every width, start and number of coefficients.  All other
    kernels modelled lane by lane load exactly the pixels whose coefficients they consume (`src*` in their models), so their
    footprint is the coefficient window itself. -/
theorem u16x3_sse4_loads_in_row (w start : Nat) (ks : List Int) :
    ∀ x ∈ Fir.SimdU16x3.loads w start ks, 6 * x + 16 ≤ 6 * w :=
  Fir.Proofs.U16x3.loads_in_row w start ks

example : Fir.SimdU16x3.loads 9 2 [1, 2, 3, 4, 5] = [2, 4] := by decide

/-- ... and when the window ends at the last pixel no 128-bit load is issued at all -/
example : Fir.SimdU16x3.loads 7 2 [1, 2, 3, 4, 5] = [] := by decide

end Fir.C03
