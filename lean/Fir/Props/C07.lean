/-
  C07 - Alpha-aware resizing ignores the colour of fully transparent pixels.

  Scope: calls that reach a convolution.  C12 demands a bit-exact copy whenever the destination size
  equals an integer-aligned crop (for every alpha setting), and a copy necessarily keeps colours stored
  under alpha = 0; on such calls the two properties cannot both be read literally, C12 is the explicit
  one, so the theorems below are about `resampleConvolution` (what the call does once the copy path is
  not taken).
-/
import Fir.Proofs.AlphaImageLemmas

namespace Fir.C07
open Fir.Gen

/-- multiplying by alpha 0 gives 0, at both depths (translated code) -/
theorem mul_div_255_zero (c : Nat) (hc : c < 256) : mul_div_255 c 0 = 0 :=
  (Fir.Proofs.mul_div_zero c).1

theorem mul_div_65535_zero (c : Nat) (hc : c < 65536) : mul_div_65535 c 0 = 0 :=
  (Fir.Proofs.mul_div_zero c).2

/-- dividing by alpha 0 gives colour 0, at both depths -/
theorem zero_alpha_zero_colour (c : Nat) :
    div_and_clip c (recip_alpha 0) = 0 ∧ div_and_clip16 c (recip_alpha16 0) = 0 :=
  Fir.Proofs.div_and_clip_zero c

/-- two sources that differ only in the colours stored under alpha = 0 have the same premultiplied image
    (8 / 16 bit; `n` components, alpha last) -/
theorem premul_congr (p : PixT) (hk : p.kind = .u8 ∨ p.kind = .u16) (hn : 0 < p.n) (px px' : Array Int)
    (hsz : px.size = px'.size)
    (hrange : ∀ i, i < px.size → 0 ≤ px[i]! ∧ px[i]! ≤ p.kind.maxVal ∧ 0 ≤ px'[i]! ∧ px'[i]! ≤ p.kind.maxVal)
    (halpha : ∀ i, i < px.size → i % p.n = p.n - 1 → px[i]! = px'[i]!)
    (hcol : ∀ i, i < px.size → i % p.n ≠ p.n - 1 → px[i - i % p.n + (p.n - 1)]! ≠ 0 → px[i]! = px'[i]!) :
    mulPixels p px = mulPixels p px' :=
  Fir.Proofs.premul_congr p hk hn px px' hsz hrange halpha hcol

/-- hence the alpha-aware convolution gives identical results for the two sources: every geometry,
    filter, kernel-size mode and previous destination content -/
theorem resize_alpha_congr (p : PixT) (src src' prev : Img) (cl ct cw ch : Float) (f : FilterSpec) (adaptive : Bool)
    (hsup : Gen.alphaSupported.contains p.name = true)
    (hw : src'.w = src.w) (hh : src'.h = src.h) (hn : src'.n = src.n)
    (hmul : mulPixels p src.data = mulPixels p src'.data) :
    resampleConvolution p src cl ct cw ch prev f adaptive true = resampleConvolution p src' cl ct cw ch prev f adaptive true :=
  Fir.Proofs.resize_alpha_congr p src src' prev cl ct cw ch f adaptive hsup hw hh hn hmul

/-- the alpha path is taken exactly for the six alpha pixel types (translated list) -/
theorem alpha_gate : Gen.alphaSupported = ["U8x2", "U8x4", "U16x2", "U16x4", "F32x2", "F32x4"] := by decide

/-- multiply and divide leave the alpha component itself unchanged (C06.alpha_unchanged), so the alpha
    channel of the result is the plain resampling of the alpha channel -/
theorem alpha_channel_untouched_by_muldiv (n : Nat) (f : Int → Int → Int) (px : Array Int) (i : Nat) (hi : i < px.size)
    (hlast : i % n = n - 1) : (mapAlphaPixels n f px)[i]'(by simp [mapAlphaPixels, hi]) = px[i] :=
  Fir.C06.alpha_unchanged n f px i hi hlast

/-- fully opaque 8-bit source: premultiplication is the identity ... -/
theorem opaque_premul_id (c : Nat) (hc : c < 256) : mul_div_255 c 255 = c :=
  Fir.Proofs.mul_div_255_opaque c hc

/-- ... and so is division by the maximal alpha -/
theorem opaque_div_id (c : Nat) (hc : c < 256) : div_and_clip c (recip_alpha 255) = c :=
  Fir.Proofs.div_and_clip_opaque c hc

theorem opaque_premul_id16 (c : Nat) (hc : c < 65536) : mul_div_65535 c 65535 = c :=
  Fir.Proofs.mul_div_65535_opaque c hc

theorem opaque_div_id16 (c : Nat) (hc : c < 65536) : div_and_clip16 c (recip_alpha16 65535) = c :=
  Fir.Proofs.div_and_clip16_opaque c hc

/-! ### whole images of the executable model -/

/-- dividing: every colour component of a pixel whose alpha is 0 becomes 0 (8 / 16 bit) -/
theorem divPixels_zero_alpha (p : PixT) (hk : p.kind = .u8 ∨ p.kind = .u16) (hn : 2 ≤ p.n) (px : Array Int)
    (q c : Nat) (hq : q * p.n + (p.n - 1) < px.size) (hc : c < p.n - 1)
    (ha : px[q * p.n + (p.n - 1)]! = 0) :
    (divPixels p px)[q * p.n + c]! = 0 :=
  Fir.Proofs.divPixels_zero_alpha p hk hn px q c hq hc ha

/-- C07, second clause, on the model's alpha-aware convolution: a destination pixel whose resampled alpha
    is zero has zero colour (alpha is the last of the `p.n` components; `q` is a pixel index) -/
theorem resampleConvolution_zero_alpha_zero_colour (p : PixT) (hk : p.kind = .u8 ∨ p.kind = .u16) (hn : 2 ≤ p.n)
    (hsup : Gen.alphaSupported.contains p.name = true)
    (src prev : Img) (cl ct cw ch : Float) (f : FilterSpec) (adaptive : Bool) (q c : Nat) (hc : c < p.n - 1)
    (hq : q * p.n + (p.n - 1) < (resampleConvolution p src cl ct cw ch prev f adaptive true).data.size)
    (ha : (resampleConvolution p src cl ct cw ch prev f adaptive true).data[q * p.n + (p.n - 1)]! = 0) :
    (resampleConvolution p src cl ct cw ch prev f adaptive true).data[q * p.n + c]! = 0 :=
  Fir.Proofs.resampleConvolution_zero_alpha_zero_colour p hk hn hsup src prev cl ct cw ch f adaptive q c hc hq ha

theorem mulPixels_opaque (p : PixT) (hk : p.kind = .u8 ∨ p.kind = .u16) (hn : 1 ≤ p.n) (px : Array Int)
    (hrange : ∀ i, i < px.size → 0 ≤ px[i]! ∧ px[i]! ≤ p.kind.maxVal)
    (hopaque : ∀ i, i < px.size → i % p.n = p.n - 1 → px[i]! = p.kind.maxVal)
    (hwhole : px.size % p.n = 0) :
    mulPixels p px = px :=
  Fir.Proofs.mulPixels_opaque p hk hn px hrange hopaque hwhole

theorem divPixels_opaque (p : PixT) (hk : p.kind = .u8 ∨ p.kind = .u16) (hn : 1 ≤ p.n) (px : Array Int)
    (hrange : ∀ i, i < px.size → 0 ≤ px[i]! ∧ px[i]! ≤ p.kind.maxVal)
    (hopaque : ∀ i, i < px.size → i % p.n = p.n - 1 → px[i]! = p.kind.maxVal)
    (hwhole : px.size % p.n = 0) :
    divPixels p px = px :=
  Fir.Proofs.divPixels_opaque p hk hn px hrange hopaque hwhole

/-- C07, third clause: for a fully opaque source whose convolved alpha channel is again fully opaque (C10:
    a constant channel stays constant) and whose convolved components are in range, alpha handling is a no-op -/
theorem resampleConvolution_opaque_noop (p : PixT) (hk : p.kind = .u8 ∨ p.kind = .u16) (hn : 1 ≤ p.n)
    (src prev : Img) (cl ct cw ch : Float) (f : FilterSpec) (adaptive : Bool)
    (hsrc_range : ∀ i, i < src.data.size → 0 ≤ src.data[i]! ∧ src.data[i]! ≤ p.kind.maxVal)
    (hsrc_opaque : ∀ i, i < src.data.size → i % p.n = p.n - 1 → src.data[i]! = p.kind.maxVal)
    (hsrc_whole : src.data.size % p.n = 0)
    (hres_range : ∀ i, i < (doConvolution p src cl ct cw ch prev f adaptive).data.size →
        0 ≤ (doConvolution p src cl ct cw ch prev f adaptive).data[i]! ∧ (doConvolution p src cl ct cw ch prev f adaptive).data[i]! ≤ p.kind.maxVal)
    (hres_opaque : ∀ i, i < (doConvolution p src cl ct cw ch prev f adaptive).data.size → i % p.n = p.n - 1 →
        (doConvolution p src cl ct cw ch prev f adaptive).data[i]! = p.kind.maxVal)
    (hres_whole : (doConvolution p src cl ct cw ch prev f adaptive).data.size % p.n = 0) :
    resampleConvolution p src cl ct cw ch prev f adaptive true = resampleConvolution p src cl ct cw ch prev f adaptive false :=
  Fir.Proofs.resampleConvolution_opaque_noop p hk hn src prev cl ct cw ch f adaptive hsrc_range hsrc_opaque hsrc_whole hres_range hres_opaque hres_whole


end Fir.C07
