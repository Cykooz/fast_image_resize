/-
  C09 - A reused Resizer behaves exactly like a fresh one.

  State machine `Fir.rstep` / `Fir.rrun` (Fir/Model/ResizerState.lean): scratch buffers grow, are never
  cleared, hold arbitrary garbage, may be dropped (`reset`) or copied (`clone`).  The outcome of every
  resize in any history equals the outcome of the same call on a fresh resizer.  What makes this true in
  the code - every temporary image is fully written before it is read, buffers are put back on every
  path, alignment offsets < pixel size are absorbed by the extra pixel of slack - is C05's
  overwrite theorems plus `temp_buffer_slice_ok`; the tie to the real buffers is the op-sequence
  correspondence (every output compared with a fresh Resizer).
-/
import Fir.Proofs.StructLemmas
import Fir.Proofs.LayoutLemmas

namespace Fir.C09

/-- the outcome of one operation does not depend on the state it is executed in -/
theorem resize_state_independent (s s' : RState) (op : ROp) : (rstep s op).2 = (rstep s' op).2 :=
  Fir.Proofs.rstep_outcome_state_independent s s' op

/-- any history - resizes of any type/size/algorithm, erroring calls, reset, clone, in any order: the
    k-th outcome equals the outcome of the same operation on a fresh resizer -/
theorem history_independent (s : RState) (ops : List ROp) (k : Nat) (hk : k < ops.length) :
    (rrun s ops).getD k none = (rstep (RState.init s.ext) (ops.getD k .reset)).2 :=
  Fir.Proofs.history_independent s ops k hk

/-- scratch buffers never shrink between resets (so an image carved out of one always fits) -/
theorem buffers_grow (s : RState) (p : PixT) (src prev : Img) (o : ROpts) (need : Nat × Nat × Nat) (g : List Int) :
    let s' := (rstep s (.resize p src prev o need g)).1
    s.alphaLen ≤ s'.alphaLen ∧ s.convLen ≤ s'.convLen ∧ s.ssLen ≤ s'.ssLen ∧
    need.1 ≤ s'.alphaLen ∧ need.2.1 ≤ s'.convLen ∧ need.2.2 ≤ s'.ssLen :=
  Fir.Proofs.buffers_grow s p src prev o need g

/-- scratch content never leaks: a temporary image is a typed view `T(off, w, h, w*h)` carved out of a
    scratch buffer that holds ARBITRARY content `g` from earlier calls; the first pass writes its whole
    result through that view and the second pass reads through the same view - what it reads is exactly
    the first pass's result, for every `g` (so for every history of the resizer) -/
theorem scratch_fully_overwritten (off w h n : Nat) (hn : 0 < n) (im : Img) (g : Array Int)
    (hdim : im.data.size = w * h * n) (hw : 0 < w)
    (hfit : (off + w * h) * n ≤ g.size) :
    (extractImg (View.typed off w h (w * h)) n (injectImg (View.typed off w h (w * h)) n im g)).data = im.data :=
  Fir.Proofs.scratch_fully_overwritten off w h n hn im g hdim hw hfit

/-- `get_temp_image_from_buffer`: a buffer of `count·size + size` bytes holds `count` pixels after
    skipping any alignment offset smaller than the pixel size -/
theorem temp_buffer_slice_ok (count size off : Nat) (hs : 0 < size) (hoff : off < size) :
    count ≤ (count * size + size - off) / size :=
  Fir.Proofs.temp_buffer_slice_ok count size off hs hoff

end Fir.C09
