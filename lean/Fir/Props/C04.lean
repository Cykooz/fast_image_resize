/-
  C04 - Geometry validation accepts exactly the regions that lie inside the image.

  * `check_crop_box` (translated from src/images/typed_cropped_image.rs on every run): accepted iff
    the rectangle lies inside the image, for ALL u32 sextuples, with the documented error kind and
    without any overflow.
  * constructors' size checks (translated size expressions): accepted iff the buffer holds
    width*height*pixel_size bytes computed in ℕ - no wrap-around for any u32 sizes.
  * `CroppedSrcImageView::crop` on f64 boxes: accepted iff finite, non-negative and inside.
  * an accepted cropped view exposes exactly `h - start` rows of exactly its width, every pixel of
    them a pixel the wrapped view exposes (see also Fir.C14 / ViewLemmas).
-/
import Fir.Generated.Crop
import Fir.Generated.Sizes
import Fir.Model.CropF64
import Fir.Proofs.ViewLemmas

namespace Fir.C04
open Fir.Gen

/-- ∀ u32 sextuples: Ok iff origin inside and far corner inside (sums in ℕ, i.e. no wrap-around);
    the error kind is "position" iff the origin is outside, "size" otherwise; nothing overflows -/
theorem check_crop_box_iff (W H l t w h : Nat)
    (hW : W < 4294967296) (hH : H < 4294967296) (hl : l < 4294967296) (ht : t < 4294967296)
    (_hw : w < 4294967296) (_hh : h < 4294967296) :
    (check_crop_box W H l t w h = 0 ↔ (l < W ∧ t < H ∧ l + w ≤ W ∧ t + h ≤ H)) ∧
    (check_crop_box W H l t w h = 1 ↔ (l ≥ W ∨ t ≥ H)) ∧
    (check_crop_box W H l t w h = 2 ↔ (l < W ∧ t < H ∧ (l + w > W ∨ t + h > H))) ∧
    check_crop_box_ok W H l t w h := by
  -- shape-independent: on each path of the translated function the result is a numeral; the rest is linear
  unfold check_crop_box check_crop_box_ok
  simp only [Bool.or_eq_true, decide_eq_true_eq, ge_iff_le, gt_iff_lt, Bool.not_eq_true', decide_eq_false_iff_not, ite_self]
  split_ifs <;> simp only [Nat.reduceEqDiff, false_iff, true_iff, and_true] <;> omega

/-- the translated validation is the `cropValid` predicate of the view model, so every `crop` node of
    a well-formed `View` is one that the real constructors accept, and vice versa -/
theorem check_crop_box_eq_cropValid (inner : View) (l t w h : Nat)
    (hW : inner.width < 4294967296) (hH : inner.height < 4294967296) (hl : l < 4294967296)
    (ht : t < 4294967296) (hw : w < 4294967296) (hh : h < 4294967296) :
    (check_crop_box inner.width inner.height l t w h = 0) ↔ View.cropValid inner l t w h = true := by
  rw [(check_crop_box_iff _ _ l t w h hW hH hl ht hw hh).1]
  simp [View.cropValid, and_assoc]

/-- ∀ u32 width, height, every pixel size 1..16: the computed requirement never overflows, and a
    buffer (whose length is below 2^63, as every Rust slice is) is accepted iff it holds
    width*height*psize bytes, the product taken in ℕ -/
theorem ctor_size_iff (width height psize len : Nat) (hw : width < 4294967296) (hh : height < 4294967296)
    (hp : 1 ≤ psize ∧ psize ≤ 16) (hlen : len < 9223372036854775808) :
    image_ref_size_ok width height psize ∧ image_vec_size_ok width height psize ∧
    image_slice_size_ok width height psize ∧ typed_buffer_size_ok width height psize ∧
    (¬ (len < image_ref_size width height psize) ↔ width * height * psize ≤ len) ∧
    (¬ (len < image_vec_size width height psize) ↔ width * height * psize ≤ len) ∧
    (¬ (len < image_slice_size width height psize) ↔ width * height * psize ≤ len) ∧
    (¬ (len < typed_buffer_size width height psize) ↔ width * height * psize ≤ len) := by
  have hwh : width * height ≤ 4294967295 * 4294967295 := Nat.mul_le_mul (by omega) (by omega)
  unfold image_ref_size_ok image_vec_size_ok image_slice_size_ok typed_buffer_size_ok
    image_ref_size image_vec_size image_slice_size typed_buffer_size
  generalize width * height = a at *
  have e : a % 18446744073709551616 = a := Nat.mod_eq_of_lt (by omega)
  simp only [e]
  rcases hp with ⟨_, hp2⟩
  have hb : a * psize ≤ 4294967295 * 4294967295 * 16 := Nat.mul_le_mul hwh hp2
  generalize a * psize = b at *
  omega

/-- typed constructors count pixels: width*height never overflows usize -/
theorem ctor_count_iff (width height len : Nat) (hw : width < 4294967296) (hh : height < 4294967296) :
    typed_ref_count_ok width height ∧ typed_slice_count_ok width height ∧ typed_vec_count_ok width height ∧
    (¬ (len < typed_ref_count width height) ↔ width * height ≤ len) ∧
    (¬ (len < typed_slice_count width height) ↔ width * height ≤ len) ∧
    (¬ (len < typed_vec_count width height) ↔ width * height ≤ len) := by
  have hwh : width * height ≤ 4294967295 * 4294967295 := Nat.mul_le_mul (by omega) (by omega)
  unfold typed_ref_count_ok typed_slice_count_ok typed_vec_count_ok typed_ref_count typed_slice_count typed_vec_count
  generalize width * height = a at *
  omega

/-! ### f64 crop boxes (ResizeOptions::crop) -/

/-- the source text of CroppedSrcImageView::crop and of the early-out of resize_typed is exactly what
    `Fir.cropCheck` / `Fir.resizePrologue` mirror -/
theorem crop_steps_as_modelled : cropF64Steps = cropStepsModelled ∧ resizeEarlyOut = earlyOutModelled :=
  ⟨rfl, rfl⟩

theorem cropCheck_zero {α : Type} (o : FOps α) (W H : Nat) (l t w h : α) :
    cropCheck o W H l t w h = 0 ↔ (cropC1 o w h = true ∧ cropC2 o W H l t = true ∧ cropC3 o W H l t w h = true) := by
  unfold cropCheck
  cases cropC1 o w h <;> cases cropC2 o W H l t <;> cases cropC3 o W H l t w h <;> simp

/-- a crop box is accepted iff all four fields are finite (no NaN, no infinity), origin and size are
    non-negative, the origin is inside and the (once rounded) far corner is inside - for every
    rounding function `fl` -/
theorem crop_f64_iff (fl : Rat → Rat) (W H : Nat) (l t w h : XF) :
    cropCheck (xfOps fl) W H l t w h = 0 ↔
      ∃ ql qt qw qh : Rat, l = XF.fin ql ∧ t = XF.fin qt ∧ w = XF.fin qw ∧ h = XF.fin qh ∧
        0 ≤ ql ∧ 0 ≤ qt ∧ 0 ≤ qw ∧ 0 ≤ qh ∧ ql < W ∧ qt < H ∧ fl (ql + qw) ≤ W ∧ fl (qt + qh) ≤ H := by
  simp only [cropCheck_zero, cropC1, cropC2, cropC3, xfOps, Bool.and_eq_true]
  constructor
  · -- each field is bounded below by 0 and above (itself, or its sum with a finite field) by an image size:
    -- NaN fails every comparison, each infinity one of the two
    rintro ⟨⟨hw0, hh0⟩, ⟨⟨⟨hl0, ht0⟩, hlW⟩, htH⟩, hr, hb⟩
    cases l <;> simp [XF.le, XF.lt] at hl0 hlW
    cases t <;> simp [XF.le, XF.lt] at ht0 htH
    cases w <;> simp [XF.le, XF.add] at hw0 hr
    cases h <;> simp [XF.le, XF.add] at hh0 hb
    exact ⟨_, _, _, _, rfl, rfl, rfl, rfl, hl0, ht0, hw0, hh0, hlW, htH, hr, hb⟩
  · rintro ⟨ql, qt, qw, qh, rfl, rfl, rfl, rfl, h1, h2, h3, h4, h5, h6, h7, h8⟩
    simp [XF.le, XF.lt, XF.add, h1, h2, h3, h4, h5, h6, h7, h8]

/-! ### non-vacuity -/
example : check_crop_box 4 4 1 1 4294967295 2 = 2 := by decide
example : check_crop_box 4 4 1 1 3 3 = 0 := by decide
example : image_slice_size 2147483648 2147483648 4 = 18446744073709551615 := by decide
example : cropCheck (xfOps id) 4 4 (XF.fin 1) (XF.fin 0) (XF.fin (5/2)) (XF.fin 4) = 0 := by decide +kernel
example : cropCheck (xfOps id) 4 4 XF.nan (XF.fin 0) (XF.fin 1) (XF.fin 1) = 1 := by decide +kernel
example : cropCheck (xfOps id) 4 4 (XF.fin (-1)) (XF.fin 0) (XF.fin 1) (XF.fin 1) = 1 := by decide +kernel

/-- an accepted (well-formed: every crop passed `check_crop_box`, every typed view fits its buffer) view of
    non-zero width exposes, from any start row, exactly `height - start` rows of exactly `width` pixels -
    for every nesting depth of cropped views -/
theorem accepted_view_rows (v : View) (hwf : v.wf = true) (hw : 0 < v.width) (s : Nat) :
    (v.rows s).length = v.height - s ∧ ∀ row ∈ v.rows s, row.length = v.width :=
  Fir.Proofs.wf_rows_exact v hwf hw s

/-- and every pixel it exposes is a pixel its parent exposes: nothing outside the underlying image -/
theorem accepted_view_inside_parent (inner : View) (l t w h s : Nat) (q : Nat)
    (hq : q ∈ ((View.crop inner l t w h).rows s).flatten) : q ∈ (inner.rows 0).flatten :=
  Fir.Proofs.crop_rows_subset inner l t w h s q hq

example : (View.crop (View.typed 0 5 4 20) 1 1 3 2).wf = true ∧
    (View.crop (View.typed 0 5 4 20) 1 1 3 2).rows 0 = [[6, 7, 8], [11, 12, 13]] := by decide

end Fir.C04
