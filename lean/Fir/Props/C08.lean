/-
  C08 - With the rayon feature the result is independent of thread count and schedule.

  * band-count arithmetic (`calculate_max_{h,v}_parts_number`, re-translated from src/threading.rs on
    every run): total for all u32 sizes - no overflow, no division by zero - and never larger than the
    extent that is split, so the split that follows cannot be refused or panic;
  * a banded pass performs exactly the writes of the sequential pass (rows: the same list; columns: a
    permutation), because the bands are aligned tilings (C14);
  * any interleaving of writes with pairwise distinct targets yields the same memory, so the result
    does not depend on the schedule or on the number of threads.
  The runtime residue (rayon's scheduler, real data-race freedom of the raw-pointer views) is not
  modelled; it is exercised by the correspondence check under real pools of 1..61 threads.
-/
import Fir.Generated.Threading
import Fir.Proofs.SchedLemmas

namespace Fir.C08
open Fir.Gen

/-- ∀ u32 width, height: the horizontal band count is computed without overflow / division by zero
    and never exceeds the height (0 or 1 mean "do not split") -/
theorem max_h_parts_total (w h : Nat) (hw : w < 4294967296) (hh : h < 4294967296) :
    calculate_max_h_parts_number_ok w h ∧ calculate_max_h_parts_number w h ≤ max h 1 := by
  unfold calculate_max_h_parts_number_ok calculate_max_h_parts_number
  by_cases h0 : w = 0 ∨ h = 0
  · simp [h0]; omega
  · -- the area `h * max h w` is one atom in `[1, (2^32 - 1)^2]`: it fits u64 and is not 0; the rest is linear, and
    -- a quotient is bounded by its dividend whatever the divisor is
    have hpos : 1 ≤ h * max h w := Nat.mul_pos (by omega) (by omega)
    have hlt : h * max h w ≤ 4294967295 * 4294967295 := Nat.mul_le_mul (by omega) (by omega)
    simp only [Bool.or_eq_true, decide_eq_true_eq, h0, if_false]
    generalize h * max h w = a at *
    exact ⟨by omega, Nat.le_trans (Nat.div_le_self _ _) (by omega)⟩

/-- the same for the vertical band count and the width -/
theorem max_v_parts_total (w h : Nat) (hw : w < 4294967296) (hh : h < 4294967296) :
    calculate_max_v_parts_number_ok w h ∧ calculate_max_v_parts_number w h ≤ max w 1 := by
  -- the vertical count is the horizontal count of the transposed image
  have e : calculate_max_v_parts_number w h = calculate_max_h_parts_number h w ∧
      (calculate_max_v_parts_number_ok w h ↔ calculate_max_h_parts_number_ok h w) := by
    unfold calculate_max_v_parts_number calculate_max_h_parts_number calculate_max_v_parts_number_ok
      calculate_max_h_parts_number_ok
    simp only [Nat.max_comm h w, Bool.or_comm (decide (w = 0)), and_self]
  rw [e.1, e.2]
  exact max_h_parts_total h w hh hw

/-- hence the split attempted by the threading code (`parts = min threads max_parts`, taken only when
    both are > 1) always satisfies the precondition `1 ≤ parts ≤ extent` of C14 -/
theorem split_precondition (w h threads : Nat) (hw : w < 4294967296) (hh : h < 4294967296)
    (ht : 1 < threads) (hm : 1 < calculate_max_h_parts_number w h) :
    1 ≤ min threads (calculate_max_h_parts_number w h) ∧ min threads (calculate_max_h_parts_number w h) ≤ h := by
  have := (max_h_parts_total w h hw hh).2
  omega

theorem writes_perm_invariant (ws1 ws2 : List (Nat × Int)) (hp : ws1.Perm ws2)
    (hnd : (ws1.map Prod.fst).Nodup) (m : Mem) : applyWrites ws1 m = applyWrites ws2 m :=
  Fir.Proofs.writes_perm_invariant ws1 ws2 hp hnd m

/-- every schedule - any interleaving, any permutation of the writes of all tasks - ends in the memory
    that running the tasks one after the other produces, provided the tasks write distinct indices -/
theorem schedule_independent (tasks : List (List (Nat × Int))) (sched : List (Nat × Int))
    (hs : sched.Perm tasks.flatten) (hnd : (tasks.flatten.map Prod.fst).Nodup) (m : Mem) :
    applyWrites sched m = applyWrites tasks.flatten m :=
  Fir.Proofs.writes_perm_invariant sched tasks.flatten hs
    ((List.Perm.nodup_iff (List.Perm.map Prod.fst hs)).mpr hnd) m

/-- row bands (horizontal pass, alpha operations): splitting source rows `[offset, offset+H)` and the
    destination into the same number of parts and running the row kernel per part performs literally
    the same list of writes as the whole-image kernel -/
theorem banded_rows_eq_sequential (f : List Int → List Int) (mem : Mem) (src dst : View)
    (hsw : src.wf = true) (hdw : dst.wf = true) (hsp : 0 < src.width) (hdp : 0 < dst.width)
    (offset k : Nat) (sps dps : List View)
    (hs : src.splitH offset dst.height k = some sps) (hd : dst.splitH 0 dst.height k = some dps) :
    ((sps.zip dps).map fun (sp, dp) => rowPassWrites f mem (sp.rows 0) (dp.rows 0)).flatten
      = rowPassWrites f mem (src.rows offset) (dst.rows 0) :=
  Fir.Proofs.banded_rows_eq_sequential f mem src dst hsw hdw hsp hdp offset k sps dps hs hd

/-- column bands (vertical pass): part `i` of the source and part `i` of the destination are the same
    relative column range, row by row (so a band is processed with offset 0) -/
theorem banded_cols_aligned (src dst : View) (hsw : src.wf = true) (hdw : dst.wf = true)
    (hsh : 0 < src.height) (hdh : 0 < dst.height)
    (offset k : Nat) (sps dps : List View)
    (hs : src.splitW offset dst.width k = some sps) (hd : dst.splitW 0 dst.width k = some dps)
    (i : Nat) (hi : i < k) (r : Nat) :
    ∃ a n, (r < src.height → ((sps.getD i default).rows 0).getD r [] = (((src.rows 0).getD r []).drop (offset + a)).take n) ∧
           (r < dst.height → ((dps.getD i default).rows 0).getD r [] = (((dst.rows 0).getD r []).drop a).take n) :=
  Fir.Proofs.banded_cols_aligned src dst hsw hdw hsh hdh offset k sps dps hs hd i hi r

/-- the destination indices written by all column bands together are a permutation of the indices
    of the destination, each exactly once -/
theorem banded_cols_perm (dst : View) (hdw : dst.wf = true) (hdh : 0 < dst.height) (k : Nat) (dps : List View)
    (hd : dst.splitW 0 dst.width k = some dps) :
    ((dps.map fun p => (p.rows 0).flatten).flatten).Perm (dst.rows 0).flatten :=
  Fir.Proofs.banded_cols_perm dst hdw hdh k dps hd

/-- hence, for any per-pixel value function, the banded vertical pass leaves the same memory as the
    sequential one - under every schedule -/
theorem banded_cols_eq_sequential (val : Nat → Int) (dst : View) (hdw : dst.wf = true) (hdh : 0 < dst.height)
    (k : Nat) (dps : List View) (hd : dst.splitW 0 dst.width k = some dps) (m : Mem) :
    applyWrites (((dps.map fun p => (p.rows 0).flatten).flatten).map fun i => (i, val i)) m
      = applyWrites (((dst.rows 0).flatten).map fun i => (i, val i)) m := by
  have hp := banded_cols_perm dst hdw hdh k dps hd
  refine Fir.Proofs.writes_perm_invariant _ _ (hp.map _) ?_ m
  simpa [Function.comp_def] using hp.nodup_iff.mpr (Fir.Proofs.idx_nodup dst hdw)

/-! ### non-vacuity -/
example : calculate_max_h_parts_number 1 65536 = 256 ∧ calculate_max_h_parts_number_ok 1 65536 := by decide
example : calculate_max_v_parts_number 4294967295 4294967295 = 256 := by decide
example : ((View.typed 0 4 6 24).splitH 0 6 3).isSome = true := by decide

end Fir.C08
