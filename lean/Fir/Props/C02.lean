/-
  C02 - SIMD back-ends compute the same image as the portable back-end.

  Proved: re-association / chunking of an integer dot product cannot change it (also modulo 2^32 /
  2^64, i.e. with wrapping accumulators); the SIMD finishing sequence `srai -> packs_epi32 ->
  packus_epi16` equals the translated clip table for *every* accumulator value; pair products of
  `madd_epi16` are exact (C18.madd_epi16_exact); the alpha-division lanes; and, from the section "SIMD kernels
  down to the bytes of their registers" on, the lane plumbing (shuffle masks from the source, loads, every
  remainder branch) of the SSE4.1 and most AVX2 convolution kernels of the 8- and 16-bit formats.  Not modelled:
  the AVX2 horizontal kernels of U8x3 / U16x3, the float and I32 kernels' plumbing, NEON, WASM.
-/
import Fir.Generated.SimdAlpha
import Fir.Proofs.SimdDiv8Lemmas
import Fir.Proofs.SimdDiv16Lemmas
import Fir.Props.C06
import Fir.Proofs.SimdVertU8Lemmas
import Fir.Proofs.SimdU8x3Lemmas
import Fir.Proofs.SimdPassIntLemmas
import Fir.Proofs.SimdU16x4ALemmas
import Fir.Proofs.SimdU16x2ALemmas
import Fir.Proofs.SimdU16x1ALemmas
import Fir.Proofs.SimdU8x1ALemmas
import Fir.Proofs.SimdU8x2ALemmas

namespace Fir.C02

theorem dot_append (ks1 ks2 xs1 xs2 : List Int) (h : ks1.length = xs1.length) :
    dotL (ks1 ++ ks2) (xs1 ++ xs2) = dotL ks1 xs1 + dotL ks2 xs2 :=
  Fir.Proofs.dotL_append ks1 ks2 xs1 xs2 h

/-- any chunk plan (blocks of 8 / 4 / 2 / 1 coefficients, any number of partial accumulators added up
    in any grouping): the sum of the per-chunk dot products is the sequential dot product -/
theorem dotChunked_eq_dot (chunks : List (List Int × List Int)) (h : ∀ c ∈ chunks, c.1.length = c.2.length) :
    (chunks.map fun c => dotL c.1 c.2).sum = dotL (chunks.map (·.1)).flatten (chunks.map (·.2)).flatten :=
  Fir.Proofs.dotChunked_eq_dot chunks h

/-- partial accumulators may be combined in any order -/
theorem partial_sums_perm (parts parts' : List Int) (h : parts.Perm parts') : parts.sum = parts'.sum :=
  h.sum_eq

/-- wrapping accumulators: adding modulo 2^bits after every step equals wrapping once at the end -/
theorem wrap_add (bits : Nat) (a b : Int) :
    Fir.Gen.wrapInt bits (Fir.Gen.wrapInt bits a + b) = Fir.Gen.wrapInt bits (a + b) :=
  Fir.Proofs.wrapInt_add bits a b

/-- `_mm_packs_epi32` on one lane -/
def packs16 (x : Int) : Int := max (-32768) (min 32767 x)
/-- `_mm_packus_epi16` on one lane -/
def packus8 (x : Int) : Int := max 0 (min 255 x)

/-- the SIMD finishing sequence equals the portable clip for every 32-bit accumulator value and every
    precision: `CLIP8[clamp(v >> p) + 640] = packus_epi16(packs_epi32(v >> p))` -/
theorem clip_table_eq_packs (v : Int) (p : Nat) (hp : p < 32) (hv : -(2 ^ 31 : Int) ≤ v ∧ v < 2 ^ 31) :
    clip8 v p = packus8 (packs16 (v / 2 ^ p)) :=
  Fir.Proofs.clip8_eq_packs v p hp hv

/-- 16-bit: `Normalizer32::clip` is the clamp the SIMD kernels perform with `packus_epi32` -/
theorem clip16_eq_clamp (v : Int) (p : Nat) (hp : p < 64) (hv : -(2 ^ 63 : Int) ≤ v ∧ v < 2 ^ 63) :
    clip16 v p = max 0 (min 65535 (v / 2 ^ p)) :=
  Fir.Proofs.clip16_eq_clamp v p hp hv

/-! ### the SSE4.1 / AVX2 8-bit alpha divide (f32 reciprocal, Q8.8 x Q9.7 `mulhrs`, unsigned min) -/

/-- the per-lane model of the SIMD 8-bit `divide_alpha` (exact f32 quotient 65280/alpha, conversion to
    a signed Q8.8 lane, `_mm_mulhrs_epi16`, `_mm_min_epu16`) equals the portable `div_and_clip` with the
    translated reciprocal table for all 65,536 (colour, alpha) pairs - incl. alpha = 0 (integer
    indefinite -> 0) and alpha = 1 (the Q8.8 lane is negative, the unsigned minimum saturates) -/
theorem simd_div8_eq (c a : Nat) (hc : c < 256) (ha : a < 256) :
    Fir.Simd.simdDiv8 c a = Fir.Gen.div_and_clip c (Fir.Gen.recip_alpha a) :=
  Fir.Proofs.simdDiv8_eq c a hc ha

theorem simd_div8_all : (List.range 256).all (fun a => (List.range 256).all (fun c =>
    Fir.Simd.simdDiv8 c a == Fir.Gen.div_and_clip c (Fir.Gen.recip_alpha a))) = true := by
  simp only [List.all_eq_true, List.mem_range, beq_iff_eq]
  exact fun a ha c hc => simd_div8_eq c a hc ha


/-! ### the SSE4.1 / AVX2 16-bit alpha divide (two binary32 roundings, `min_ps`, zero mask, `cvtps_epi32`) -/

/-- the lane `cvtps_epi32(min_ps(div_ps(mul_ps(c, 65535.0), a), 65535.0))` is faithful and saturating for
    all 2^32 (colour, alpha) pairs with alpha > 0, under the standard model of binary32 rounding
    (`s`, `q`: the rounded product and quotient, relative error ≤ 2^-24 each; `n`: any integer nearest
    to the saturated quotient, as `cvtps_epi32` returns) -/
theorem simd_div16_faithful (c a : Nat) (hc : c < 65536) (ha0 : 0 < a) (ha : a < 65536) (s q : ℚ) (n : ℤ)
    (hs : |s - (c : ℚ) * 65535| ≤ 1 / 2 ^ 24 * |(c : ℚ) * 65535|)
    (hq : |q - s / a| ≤ 1 / 2 ^ 24 * |s / a|)
    (hn : |(n : ℚ) - min q 65535| ≤ 1 / 2) :
    0 ≤ n ∧ Fir.Spec.divFaithful 65535 c a n.toNat :=
  Fir.Proofs.simd_div16_lane_faithful c a ha0 ha s q n hs hq hn

/-- hence the SIMD lane and the portable (translated) `div_and_clip16` differ by at most one unit - the
    exception C02 grants for 16-bit alpha division - for every colour and every alpha > 0; for alpha = 0
    both give 0 (the lane is masked with `cmpneq_ps`, the table entry is 0) -/
theorem simd_div16_within_one (c a : Nat) (hc : c < 65536) (ha0 : 0 < a) (ha : a < 65536) (s q : ℚ) (n : ℤ)
    (hs : |s - (c : ℚ) * 65535| ≤ 1 / 2 ^ 24 * |(c : ℚ) * 65535|)
    (hq : |q - s / a| ≤ 1 / 2 ^ 24 * |s / a|)
    (hn : |(n : ℚ) - min q 65535| ≤ 1 / 2) :
    let portable := Fir.Gen.div_and_clip16 c (Fir.Gen.recip_alpha16 a)
    (n.toNat : ℤ) - portable ≤ 1 ∧ (portable : ℤ) - n.toNat ≤ 1 :=
  Fir.Proofs.faithful_within_one 65535 c a _ _
    (Fir.Proofs.simd_div16_lane_faithful c a ha0 ha s q n hs hq hn).2 (Fir.C06.div16_faithful c a hc ha)

/-- **unconditional**: the executable 16-bit SIMD lane `Fir.Simd.simdDiv16` - the function the
    correspondence check compares with the four SSE4.1 / AVX2 kernels, both binary32 operations evaluated
    exactly - is faithful and saturating for ALL 2^32 (colour, alpha) pairs; no premise about rounding is
    left: the exact binary32 rounding `rnd24` is itself proved to be round-to-nearest-even
    (`Fir.Proofs.rnd24_eq_flP`, via the correctness of the integer logarithm `lg2`), whose relative error is 2^-24
    (`Fir.Ieee.flP_relErr`; for `rnd24` directly: `soft_rounding_relerr` below) -/
theorem simd_div16_all (c a : Nat) (hc : c < 65536) (ha : a < 65536) :
    Fir.Spec.divFaithful 65535 c a (Fir.Simd.simdDiv16 c a) :=
  Fir.Proofs.simdDiv16_faithful c a hc ha

/-- and therefore within one unit of the portable (translated) `div_and_clip16`, for all 2^32 pairs -/
theorem simd_div16_all_within_one (c a : Nat) (hc : c < 65536) (ha : a < 65536) :
    let portable := Fir.Gen.div_and_clip16 c (Fir.Gen.recip_alpha16 a)
    ((Fir.Simd.simdDiv16 c a : Nat) : ℤ) - portable ≤ 1 ∧ (portable : ℤ) - (Fir.Simd.simdDiv16 c a : Nat) ≤ 1 :=
  Fir.Proofs.faithful_within_one 65535 c a _ _ (Fir.Proofs.simdDiv16_faithful c a hc ha) (Fir.C06.div16_faithful c a hc ha)

/-- the exact binary32 rounding of the model obeys the standard model of rounding in the normal range -/
theorem soft_rounding_relerr (n d : ℕ) (hn : 1 ≤ n) (hd : 1 ≤ d) (hn2 : n < 2 ^ 512) (hd2 : d < 2 ^ 150)
    (hnormal : Fir.Soft.bias - 126 ≤ Fir.Soft.floorLog2Ratio n d) :
    |Fir.Proofs.valQ (Fir.Soft.rnd24 n d) - (n : ℚ) / d| ≤ 1 / 2 ^ 24 * ((n : ℚ) / d) :=
  Fir.Proofs.rnd24_relerr n d hn hd hn2 hd2 hnormal

/-- the executable lane model used by the correspondence check gives 0 for alpha = 0 -/
theorem simd_div16_zero_alpha (c : Nat) : Fir.Simd.simdDiv16 c 0 = 0 := by simp [Fir.Simd.simdDiv16]

/-- the four 16-bit SIMD divide lanes are the ones the theorem was written against: one `mul_ps` by
    65535.0, one `div_ps`, `min_ps`, the `cmpneq_ps` zero mask and `cvtps_epi32` per vector, nothing else
    (multiset of arithmetic intrinsics re-extracted from the source on every run) -/
theorem simd_div16_source_as_modelled : Fir.Gen.simdDiv16Skeleton = [
  ("src/alpha/u16x2/sse4.rs::divide_alpha_4_pixels", "set1_ps(65535.0) and_ps cmpneq_ps cvtepi32_ps cvtepi32_ps cvtps_epi32 div_ps min_ps mul_ps"),
  ("src/alpha/u16x2/avx2.rs::divide_alpha_8_pixels", "set1_ps(65535.0) and_ps cmpneq_ps cvtepi32_ps cvtepi32_ps cvtps_epi32 div_ps min_ps mul_ps"),
  ("src/alpha/u16x4/sse4.rs::divide_alpha_2_pixels", "set1_ps(65535.0) and_ps and_ps cmpneq_ps cmpneq_ps cvtepi32_ps cvtepi32_ps cvtepi32_ps cvtepi32_ps cvtps_epi32 cvtps_epi32 div_ps div_ps min_ps min_ps mul_ps mul_ps packus_epi32"),
  ("src/alpha/u16x4/avx2.rs::divide_alpha_4_pixels", "set1_ps(65535.0) and_ps and_ps cmpneq_ps cmpneq_ps cvtepi32_ps cvtepi32_ps cvtepi32_ps cvtepi32_ps cvtps_epi32 cvtps_epi32 div_ps div_ps min_ps min_ps mul_ps mul_ps packus_epi32")] := by rfl

/-! ### float formats: a re-associated f64 sum -/

open Fir.Flt in
/-- I32 / F32 kernels accumulate rounded products in f64: the portable kernel as a left comb, the SIMD
    kernels in two or four lanes joined by a horizontal add.  Any two such summation orders over the same
    products differ by at most `(γ(d) + γ(d'))·Σ|xᵢkᵢ|`, `γ(d) = (1+u)^(d+1) − 1`, for every rounding with
    relative error `u` (2^-53 for binary64) - "the f32 rounding of a re-associated f64 sum" -/
theorem reassoc_err (fl : ℚ → ℚ) (u : ℚ) (hu : 0 ≤ u) (hfl : RelErr fl u) (x k : ℕ → ℚ) (t t' : Shape)
    (hperm : t.leaves.Perm t'.leaves) :
    |t.eval fl x k - t'.eval fl x k| ≤ (gam u t.depth + gam u t'.depth) * t.absSum x k :=
  Fir.Flt.reassoc_err fl u hu hfl x k t t' hperm

open Fir.Flt in
/-- the portable loop `ss = 0.0; ss += x as f64 * k` *is* such a tree: the left comb over the taps -/
theorem native_loop_is_comb (fl : ℚ → ℚ) (ks xs : List ℚ) (hlen : ks.length = xs.length) (j : ℕ) (t : Shape)
    (x k : ℕ → ℚ) (hx : ∀ i, i < xs.length → x (j + i) = xs.getD i 0) (hk : ∀ i, i < ks.length → k (j + i) = ks.getD i 0) :
    accF fl ks xs (t.eval fl x k) = (comb ks.length j t).eval fl x k :=
  Fir.Flt.accF_eq_comb fl ks xs hlen j t x k hx hk

/-! ### non-vacuity (16-bit lane): exact values meet the rounding hypotheses; the soft-float lane agrees -/
example : Fir.Simd.simdDiv16 300 200 = 65535 ∧ Fir.Simd.simdDiv16 1234 4321 = 18716 ∧
    Fir.Gen.div_and_clip16 1234 (Fir.Gen.recip_alpha16 4321) = 18716 ∧ Fir.Simd.simdDiv16 40000 1 = 65535 := by decide
example : (0 : ℤ) ≤ 3 ∧ Fir.Spec.divFaithful 65535 2 43690 (3 : ℤ).toNat :=
  simd_div16_faithful 2 43690 (by norm_num) (by norm_num) (by norm_num) 131070 (131070 / 43690) 3
    (by norm_num) (by norm_num) (by norm_num [abs_le])

/-! ### non-vacuity -/
example : clip8 (300 * 2 ^ 14) 14 = 255 ∧ clip8 (-5) 3 = 0 ∧ clip8 (77 * 2 ^ 12 + 5) 12 = 77 := by decide

/-- the source of the SIMD 8-bit divide kernels is the one `Fir.Simd.simdDiv8` was written against:
    the same intrinsics in the same order with the same immediates and constants (extracted from
    src/alpha/u8x{2,4}/{sse4,avx2}.rs by the translator on every run) -/
theorem simd_div8_source_as_modelled : Fir.Gen.simdDiv8Skeleton = [
  ("src/alpha/u8x4/sse4.rs::divide_alpha_4_pixels", "set1_epi32(0xff000000u32 as i32) set1_ps(255.0 * 256.0) set1_epi16(0xff) cvtepi32_ps cvtps_epi32 div_ps min_epu16 mulhrs_epi16 min_epu16 mulhrs_epi16 packus_epi16"),
  ("src/alpha/u8x4/avx2.rs::divide_alpha_8_pixels", "set1_epi32(0xff000000u32 as i32) set1_ps(255.0 * 256.0) set1_epi16(0xff) cvtepi32_ps cvtps_epi32 div_ps min_epu16 mulhrs_epi16 min_epu16 mulhrs_epi16 packus_epi16"),
  ("src/alpha/u8x2/sse4.rs::divide_alpha_8_pixels", "set1_epi16(0xff00u16 as i16) set1_epi16(0xff) set1_ps(255.0 * 256.0) cvtepi32_ps cvtps_epi32 div_ps cvtepi32_ps cvtps_epi32 div_ps mulhrs_epi16 min_epu16"),
  ("src/alpha/u8x2/avx2.rs::divide_alpha_16_pixels", "set1_epi16(0xff00u16 as i16) set1_epi16(0xff) set1_ps(255.0 * 256.0) cvtepi32_ps cvtps_epi32 div_ps cvtepi32_ps cvtps_epi32 div_ps mulhrs_epi16 min_epu16")] := by rfl

/-! ### the premises about rounding discharged for IEEE-754 round-to-nearest-even (`Fir.Ieee.flP`) -/

section IeeeInstances
open Fir.Ieee Fir.Flt
theorem reassoc_err_ieee (x k : ℕ → ℚ) (t t' : Shape) (hperm : t.leaves.Perm t'.leaves) :
    |t.eval (flP 53) x k - t'.eval (flP 53) x k| ≤ (gam (1 / 2 ^ 53) t.depth + gam (1 / 2 ^ 53) t'.depth) * t.absSum x k :=
  reassoc_err (flP 53) (1 / 2 ^ 53) (by positivity) (flP_relErr 53 (by norm_num)) x k t t' hperm
end IeeeInstances

/-! ### SIMD kernels down to the bytes of their registers.  RGBA8: the SSE4.1 one-row kernel of U8x4

    `Fir.SimdU8x4.pixel` follows `horiz_convolution_one_row` of src/convolution/u8x4/sse4.rs instruction by
    instruction: 16-byte loads, `_mm_shuffle_epi8` with the seven masks `sh1 .. sh7` (re-extracted from the source
    on every run), `_mm_madd_epi16`, `_mm_add_epi32`, the 8 / 4 / 2 / 1 coefficient steps, `srai`, `packs`,
    `packus`. -/

/-- for every precision, every coefficient list (every remainder branch) and every source row the SIMD kernel
    stores exactly the four bytes of the portable kernel: `clip8(2^(p-1) + Σ src[start+i].c · k[i])` -/
theorem u8x4_sse4_one_row_eq_portable (p : Nat) (hp : p < 32) (row : List Int) (start : Nat) (ks : List Int) :
    Fir.SimdU8x4.pixel p row start ks
      = [clip8 (2 ^ (p - 1) + Fir.SimdU8x4.dotC row 0 ks start) p, clip8 (2 ^ (p - 1) + Fir.SimdU8x4.dotC row 1 ks start) p,
         clip8 (2 ^ (p - 1) + Fir.SimdU8x4.dotC row 2 ks start) p, clip8 (2 ^ (p - 1) + Fir.SimdU8x4.dotC row 3 ks start) p] :=
  Fir.Proofs.u8x4_sse4_pixel_eq_portable p hp row start ks

/-- in the vocabulary of the portable model: channel `c` is `Fir.passInt .u8` of the same coefficients and the
    same window of samples (bytes 0..255, coefficients in the i16 range) -/
theorem u8x4_sse4_one_row_eq_passInt (p : Nat) (hp : p < 32) (row : List Int) (start : Nat) (ks : List Int) (c : Nat) (hc : c < 4)
    (hk : ∀ k ∈ ks, -32768 ≤ k ∧ k ≤ 32767) (hb : ∀ i, 0 ≤ row.getD i 0 ∧ row.getD i 0 ≤ 255) :
    (Fir.SimdU8x4.pixel p row start ks).getD c 0
      = passInt .u8 ks ((List.range ks.length).map fun i => row.getD (4 * (start + i) + c) 0) p :=
  Fir.Proofs.u8x4_sse4_pixel_eq_passInt p hp row start ks c hc hk hb

/-- the kernel in the source is the one modelled: every intrinsic / helper call with its arguments, in order
    (the masks themselves are not pinned - they are *used* by the model, so a changed mask changes the theorem) -/
theorem u8x4_sse4_one_row_source_as_modelled : Fir.Gen.u8x4_sse4_one_row_skeleton =
    "_mm_set1_epi32(1 << (PRECISION - 1)) ; chunks_exact(8) ; remainder() ; simd_utils::loadu_si128(k, 0) ; simd_utils::loadu_si128(src_row, x) ; _mm_shuffle_epi8(source, sh1) ; _mm_shuffle_epi8(ksource, sh2) ; _mm_add_epi32(sss, _mm_madd_epi16(pix, mmk)) ; _mm_shuffle_epi8(source, sh3) ; _mm_shuffle_epi8(ksource, sh4) ; _mm_add_epi32(sss, _mm_madd_epi16(pix, mmk)) ; simd_utils::loadu_si128(src_row, x + 4) ; _mm_shuffle_epi8(source, sh1) ; _mm_shuffle_epi8(ksource, sh5) ; _mm_add_epi32(sss, _mm_madd_epi16(pix, mmk)) ; _mm_shuffle_epi8(source, sh3) ; _mm_shuffle_epi8(ksource, sh6) ; _mm_add_epi32(sss, _mm_madd_epi16(pix, mmk)) ; chunks_exact(4) ; remainder() ; simd_utils::loadu_si128(src_row, x) ; simd_utils::loadl_epi64(k, 0) ; _mm_shuffle_epi8(source, sh1) ; _mm_shuffle_epi8(ksource, sh2) ; _mm_add_epi32(sss, _mm_madd_epi16(pix, mmk)) ; _mm_shuffle_epi8(source, sh3) ; _mm_shuffle_epi8(ksource, sh4) ; _mm_add_epi32(sss, _mm_madd_epi16(pix, mmk)) ; chunks_exact(2) ; remainder() ; simd_utils::mm_load_and_clone_i16x2(k) ; simd_utils::loadl_epi64(src_row, x) ; _mm_shuffle_epi8(source, sh7) ; _mm_add_epi32(sss, _mm_madd_epi16(pix, mmk)) ; first() ; simd_utils::mm_cvtepu8_epi32(src_row, x) ; _mm_set1_epi32(k as i32) ; _mm_add_epi32(sss, _mm_madd_epi16(pix, mmk)) ; _mm_srai_epi32::<PRECISION>(sss) ; _mm_packs_epi32(sss, sss) ; _mm_cvtsi128_si32(_mm_packus_epi16(sss, sss))" := by rfl

example : Fir.SimdU8x4.pixel 12 [10, 20, 30, 40, 50, 60, 70, 80, 90, 100, 110, 120] 0 [2048, 1024, 1024] = [40, 50, 60, 70] := by
  rw [u8x4_sse4_one_row_eq_portable 12 (by norm_num)]; decide

/-! ### RGBA8: the SSE4.1 four-row kernel of U8x4 (`horiz_convolution_four_rows`) -/

/-- every row of a four-row block is computed exactly like the portable kernel (masks `mask_lo`, `mask_hi`, `mask`
    re-extracted from the source; 4 / 2 / 1 coefficient steps) -/
theorem u8x4_sse4_four_rows_eq_portable (p : Nat) (hp : p < 32) (row : List Int) (start : Nat) (ks : List Int) :
    Fir.SimdU8x4.pixelR p row start ks
      = [clip8 (2 ^ (p - 1) + Fir.SimdU8x4.dotC row 0 ks start) p, clip8 (2 ^ (p - 1) + Fir.SimdU8x4.dotC row 1 ks start) p,
         clip8 (2 ^ (p - 1) + Fir.SimdU8x4.dotC row 2 ks start) p, clip8 (2 ^ (p - 1) + Fir.SimdU8x4.dotC row 3 ks start) p] :=
  Fir.Proofs.u8x4_sse4_four_rows_pixel_eq_portable p hp row start ks

/-- so the whole SSE4.1 horizontal pass for U8x4 - four-row blocks and leftover rows alike - stores, for every
    destination pixel, the bytes of the portable pass: which of the two kernels handles a row is invisible -/
theorem u8x4_sse4_four_rows_eq_one_row (p : Nat) (hp : p < 32) (row : List Int) (start : Nat) (ks : List Int) :
    Fir.SimdU8x4.pixelR p row start ks = Fir.SimdU8x4.pixel p row start ks :=
  Fir.Proofs.u8x4_sse4_four_rows_eq_one_row p hp row start ks

theorem u8x4_sse4_four_rows_source_as_modelled : Fir.Gen.u8x4_sse4_four_rows_skeleton =
    "_mm_set1_epi32(1 << (PRECISION - 1)) ; chunks_exact(4) ; remainder() ; simd_utils::mm_load_and_clone_i16x2(k) ; simd_utils::mm_load_and_clone_i16x2(&k[2..]) ; simd_utils::loadu_si128(src_rows[0], x) ; _mm_shuffle_epi8(source, mask_lo) ; _mm_add_epi32(sss0, _mm_madd_epi16(pix, mmk_lo)) ; _mm_shuffle_epi8(source, mask_hi) ; _mm_add_epi32(sss0, _mm_madd_epi16(pix, mmk_hi)) ; simd_utils::loadu_si128(src_rows[1], x) ; _mm_shuffle_epi8(source, mask_lo) ; _mm_add_epi32(sss1, _mm_madd_epi16(pix, mmk_lo)) ; _mm_shuffle_epi8(source, mask_hi) ; _mm_add_epi32(sss1, _mm_madd_epi16(pix, mmk_hi)) ; simd_utils::loadu_si128(src_rows[2], x) ; _mm_shuffle_epi8(source, mask_lo) ; _mm_add_epi32(sss2, _mm_madd_epi16(pix, mmk_lo)) ; _mm_shuffle_epi8(source, mask_hi) ; _mm_add_epi32(sss2, _mm_madd_epi16(pix, mmk_hi)) ; simd_utils::loadu_si128(src_rows[3], x) ; _mm_shuffle_epi8(source, mask_lo) ; _mm_add_epi32(sss3, _mm_madd_epi16(pix, mmk_lo)) ; _mm_shuffle_epi8(source, mask_hi) ; _mm_add_epi32(sss3, _mm_madd_epi16(pix, mmk_hi)) ; chunks_exact(2) ; remainder() ; simd_utils::mm_load_and_clone_i16x2(k) ; simd_utils::loadl_epi64(src_rows[0], x) ; _mm_shuffle_epi8(pix, mask) ; _mm_add_epi32(sss0, _mm_madd_epi16(pix, mmk)) ; simd_utils::loadl_epi64(src_rows[1], x) ; _mm_shuffle_epi8(pix, mask) ; _mm_add_epi32(sss1, _mm_madd_epi16(pix, mmk)) ; simd_utils::loadl_epi64(src_rows[2], x) ; _mm_shuffle_epi8(pix, mask) ; _mm_add_epi32(sss2, _mm_madd_epi16(pix, mmk)) ; simd_utils::loadl_epi64(src_rows[3], x) ; _mm_shuffle_epi8(pix, mask) ; _mm_add_epi32(sss3, _mm_madd_epi16(pix, mmk)) ; first() ; _mm_set1_epi32(k as i32) ; simd_utils::mm_cvtepu8_epi32(src_rows[0], x) ; _mm_add_epi32(sss0, _mm_madd_epi16(pix, mmk)) ; simd_utils::mm_cvtepu8_epi32(src_rows[1], x) ; _mm_add_epi32(sss1, _mm_madd_epi16(pix, mmk)) ; simd_utils::mm_cvtepu8_epi32(src_rows[2], x) ; _mm_add_epi32(sss2, _mm_madd_epi16(pix, mmk)) ; simd_utils::mm_cvtepu8_epi32(src_rows[3], x) ; _mm_add_epi32(sss3, _mm_madd_epi16(pix, mmk)) ; _mm_srai_epi32::<PRECISION>(sss0) ; _mm_srai_epi32::<PRECISION>(sss1) ; _mm_srai_epi32::<PRECISION>(sss2) ; _mm_srai_epi32::<PRECISION>(sss3) ; _mm_packs_epi32(sss0, sss0) ; _mm_packs_epi32(sss1, sss1) ; _mm_packs_epi32(sss2, sss2) ; _mm_packs_epi32(sss3, sss3) ; _mm_cvtsi128_si32(_mm_packus_epi16(sss0, sss0)) ; _mm_cvtsi128_si32(_mm_packus_epi16(sss1, sss1)) ; _mm_cvtsi128_si32(_mm_packus_epi16(sss2, sss2)) ; _mm_cvtsi128_si32(_mm_packus_epi16(sss3, sss3))" := by rfl

/-! ### the AVX2 four-row kernel of the U8x4 horizontal pass

    `horiz_convolution_four_rows` of src/convolution/u8x4/avx2.rs keeps two rows in one 256-bit register, one per
    128-bit half (`_mm256_inserti128_si256::<1>`), and applies to both halves the instructions the SSE4.1 kernel applies
    to one row: `_mm256_shuffle_epi8` shuffles each half with the matching half of its mask, `madd` / `add` / `srai` /
    `packs` / `packus` act per half, `_mm256_extracti128_si256` reads the halves back (Intel's definitions - the one
    modelling assumption).  Both halves of both masks are the masks of the SSE4.1 kernel (below, re-extracted on every
    run), the coefficient steps are the same 4 / 2 / 1, so every row of the AVX2 kernel is `Fir.SimdU8x4.pixelR` and
    `u8x4_sse4_four_rows_eq_portable` is its theorem too. -/

theorem u8x4_avx2_four_rows_masks :
    Fir.Gen.u8x4_avx2_four_sh1_lo = Fir.Gen.u8x4_sse4_four_mask_lo ∧ Fir.Gen.u8x4_avx2_four_sh1_hi = Fir.Gen.u8x4_sse4_four_mask_lo ∧
    Fir.Gen.u8x4_avx2_four_sh2_lo = Fir.Gen.u8x4_sse4_four_mask_hi ∧ Fir.Gen.u8x4_avx2_four_sh2_hi = Fir.Gen.u8x4_sse4_four_mask_hi ∧
    Fir.Gen.u8x4_sse4_four_mask = Fir.Gen.u8x4_sse4_four_mask_lo := by decide

theorem u8x4_avx2_four_rows_source_as_modelled : Fir.Gen.u8x4_avx2_four_rows_skeleton =
    "_mm256_setzero_si256 _mm256_set1_epi32 chunks_exact remainder simd_utils::mm256_load_and_clone_i16x2 simd_utils::mm256_load_and_clone_i16x2 _mm256_inserti128_si256::<1> _mm256_castsi128_si256 simd_utils::loadu_si128 simd_utils::loadu_si128 _mm256_shuffle_epi8 _mm256_add_epi32 _mm256_madd_epi16 _mm256_shuffle_epi8 _mm256_add_epi32 _mm256_madd_epi16 _mm256_inserti128_si256::<1> _mm256_castsi128_si256 simd_utils::loadu_si128 simd_utils::loadu_si128 _mm256_shuffle_epi8 _mm256_add_epi32 _mm256_madd_epi16 _mm256_shuffle_epi8 _mm256_add_epi32 _mm256_madd_epi16 chunks_exact remainder simd_utils::mm256_load_and_clone_i16x2 _mm256_inserti128_si256::<1> _mm256_castsi128_si256 simd_utils::loadl_epi64 simd_utils::loadl_epi64 _mm256_shuffle_epi8 _mm256_add_epi32 _mm256_madd_epi16 _mm256_inserti128_si256::<1> _mm256_castsi128_si256 simd_utils::loadl_epi64 simd_utils::loadl_epi64 _mm256_shuffle_epi8 _mm256_add_epi32 _mm256_madd_epi16 first _mm256_set1_epi32 _mm256_inserti128_si256::<1> _mm256_castsi128_si256 simd_utils::mm_cvtepu8_epi32 simd_utils::mm_cvtepu8_epi32 _mm256_add_epi32 _mm256_madd_epi16 _mm256_inserti128_si256::<1> _mm256_castsi128_si256 simd_utils::mm_cvtepu8_epi32 simd_utils::mm_cvtepu8_epi32 _mm256_add_epi32 _mm256_madd_epi16 _mm256_srai_epi32::<PRECISION> _mm256_srai_epi32::<PRECISION> _mm256_packs_epi32 _mm256_packs_epi32 _mm256_packus_epi16 _mm256_packus_epi16 _mm_cvtsi128_si32 _mm256_extracti128_si256::<0> _mm_cvtsi128_si32 _mm256_extracti128_si256::<1> _mm_cvtsi128_si32 _mm256_extracti128_si256::<0> _mm_cvtsi128_si32 _mm256_extracti128_si256::<1>" := by rfl

/-! ### the AVX2 one-row kernel of the U8x4 horizontal pass

    `horiz_convolution_one_row` of src/convolution/u8x4/avx2.rs, modelled with the two 128-bit halves of its 256-bit
    accumulator as a pair (masks `sh1 .. sh6` by halves and `sh7`, re-extracted from the source): 8 and 4 coefficients per
    step in the wide register - started at `1 << (PRECISION - 2)` per half and added at the end - then the 128-bit 2 / 1
    steps; fewer than 8 coefficients never enter the wide part. -/

/-- equal to the portable kernel for every coefficient list and every row, for precisions 2 .. 31 (precision 1 -
    a largest normalised weight of 8192 or more, far outside the documented head-room - would make the kernel
    evaluate `1 << (PRECISION - 2)` with a negative shift) -/
theorem u8x4_avx2_one_row_eq_portable (p : Nat) (hp2 : 2 ≤ p) (hp : p < 32) (row : List Int) (start : Nat) (ks : List Int) :
    Fir.SimdU8x4.pixelA p row start ks
      = [clip8 (2 ^ (p - 1) + Fir.SimdU8x4.dotC row 0 ks start) p, clip8 (2 ^ (p - 1) + Fir.SimdU8x4.dotC row 1 ks start) p,
         clip8 (2 ^ (p - 1) + Fir.SimdU8x4.dotC row 2 ks start) p, clip8 (2 ^ (p - 1) + Fir.SimdU8x4.dotC row 3 ks start) p] :=
  Fir.Proofs.u8x4_avx2_pixel_eq_portable p hp2 hp row start ks

/-- SSE4.1 and AVX2 store the same bytes (C02's statement, for this pass, as a theorem) -/
theorem u8x4_one_row_avx2_eq_sse4 (p : Nat) (hp2 : 2 ≤ p) (hp : p < 32) (row : List Int) (start : Nat) (ks : List Int) :
    Fir.SimdU8x4.pixelA p row start ks = Fir.SimdU8x4.pixel p row start ks := by
  rw [u8x4_avx2_one_row_eq_portable p hp2 hp, u8x4_sse4_one_row_eq_portable p hp]

theorem u8x4_avx2_one_row_source_as_modelled : Fir.Gen.u8x4_avx2_one_row_skeleton =
    "_mm_set1_epi32(1 << (PRECISION - 1)) ; _mm256_set1_epi32(1 << (PRECISION - 2)) ; chunks_exact(8) ; remainder() ; simd_utils::loadu_si128(k, 0) ; _mm256_insertf128_si256::<1>(_mm256_castsi128_si256(tmp), tmp) ; simd_utils::loadu_si256(src_row, x) ; _mm256_shuffle_epi8(source, sh1) ; _mm256_shuffle_epi8(ksource, sh2) ; _mm256_add_epi32(sss256, _mm256_madd_epi16(pix, mmk)) ; _mm256_shuffle_epi8(source, sh3) ; _mm256_shuffle_epi8(ksource, sh4) ; _mm256_add_epi32(sss256, _mm256_madd_epi16(pix, mmk)) ; chunks_exact(4) ; remainder() ; simd_utils::loadl_epi64(k, 0) ; _mm256_insertf128_si256::<1>(_mm256_castsi128_si256(tmp), tmp) ; simd_utils::loadu_si128(src_row, x) ; _mm256_insertf128_si256::<1>(_mm256_castsi128_si256(tmp), tmp) ; _mm256_shuffle_epi8(source, sh5) ; _mm256_shuffle_epi8(ksource, sh6) ; _mm256_add_epi32(sss256, _mm256_madd_epi16(pix, mmk)) ; _mm_add_epi32(_mm256_extracti128_si256::<0>(sss256), _mm256_extracti128_si256::<1>(sss256),) ; chunks_exact(2) ; remainder() ; simd_utils::mm_load_and_clone_i16x2(k) ; simd_utils::loadl_epi64(src_row, x) ; _mm_shuffle_epi8(source, sh7) ; _mm_add_epi32(sss, _mm_madd_epi16(pix, mmk)) ; first() ; simd_utils::mm_cvtepu8_epi32(src_row, x) ; _mm_set1_epi32(k as i32) ; _mm_add_epi32(sss, _mm_madd_epi16(pix, mmk)) ; _mm_srai_epi32::<PRECISION>(sss) ; _mm_packs_epi32(sss, sss) ; _mm_cvtsi128_si32(_mm_packus_epi16(sss, sss))" := by rfl

/-! ### RGB8: the SSE4.1 one-row kernel of U8x3 (`horiz_convolution_one_row` of src/convolution/u8x3/sse4.rs)

    Three bytes per pixel: the 16- and 8-byte loads cover fractions of pixels and the kernel leaves its 4- and
    2-coefficient loops as soon as such a load would pass the end of the row.  `Fir.SimdU8x3.pixel p w ..` keeps these
    data-dependent exits (`w` = row width); masks `pix_sh1`, `coef_sh1`, `pix_sh2`, `coef_sh2` from the source. -/

theorem u8x3_sse4_one_row_eq_portable (p w : Nat) (hp : p < 32) (row : List Int) (start : Nat) (ks : List Int) :
    Fir.SimdU8x3.pixel p w row start ks
      = [clip8 (2 ^ (p - 1) + Fir.SimdU8x3.dotC3 row 0 ks start) p, clip8 (2 ^ (p - 1) + Fir.SimdU8x3.dotC3 row 1 ks start) p,
         clip8 (2 ^ (p - 1) + Fir.SimdU8x3.dotC3 row 2 ks start) p] :=
  Fir.Proofs.u8x3_sse4_pixel_eq_portable p w hp row start ks

theorem u8x3_sse4_one_row_source_as_modelled : Fir.Gen.u8x3_sse4_one_row_skeleton =
    "_mm_set1_epi32(1 << (PRECISION - 1)) ; saturating_sub(5) ; chunks_exact(4) ; simd_utils::loadl_epi64(k, 0) ; simd_utils::loadu_si128(src_row, x) ; _mm_shuffle_epi8(source, pix_sh1) ; _mm_shuffle_epi8(ksource, coef_sh1) ; _mm_add_epi32(sss, _mm_madd_epi16(pix, mmk)) ; _mm_shuffle_epi8(source, pix_sh2) ; _mm_shuffle_epi8(ksource, coef_sh2) ; _mm_add_epi32(sss, _mm_madd_epi16(pix, mmk)) ; saturating_sub(2) ; chunks_exact(2) ; simd_utils::mm_load_and_clone_i16x2(k) ; simd_utils::loadl_epi64(src_row, x) ; _mm_shuffle_epi8(source, pix_sh1) ; _mm_add_epi32(sss, _mm_madd_epi16(pix, mmk)) ; split_at(x - x_start) ; simd_utils::mm_cvtepu8_epi32_u8x3(src_row, x) ; _mm_set1_epi32(k as i32) ; _mm_add_epi32(sss, _mm_madd_epi16(pix, mmk)) ; _mm_srai_epi32::<PRECISION>(sss) ; _mm_packs_epi32(sss, sss) ; _mm_cvtsi128_si32(_mm_packus_epi16(sss, sss)) | if x < max_x ; if x >= max_x ; if x < max_x ; if x >= max_x" := by rfl

/-! ### RGB8: the SSE4.1 four-row kernel of U8x3 -/

/-- per row, `horiz_convolution_four_rows` of src/convolution/u8x3/sse4.rs puts the same bytes into its registers as the
    one-row kernel (masks `sh_lo`, `sh_hi` = `pix_sh1`, `pix_sh2`; cloned coefficient pairs = shuffled coefficient
    register), under the same loop guards: it stores the same pixel, so the whole SSE4.1 horizontal pass of RGB8 equals
    the portable pass -/
theorem u8x3_sse4_four_rows_eq_portable (p w : Nat) (hp : p < 32) (row : List Int) (start : Nat) (ks : List Int) :
    Fir.SimdU8x3.pixelR p w row start ks
      = [clip8 (2 ^ (p - 1) + Fir.SimdU8x3.dotC3 row 0 ks start) p, clip8 (2 ^ (p - 1) + Fir.SimdU8x3.dotC3 row 1 ks start) p,
         clip8 (2 ^ (p - 1) + Fir.SimdU8x3.dotC3 row 2 ks start) p] := by
  rw [Fir.Proofs.u8x3_sse4_four_rows_eq_one_row]
  exact Fir.Proofs.u8x3_sse4_pixel_eq_portable p w hp row start ks

theorem u8x3_sse4_four_rows_source_as_modelled : Fir.Gen.u8x3_sse4_four_rows_skeleton =
    "_mm_setzero_si128() ; _mm_set1_epi32(1 << (PRECISION - 1)) ; saturating_sub(5) ; chunks_exact(4) ; simd_utils::mm_load_and_clone_i16x2(k) ; simd_utils::mm_load_and_clone_i16x2(&k[2..]) ; simd_utils::loadu_si128(src_rows[i], x) ; _mm_shuffle_epi8(source, sh_lo) ; _mm_add_epi32(sss, _mm_madd_epi16(pix, mmk0)) ; _mm_shuffle_epi8(source, sh_hi) ; _mm_add_epi32(sss, _mm_madd_epi16(pix, mmk1)) ; saturating_sub(2) ; chunks_exact(2) ; simd_utils::mm_load_and_clone_i16x2(k) ; simd_utils::loadl_epi64(src_rows[i], x) ; _mm_shuffle_epi8(source, sh_lo) ; _mm_add_epi32(sss_a[i], _mm_madd_epi16(pix, mmk)) ; split_at(x - x_start) ; _mm_set1_epi32(k as i32) ; simd_utils::mm_cvtepu8_epi32_u8x3(src_rows[i], x) ; _mm_add_epi32(sss_a[i], _mm_madd_epi16(pix, mmk)) ; _mm_srai_epi32::<PRECISION>(sss_a[0]) ; _mm_srai_epi32::<PRECISION>(sss_a[1]) ; _mm_srai_epi32::<PRECISION>(sss_a[2]) ; _mm_srai_epi32::<PRECISION>(sss_a[3]) ; _mm_packs_epi32(sss_a[i], zero) ; _mm_cvtsi128_si32(_mm_packus_epi16(sss, zero)) | if x < max_x ; if x >= max_x ; if x < max_x ; if x >= max_x" := by rfl

/-! ### two-channel 8-bit images: the SSE4.1 horizontal kernels of U8x2 (src/convolution/u8x2/sse4.rs)

    Both kernels keep two 32-bit partial sums per channel, each started at `1 << (precision - 2)`, and join them with
    `i32::saturating_add` (`set_dst_pixel` / the end of `horiz_convolution_one_row`); the portable kernel keeps one wrapping
    `i32` per channel.  They agree for every coefficient list inside the `i32` headroom (`255 * Σ|k| + 2^(p-1) < 2^31`),
    which is what the normalizer guarantees (`Fir.C03.headroom_u8`: `p < PRECISION_BITS`, `Σ|k| ≤ 4 * 2^p`).  Every 8 / 4 / 2 / 1
    step of the four-row kernel and the 8 / 4 / gathered 1..3 steps of the one-row kernel are modelled lane by lane. -/

theorem u8x2_sse4_four_rows_eq_portable (p : Nat) (hp2 : 2 ≤ p) (row : List Int) (start : Nat) (ks : List Int)
    (hB : 255 * Fir.SimdU8x2.absSum ks + 2 ^ (p - 1) < (2 : Int) ^ 31) :
    Fir.SimdU8x2.pixelR p row start ks
      = [clip8 (2 ^ (p - 1) + Fir.SimdU8x2.dot2 row 0 ks start) p, clip8 (2 ^ (p - 1) + Fir.SimdU8x2.dot2 row 1 ks start) p] :=
  Fir.Proofs.U8x2.pixelR_eq_portable p hp2 row start ks hB

theorem u8x2_sse4_one_row_eq_portable (p : Nat) (hp2 : 2 ≤ p) (row : List Int) (start : Nat) (ks : List Int)
    (hB : 255 * Fir.SimdU8x2.absSum ks + 2 ^ (p - 1) < (2 : Int) ^ 31) :
    Fir.SimdU8x2.pixel p row start ks
      = [clip8 (2 ^ (p - 1) + Fir.SimdU8x2.dot2 row 0 ks start) p, clip8 (2 ^ (p - 1) + Fir.SimdU8x2.dot2 row 1 ks start) p] :=
  Fir.Proofs.U8x2.pixel_eq_portable p hp2 row start ks hB

/-- with the normalizer's own bounds (`precision < PRECISION_BITS`, translated; `Σ|k| ≤ 4 * 2^precision`) the saturating
    join is exact and both kernels of a pass give the same bytes -/
theorem u8x2_sse4_kernels_agree_normalized (p : Nat) (hp2 : 2 ≤ p) (hp : p < Fir.Gen.PRECISION_BITS) (row : List Int) (start : Nat)
    (ks : List Int) (hS : Fir.SimdU8x2.absSum ks ≤ 4 * 2 ^ p) :
    Fir.SimdU8x2.pixelR p row start ks = Fir.SimdU8x2.pixel p row start ks := by
  have hB : 255 * Fir.SimdU8x2.absSum ks + 2 ^ (p - 1) < (2 : Int) ^ 31 := Fir.Proofs.headroom (.inl rfl) hp hS
  rw [u8x2_sse4_four_rows_eq_portable p hp2 row start ks hB, u8x2_sse4_one_row_eq_portable p hp2 row start ks hB]

/-- the hypotheses are met by a concrete non-trivial case (precision 14, three coefficients with a negative lobe) -/
example : (2 ≤ 14) ∧ 255 * Fir.SimdU8x2.absSum [-1000, 18384, -1000] + 2 ^ (14 - 1) < (2 : Int) ^ 31 := by decide

theorem u8x2_sse4_source_as_modelled :
    Fir.Gen.u8x2_sse4_four_sh1 = [0, (-1), 2, (-1), 4, (-1), 6, (-1), 1, (-1), 3, (-1), 5, (-1), 7, (-1)] ∧
    Fir.Gen.u8x2_sse4_four_sh2 = [8, (-1), 10, (-1), 12, (-1), 14, (-1), 9, (-1), 11, (-1), 13, (-1), 15, (-1)] ∧
    Fir.Gen.u8x2_sse4_one_pix_sh1 = [0, (-1), 2, (-1), 1, (-1), 3, (-1), 4, (-1), 6, (-1), 5, (-1), 7, (-1)] ∧
    Fir.Gen.u8x2_sse4_one_coeff_sh1 = [0, 1, 2, 3, 0, 1, 2, 3, 4, 5, 6, 7, 4, 5, 6, 7] ∧
    Fir.Gen.u8x2_sse4_one_pix_sh2 = [8, (-1), 10, (-1), 9, (-1), 11, (-1), 12, (-1), 14, (-1), 13, (-1), 15, (-1)] ∧
    Fir.Gen.u8x2_sse4_one_coeff_sh2 = [8, 9, 10, 11, 8, 9, 10, 11, 12, 13, 14, 15, 12, 13, 14, 15] ∧
    Fir.Gen.u8x2_sse4_one_pix_sh3 = [0, (-1), 2, (-1), 1, (-1), 3, (-1), 4, (-1), 6, (-1), 5, (-1), 7, (-1)] ∧
    Fir.Gen.u8x2_sse4_four_rows_skeleton = "normalizer.precision() ; _mm_set1_epi32(1 << (precision - 2)) ; chunks_exact(8) ; remainder() ; simd_utils::ptr_i16_to_set1_epi64x(k, 0) ; simd_utils::ptr_i16_to_set1_epi64x(k, 4) ; simd_utils::loadu_si128(src_rows[i], x) ; _mm_shuffle_epi8(source, sh1) ; _mm_add_epi32(sss[i], _mm_madd_epi16(pix, mmk0)) ; _mm_shuffle_epi8(source, sh2) ; _mm_add_epi32(tmp_sum, _mm_madd_epi16(pix, mmk1)) ; chunks_exact(4) ; remainder() ; simd_utils::ptr_i16_to_set1_epi64x(k, 0) ; simd_utils::loadl_epi64(src_rows[i], x) ; _mm_shuffle_epi8(source, sh1) ; _mm_add_epi32(sss[i], _mm_madd_epi16(pix, mmk)) ; chunks_exact(2) ; remainder() ; simd_utils::mm_load_and_clone_i16x2(k) ; simd_utils::loadl_epi32(src_rows[i], x) ; _mm_shuffle_epi8(source, sh1) ; _mm_add_epi32(sss[i], _mm_madd_epi16(pix, mmk)) ; first() ; _mm_set1_epi32(k as i32) ; simd_utils::loadl_epi16(src_rows[i], x) ; _mm_shuffle_epi8(source, sh1) ; _mm_add_epi32(sss[i], _mm_madd_epi16(pix, mmk)) ; set_dst_pixel(sss[i], dst_rows[i], dst_x, normalizer)" ∧
    Fir.Gen.u8x2_sse4_one_row_skeleton = "normalizer.precision() ; _mm_set1_epi32(1 << (precision - 2)) ; chunks_exact(8) ; remainder() ; simd_utils::loadu_si128(k, 0) ; simd_utils::loadu_si128(src_row, x) ; _mm_shuffle_epi8(source, pix_sh1) ; _mm_shuffle_epi8(ksource, coeff_sh1) ; _mm_add_epi32(sss, _mm_madd_epi16(pix, mmk)) ; _mm_shuffle_epi8(source, pix_sh2) ; _mm_shuffle_epi8(ksource, coeff_sh2) ; _mm_add_epi32(sss, _mm_madd_epi16(pix, mmk)) ; chunks_exact(4) ; remainder() ; _mm_set_epi16(k[3], k[2], k[3], k[2], k[1], k[0], k[1], k[0]) ; simd_utils::loadl_epi64(src_row, x) ; _mm_shuffle_epi8(source, pix_sh3) ; _mm_add_epi32(sss, _mm_madd_epi16(pix, mmk)) ; is_empty() ; _mm_set_epi16(0, pixels[5], 0, pixels[4], pixels[3], pixels[1], pixels[2], pixels[0],) ; _mm_set_epi16(0, coeffs[2], 0, coeffs[2], coeffs[1], coeffs[0], coeffs[1], coeffs[0],) ; _mm_add_epi32(sss, _mm_madd_epi16(pix, mmk)) ; _mm_extract_epi64::<0>(sss) ; _mm_extract_epi64::<1>(sss) ; saturating_add((hi >> 32) as i32) ; saturating_add((hi & 0xffffffff) as i32) ; normalizer.clip(a32) ; normalizer.clip(l32) | coeffs[i] = coeff ; pixels[i * 2] = pixel[0] as i16 ; pixels[i * 2 + 1] = pixel[1] as i16 ; let a32 = ((lo >> 32) as i32).saturating_add((hi >> 32) as i32) ; let l32 = ((lo & 0xffffffff) as i32).saturating_add((hi & 0xffffffff) as i32) ; dst_row.get_unchecked_mut(dst_x).0 = [l8, a8]" ∧
    Fir.Gen.u8x2_sse4_set_dst_pixel = "let l32x2 = _mm_extract_epi64::<0>(raw) ; let a32x2 = _mm_extract_epi64::<1>(raw) ; let l32 = ((l32x2 >> 32) as i32).saturating_add((l32x2 & 0xffffffff) as i32) ; let a32 = ((a32x2 >> 32) as i32).saturating_add((a32x2 & 0xffffffff) as i32) ; let l8 = normalizer.clip(l32) ; let a8 = normalizer.clip(a32) ; d_row.get_unchecked_mut(dst_x).0 = [l8, a8]" := by
  refine ⟨rfl, rfl, rfl, rfl, rfl, rfl, rfl, rfl, rfl, rfl⟩

/-! ### two-channel 8-bit images on AVX2, four-row kernel (src/convolution/u8x2/avx2.rs)

    Two rows per 256-bit register, one per 128-bit half, with the SSE4.1 four-row kernel's instructions per half: both halves of
    both masks are the SSE4.1 masks, the call sequence and `set_dst_pixel` (the same saturating join) are pinned - so each of its rows
    is `Fir.SimdU8x2.pixelR`, to which `u8x2_sse4_four_rows_eq_portable` applies; the rows of four-row blocks are executed through
    that model against the AVX2 kernel's output. -/

theorem u8x2_avx2_four_rows_masks :
    Fir.Gen.u8x2_avx2_four_sh1_lo = Fir.Gen.u8x2_sse4_four_sh1 ∧ Fir.Gen.u8x2_avx2_four_sh1_hi = Fir.Gen.u8x2_sse4_four_sh1 ∧
    Fir.Gen.u8x2_avx2_four_sh2_lo = Fir.Gen.u8x2_sse4_four_sh2 ∧ Fir.Gen.u8x2_avx2_four_sh2_hi = Fir.Gen.u8x2_sse4_four_sh2 := by
  refine ⟨?_, ?_, ?_, ?_⟩ <;> decide

theorem u8x2_avx2_four_rows_source_as_modelled :
    Fir.Gen.u8x2_avx2_four_rows_skeleton = "normalizer.precision() ; _mm256_set1_epi32(1 << (precision - 2)) ; chunks_exact(8) ; remainder() ; simd_utils::ptr_i16_to_256set1_epi64x(k, 0) ; simd_utils::ptr_i16_to_256set1_epi64x(k, 4) ; _mm256_castsi128_si256(simd_utils::loadu_si128(src_rows[0], x)) ; simd_utils::loadu_si128(src_rows[1], x) ; _mm256_shuffle_epi8(source, sh1) ; _mm256_add_epi32(sss0, _mm256_madd_epi16(pix, mmk0)) ; _mm256_shuffle_epi8(source, sh2) ; _mm256_add_epi32(sss0, _mm256_madd_epi16(pix, mmk1)) ; _mm256_castsi128_si256(simd_utils::loadu_si128(src_rows[2], x)) ; simd_utils::loadu_si128(src_rows[3], x) ; _mm256_shuffle_epi8(source, sh1) ; _mm256_add_epi32(sss1, _mm256_madd_epi16(pix, mmk0)) ; _mm256_shuffle_epi8(source, sh2) ; _mm256_add_epi32(sss1, _mm256_madd_epi16(pix, mmk1)) ; chunks_exact(4) ; remainder() ; simd_utils::ptr_i16_to_256set1_epi64x(k, 0) ; _mm256_castsi128_si256(simd_utils::loadl_epi64(src_rows[0], x)) ; simd_utils::loadl_epi64(src_rows[1], x) ; _mm256_shuffle_epi8(source, sh1) ; _mm256_add_epi32(sss0, _mm256_madd_epi16(pix, mmk)) ; _mm256_castsi128_si256(simd_utils::loadl_epi64(src_rows[2], x)) ; simd_utils::loadl_epi64(src_rows[3], x) ; _mm256_shuffle_epi8(source, sh1) ; _mm256_add_epi32(sss1, _mm256_madd_epi16(pix, mmk)) ; chunks_exact(2) ; remainder() ; simd_utils::mm256_load_and_clone_i16x2(k) ; _mm256_castsi128_si256(simd_utils::loadl_epi32(src_rows[0], x)) ; simd_utils::loadl_epi32(src_rows[1], x) ; _mm256_shuffle_epi8(source, sh1) ; _mm256_add_epi32(sss0, _mm256_madd_epi16(pix, mmk)) ; _mm256_castsi128_si256(simd_utils::loadl_epi32(src_rows[2], x)) ; simd_utils::loadl_epi32(src_rows[3], x) ; _mm256_shuffle_epi8(source, sh1) ; _mm256_add_epi32(sss1, _mm256_madd_epi16(pix, mmk)) ; first() ; _mm256_set1_epi32(k as i32) ; _mm256_castsi128_si256(simd_utils::loadl_epi16(src_rows[0], x)) ; simd_utils::loadl_epi16(src_rows[1], x) ; _mm256_shuffle_epi8(source, sh1) ; _mm256_add_epi32(sss0, _mm256_madd_epi16(pix, mmk)) ; _mm256_castsi128_si256(simd_utils::loadl_epi16(src_rows[2], x)) ; simd_utils::loadl_epi16(src_rows[3], x) ; _mm256_shuffle_epi8(source, sh1) ; _mm256_add_epi32(sss1, _mm256_madd_epi16(pix, mmk)) ; _mm256_extracti128_si256::<0>(sss0) ; _mm256_extracti128_si256::<1>(sss0) ; set_dst_pixel(lo128, dst_rows[0], dst_x, normalizer) ; set_dst_pixel(hi128, dst_rows[1], dst_x, normalizer) ; _mm256_extracti128_si256::<0>(sss1) ; _mm256_extracti128_si256::<1>(sss1) ; set_dst_pixel(lo128, dst_rows[2], dst_x, normalizer) ; set_dst_pixel(hi128, dst_rows[3], dst_x, normalizer)" ∧
    Fir.Gen.u8x2_avx2_set_dst_pixel = Fir.Gen.u8x2_sse4_set_dst_pixel := by
  constructor
  · rfl
  · rfl

/-! ### two-channel 8-bit images on AVX2, one-row kernel (src/convolution/u8x2/avx2.rs)

    Fewer than 16 coefficients: the 128-bit kernel (4-steps and the gathered remainder).  Otherwise a 256-bit accumulator started at
    `1 << (precision - 3)`: 16-steps (the SSE4.1 8-step per half), at most one 8-step (one 128-bit load duplicated into both halves,
    masks `pix_sh3` / `coeff_sh3`: the first half of the SSE4.1 8-step in the low half, the second in the high half), the halves added,
    then the 128-bit steps; the same saturating join.  Equal to the portable kernel inside the i32 headroom, for precision ≥ 3. -/

theorem u8x2_avx2_one_row_eq_portable (p : Nat) (hp3 : 3 ≤ p) (row : List Int) (start : Nat) (ks : List Int)
    (hB : 255 * Fir.SimdU8x2.absSum ks + 2 ^ (p - 1) < (2 : Int) ^ 31) :
    Fir.SimdU8x2A.pixelA p row start ks
      = [clip8 (2 ^ (p - 1) + Fir.SimdU8x2.dot2 row 0 ks start) p, clip8 (2 ^ (p - 1) + Fir.SimdU8x2.dot2 row 1 ks start) p] :=
  Fir.Proofs.U8x2A.pixelA_eq_portable p hp3 row start ks hB

theorem u8x2_one_row_avx2_eq_sse4 (p : Nat) (hp3 : 3 ≤ p) (row : List Int) (start : Nat) (ks : List Int)
    (hB : 255 * Fir.SimdU8x2.absSum ks + 2 ^ (p - 1) < (2 : Int) ^ 31) :
    Fir.SimdU8x2A.pixelA p row start ks = Fir.SimdU8x2.pixel p row start ks := by
  rw [u8x2_avx2_one_row_eq_portable p hp3 row start ks hB, u8x2_sse4_one_row_eq_portable p (by omega) row start ks hB]

theorem u8x2_avx2_one_row_source_as_modelled :
    Fir.Gen.u8x2_avx2_one_row_skeleton = "normalizer.precision() ; _mm_set1_epi32(1 << (precision - 2)) ; _mm256_set1_epi32(1 << (precision - 3)) ; chunks_exact(16) ; remainder() ; simd_utils::loadu_si256(k, 0) ; simd_utils::loadu_si256(src_row, x) ; _mm256_shuffle_epi8(source, pix_sh1) ; _mm256_shuffle_epi8(ksource, coeff_sh1) ; _mm256_add_epi32(sss256, _mm256_madd_epi16(pix, mmk)) ; _mm256_shuffle_epi8(source, pix_sh2) ; _mm256_shuffle_epi8(ksource, coeff_sh2) ; _mm256_add_epi32(sss256, _mm256_madd_epi16(pix, mmk)) ; chunks_exact(8) ; remainder() ; simd_utils::loadu_si128(k, 0) ; _mm256_insertf128_si256::<1>(_mm256_castsi128_si256(tmp), tmp) ; simd_utils::loadu_si128(src_row, x) ; _mm256_insertf128_si256::<1>(_mm256_castsi128_si256(tmp), tmp) ; _mm256_shuffle_epi8(source, pix_sh3) ; _mm256_shuffle_epi8(ksource, coeff_sh3) ; _mm256_add_epi32(sss256, _mm256_madd_epi16(pix, mmk)) ; _mm_add_epi32(_mm256_extracti128_si256::<0>(sss256), _mm256_extracti128_si256::<1>(sss256),) ; chunks_exact(4) ; remainder() ; _mm_set_epi16(k[3], k[2], k[3], k[2], k[1], k[0], k[1], k[0]) ; simd_utils::loadl_epi64(src_row, x) ; _mm_shuffle_epi8(source, pix_sh4) ; _mm_add_epi32(sss, _mm_madd_epi16(pix, mmk)) ; is_empty() ; _mm_set_epi16(0, pixels[5], 0, pixels[4], pixels[3], pixels[1], pixels[2], pixels[0],) ; _mm_set_epi16(0, coeffs[2], 0, coeffs[2], coeffs[1], coeffs[0], coeffs[1], coeffs[0],) ; _mm_add_epi32(sss, _mm_madd_epi16(pix, mmk)) ; _mm_extract_epi64::<0>(sss) ; _mm_extract_epi64::<1>(sss) ; saturating_add((hi >> 32) as i32) ; saturating_add((hi & 0xffffffff) as i32) ; normalizer.clip(a32) ; normalizer.clip(l32) | if coeffs.len() < 16 ; coeffs[i] = coeff ; pixels[i * 2] = pixel[0] as i16 ; pixels[i * 2 + 1] = pixel[1] as i16 ; let a32 = ((lo >> 32) as i32).saturating_add((hi >> 32) as i32) ; let l32 = ((lo & 0xffffffff) as i32).saturating_add((hi & 0xffffffff) as i32) ; dst_row.get_unchecked_mut(dst_x).0 = [l8, a8]" := by rfl

/-! ### single-channel 8-bit images: the SSE4.1 horizontal kernels of U8 (src/convolution/u8x1/sse4.rs)

    8 pixels widened with `_mm_cvtepu8_epi16` and multiplied with 8 coefficients by `_mm_madd_epi16`, at most one 4-pixel
    step, the horizontal sum of the four lanes plus the rounding constant, a scalar remainder of 0..3 coefficients, the
    portable `Normalizer16::clip`.  The four-row kernel does per row what the one-row kernel does. -/

theorem u8x1_sse4_eq_portable (p : Nat) (row : List Int) (start : Nat) (ks : List Int) :
    Fir.SimdU8x1.pixel p row start ks = clip8 (2 ^ (p - 1) + Fir.SimdU8x1.dot1 row ks start) p :=
  Fir.Proofs.u8x1_sse4_pixel_eq_portable p row start ks

theorem u8x1_sse4_source_as_modelled :
    Fir.Gen.u8x1_sse4_one_row_skeleton = "_mm_setzero_si128() ; normalizer.precision() ; chunks_exact(8) ; remainder() ; _mm_loadu_si128(k.as_ptr() as *const __m128i) ; simd_utils::loadl_epi64(src_row, x) ; _mm_cvtepu8_epi16(pixels_u8x8) ; _mm_add_epi32(result_i32x4, _mm_madd_epi16(pixels_i16x8, coeffs_i16x8)) ; chunks_exact(4) ; remainder() ; next() ; simd_utils::loadl_epi64(k, 0) ; simd_utils::loadl_epi32(src_row, x) ; _mm_cvtepu8_epi16(pixels_u8x4) ; _mm_add_epi32(result_i32x4, _mm_madd_epi16(pixels_i16x4, coeffs_i16x4)) ; _mm_storeu_si128(buf.as_mut_ptr() as *mut __m128i, result_i32x4) ; sum() ; normalizer.clip(result_i32) | let initial = 1 << (normalizer.precision() - 1) ; let mut buf = [0, 0, 0, 0, initial]" ∧
    Fir.Gen.u8x1_sse4_four_rows_skeleton = "_mm_setzero_si128() ; normalizer.precision() ; chunks_exact(8) ; remainder() ; _mm_loadu_si128(k.as_ptr() as *const __m128i) ; simd_utils::loadl_epi64(src_rows[i], x) ; _mm_cvtepu8_epi16(pixels_u8x8) ; _mm_add_epi32(result_i32x4[i], _mm_madd_epi16(pixels_i16x8, coeffs_i16x8)) ; chunks_exact(4) ; remainder() ; next() ; simd_utils::loadl_epi64(k, 0) ; simd_utils::loadl_epi32(src_rows[i], x) ; _mm_cvtepu8_epi16(pixels_u8x4) ; _mm_add_epi32(result_i32x4[i], _mm_madd_epi16(pixels_i16x4, coeffs_i16x4)) ; _mm_storeu_si128(buf.as_mut_ptr() as *mut __m128i, v) ; sum() ; normalizer.clip(v) | let initial = 1 << (normalizer.precision() - 1) ; let mut buf = [0, 0, 0, 0, initial]" := by
  constructor <;> rfl

/-! ### single-channel 8-bit images on AVX2 (src/convolution/u8x1/avx2.rs)

    Eight 32-bit lanes started at `1 << (precision - 4)`; a 16-step is the SSE4.1 8-step in each 128-bit half (`_mm256_cvtepu8_epi16`,
    `_mm256_madd_epi16`), at most one 8-step goes to the low half, `hsum_i32x8_avx2` sums the lanes with wrapping additions, the last
    0..7 coefficients are scalar, the portable `Normalizer16::clip` finishes.  Both kernels do the same per row. -/

theorem u8x1_avx2_eq_portable (p : Nat) (hp4 : 4 ≤ p) (row : List Int) (start : Nat) (ks : List Int) :
    Fir.SimdU8x1A.pixelA p row start ks = clip8 (2 ^ (p - 1) + Fir.SimdU8x1.dot1 row ks start) p :=
  Fir.Proofs.U8x1A.pixelA_eq_portable p hp4 row start ks

theorem u8x1_avx2_eq_sse4 (p : Nat) (hp4 : 4 ≤ p) (row : List Int) (start : Nat) (ks : List Int) :
    Fir.SimdU8x1A.pixelA p row start ks = Fir.SimdU8x1.pixel p row start ks := by
  rw [u8x1_avx2_eq_portable p hp4, u8x1_sse4_eq_portable]

theorem u8x1_avx2_source_as_modelled :
    Fir.Gen.u8x1_avx2_one_row_skeleton = "_mm_setzero_si128() ; normalizer.precision() ; chunks_exact(16) ; remainder() ; _mm256_loadu_si256(k.as_ptr() as *const __m256i) ; simd_utils::loadu_si128(src_row, x) ; _mm256_cvtepu8_epi16(pixels_u8x16) ; _mm256_add_epi32(result_i32x8, _mm256_madd_epi16(pixels_i16x16, coeffs_i16x16),) ; chunks_exact(8) ; remainder() ; next() ; _mm_loadu_si128(k.as_ptr() as *const __m128i) ; simd_utils::loadl_epi64(src_row, x) ; _mm_cvtepu8_epi16(pixels_u8x8) ; _mm256_set_m128i(zero, _mm_madd_epi16(pixels_i16x8, coeffs_i16x8)) ; hsum_i32x8_avx2(result_i32x8) ; normalizer.clip(result_i32) | let initial = _mm256_set1_epi32(1 << (normalizer.precision() - 4)) ; result_i32 += src_row.get_unchecked(x).0 as i32 * coeff_i32" ∧
    Fir.Gen.u8x1_avx2_four_rows_skeleton = "_mm_setzero_si128() ; normalizer.precision() ; chunks_exact(16) ; remainder() ; _mm256_loadu_si256(k.as_ptr() as *const __m256i) ; simd_utils::loadu_si128(src_rows[i], x) ; _mm256_cvtepu8_epi16(pixels_u8x16) ; _mm256_add_epi32(result_i32x8x4[i], _mm256_madd_epi16(pixels_i16x16, coeffs_i16x16),) ; chunks_exact(8) ; remainder() ; next() ; _mm_loadu_si128(k.as_ptr() as *const __m128i) ; simd_utils::loadl_epi64(src_rows[i], x) ; _mm_cvtepu8_epi16(pixels_u8x8) ; _mm256_set_m128i(zero, _mm_madd_epi16(pixels_i16x8, coeffs_i16x8)) ; hsum_i32x8_avx2(v) ; normalizer.clip(v) | let initial = _mm256_set1_epi32(1 << (normalizer.precision() - 4)) ; result_i32x4[i] += src_rows[i].get_unchecked(x).0.to_owned() as i32 * coeff_i32" ∧
    Fir.Gen.u8x1_avx2_hsum8_skeleton = "hsum_i32x8_avx2(v: __m256i) ; _mm_add_epi32(_mm256_castsi256_si128(v), _mm256_extracti128_si256::<1>(v)) ; hsum_epi32_avx(sum128)" ∧
    Fir.Gen.u8x1_avx2_hsum4_skeleton = "hsum_epi32_avx(x: __m128i) ; _mm_unpackhi_epi64(x, x) ; _mm_add_epi32(hi64, x) ; _mm_shuffle_epi32::<I>(sum64) ; _mm_add_epi32(sum64, hi32) ; _mm_cvtsi128_si32(sum32) | const I: i32 = (2 << 6) | (3 << 4) | 1" := by
  refine ⟨rfl, rfl, rfl, rfl⟩

/-! ### the SSE4.1 vertical pass for 8-bit components (U8, U8x2, U8x3, U8x4), lane by lane

    `Fir.Model.SimdVertU8` follows `vert_convolution_into_one_row` of src/convolution/vertical_u8/sse4.rs: rows are taken
    two at a time, interleaved with `_mm_unpacklo/hi_epi8`, widened by unpacking with zero, multiplied with a cloned
    coefficient pair by `_mm_madd_epi16`; an odd last row goes through `_mm_set1_epi32(k as i32)`; the destination
    row is cut into chunks of 32, 8 and 4 components (the rest is the portable code).  `dotV rows ks x` is what the
    portable kernel accumulates for component `x`. -/

theorem vert_u8_sse4_chunk32_eq_portable (p : Nat) (hp : p < 32) (rows : List (List Int)) (ks : List Int)
    (h : ks.length ≤ rows.length) (x : Nat) :
    Fir.SimdVertU8.chunk32 p rows ks x = (List.range 32).map fun j => clip8 (2 ^ (p - 1) + Fir.SimdVertU8.dotV rows ks (x + j)) p :=
  Fir.Proofs.vert_u8_sse4_chunk32_eq p hp rows ks h x

theorem vert_u8_sse4_chunk8_eq_portable (p : Nat) (hp : p < 32) (rows : List (List Int)) (ks : List Int)
    (h : ks.length ≤ rows.length) (x : Nat) :
    Fir.SimdVertU8.chunk8 p rows ks x = (List.range 8).map fun j => clip8 (2 ^ (p - 1) + Fir.SimdVertU8.dotV rows ks (x + j)) p :=
  Fir.Proofs.vert_u8_sse4_chunk8_eq p hp rows ks h x

theorem vert_u8_sse4_chunk4_eq_portable (p : Nat) (hp : p < 32) (rows : List (List Int)) (ks : List Int)
    (h : ks.length ≤ rows.length) (x : Nat) :
    Fir.SimdVertU8.chunk4 p rows ks x = (List.range 4).map fun j => clip8 (2 ^ (p - 1) + Fir.SimdVertU8.dotV rows ks (x + j)) p :=
  Fir.Proofs.vert_u8_sse4_chunk4_eq p hp rows ks h x

theorem vert_u8_sse4_source_as_modelled : Fir.Gen.vert_u8_sse4_skeleton =
    "_mm_set1_epi32(1 << (PRECISION - 1)) ; chunks_exact_mut(32) ; chunks_exact(2) ; remainder() ; iter_2_rows(y_start, max_rows) ; simd_utils::mm_load_and_clone_i16x2(two_coeffs) ; simd_utils::loadu_si128(components1, src_x) ; simd_utils::loadu_si128(components2, src_x) ; _mm_unpacklo_epi8(source1, source2) ; _mm_unpacklo_epi8(source, _mm_setzero_si128()) ; _mm_add_epi32(sss0, _mm_madd_epi16(pix, mmk)) ; _mm_unpackhi_epi8(source, _mm_setzero_si128()) ; _mm_add_epi32(sss1, _mm_madd_epi16(pix, mmk)) ; _mm_unpackhi_epi8(source1, source2) ; _mm_unpacklo_epi8(source, _mm_setzero_si128()) ; _mm_add_epi32(sss2, _mm_madd_epi16(pix, mmk)) ; _mm_unpackhi_epi8(source, _mm_setzero_si128()) ; _mm_add_epi32(sss3, _mm_madd_epi16(pix, mmk)) ; simd_utils::loadu_si128(components1, src_x + 16) ; simd_utils::loadu_si128(components2, src_x + 16) ; _mm_unpacklo_epi8(source1, source2) ; _mm_unpacklo_epi8(source, _mm_setzero_si128()) ; _mm_add_epi32(sss4, _mm_madd_epi16(pix, mmk)) ; _mm_unpackhi_epi8(source, _mm_setzero_si128()) ; _mm_add_epi32(sss5, _mm_madd_epi16(pix, mmk)) ; _mm_unpackhi_epi8(source1, source2) ; _mm_unpacklo_epi8(source, _mm_setzero_si128()) ; _mm_add_epi32(sss6, _mm_madd_epi16(pix, mmk)) ; _mm_unpackhi_epi8(source, _mm_setzero_si128()) ; _mm_add_epi32(sss7, _mm_madd_epi16(pix, mmk)) ; first() ; iter_rows(y_last) ; _mm_set1_epi32(k as i32) ; simd_utils::loadu_si128(components, src_x) ; _mm_unpacklo_epi8(source1, _mm_setzero_si128()) ; _mm_unpacklo_epi8(source, _mm_setzero_si128()) ; _mm_add_epi32(sss0, _mm_madd_epi16(pix, mmk)) ; _mm_unpackhi_epi8(source, _mm_setzero_si128()) ; _mm_add_epi32(sss1, _mm_madd_epi16(pix, mmk)) ; _mm_unpackhi_epi8(source1, _mm_setzero_si128()) ; _mm_unpacklo_epi8(source, _mm_setzero_si128()) ; _mm_add_epi32(sss2, _mm_madd_epi16(pix, mmk)) ; _mm_unpackhi_epi8(source, _mm_setzero_si128()) ; _mm_add_epi32(sss3, _mm_madd_epi16(pix, mmk)) ; simd_utils::loadu_si128(components, src_x + 16) ; _mm_unpacklo_epi8(source1, _mm_setzero_si128()) ; _mm_unpacklo_epi8(source, _mm_setzero_si128()) ; _mm_add_epi32(sss4, _mm_madd_epi16(pix, mmk)) ; _mm_unpackhi_epi8(source, _mm_setzero_si128()) ; _mm_add_epi32(sss5, _mm_madd_epi16(pix, mmk)) ; _mm_unpackhi_epi8(source1, _mm_setzero_si128()) ; _mm_unpacklo_epi8(source, _mm_setzero_si128()) ; _mm_add_epi32(sss6, _mm_madd_epi16(pix, mmk)) ; _mm_unpackhi_epi8(source, _mm_setzero_si128()) ; _mm_add_epi32(sss7, _mm_madd_epi16(pix, mmk)) ; _mm_srai_epi32::<PRECISION>(sss0) ; _mm_srai_epi32::<PRECISION>(sss1) ; _mm_srai_epi32::<PRECISION>(sss2) ; _mm_srai_epi32::<PRECISION>(sss3) ; _mm_srai_epi32::<PRECISION>(sss4) ; _mm_srai_epi32::<PRECISION>(sss5) ; _mm_srai_epi32::<PRECISION>(sss6) ; _mm_srai_epi32::<PRECISION>(sss7) ; _mm_packs_epi32(sss0, sss1) ; _mm_packs_epi32(sss2, sss3) ; _mm_packus_epi16(sss0, sss2) ; _mm_storeu_si128(dst_ptr, sss0) ; _mm_packs_epi32(sss4, sss5) ; _mm_packs_epi32(sss6, sss7) ; _mm_packus_epi16(sss4, sss6) ; _mm_storeu_si128(dst_ptr, sss4) ; into_remainder() ; chunks_exact_mut(8) ; chunks_exact(2) ; remainder() ; iter_2_rows(y_start, max_rows) ; simd_utils::mm_load_and_clone_i16x2(two_coeffs) ; simd_utils::loadl_epi64(components1, src_x) ; simd_utils::loadl_epi64(components2, src_x) ; _mm_unpacklo_epi8(source1, source2) ; _mm_unpacklo_epi8(source, _mm_setzero_si128()) ; _mm_add_epi32(sss0, _mm_madd_epi16(pix, mmk)) ; _mm_unpackhi_epi8(source, _mm_setzero_si128()) ; _mm_add_epi32(sss1, _mm_madd_epi16(pix, mmk)) ; first() ; iter_rows(y_last) ; _mm_set1_epi32(k as i32) ; simd_utils::loadl_epi64(components, src_x) ; _mm_unpacklo_epi8(source1, _mm_setzero_si128()) ; _mm_unpacklo_epi8(source, _mm_setzero_si128()) ; _mm_add_epi32(sss0, _mm_madd_epi16(pix, mmk)) ; _mm_unpackhi_epi8(source, _mm_setzero_si128()) ; _mm_add_epi32(sss1, _mm_madd_epi16(pix, mmk)) ; _mm_srai_epi32::<PRECISION>(sss0) ; _mm_srai_epi32::<PRECISION>(sss1) ; _mm_packs_epi32(sss0, sss1) ; _mm_packus_epi16(sss0, sss0) ; _mm_storel_epi64(dst_ptr, sss0) ; into_remainder() ; chunks_exact_mut(4) ; chunks_exact(2) ; remainder() ; iter_2_rows(y_start, max_rows) ; simd_utils::mm_load_and_clone_i16x2(two_coeffs) ; simd_utils::mm_cvtsi32_si128_from_u8(components1, src_x) ; simd_utils::mm_cvtsi32_si128_from_u8(components2, src_x) ; _mm_unpacklo_epi8(source1, source2) ; _mm_unpacklo_epi8(source, _mm_setzero_si128()) ; _mm_add_epi32(sss, _mm_madd_epi16(pix, mmk)) ; first() ; iter_rows(y_last) ; simd_utils::mm_cvtepu8_epi32_from_u8(components, src_x) ; _mm_set1_epi32(k as i32) ; _mm_add_epi32(sss, _mm_madd_epi16(pix, mmk)) ; _mm_srai_epi32::<PRECISION>(sss) ; _mm_packs_epi32(sss, sss) ; _mm_cvtsi128_si32(_mm_packus_epi16(sss, sss)) ; into_remainder() ; native::convolution_by_u8(src_view, normalizer, 1 << (PRECISION - 1), dst_u8, src_x, y_start, coeffs,)" := by rfl

/-! ### the AVX2 vertical pass for 8-bit components

    src/convolution/vertical_u8/avx2.rs differs from the SSE4.1 file only in the 32-component step, which uses 256-bit
    registers.  Every 256-bit instruction it uses there (`_mm256_unpacklo/hi_epi8`, `_mm256_madd_epi16`,
    `_mm256_add_epi32`, `_mm256_srai_epi32`, `_mm256_packs_epi32`, `_mm256_packus_epi16`) works on the two 128-bit halves
    independently (Intel's definition - the one modelling assumption here), `loadu_si256` is two 16-byte loads and the
    store concatenates the halves: the step is two copies of the 128-bit computation on bytes `[x, x+16)` and
    `[x+16, x+32)`, which is `Fir.SimdVertU8.chunk32 = block16 x ++ block16 (x + 16)`.  The 8- and 4-component steps are the
    SSE4.1 code verbatim.  So the three theorems above are also the theorems of the AVX2 kernel; its call sequence is
    pinned here, and the driver executes the lane model against the AVX2 kernel as well. -/

theorem vert_u8_avx2_chunk32_eq_portable (p : Nat) (hp : p < 32) (rows : List (List Int)) (ks : List Int)
    (h : ks.length ≤ rows.length) (x : Nat) :
    Fir.SimdVertU8.block16 p rows ks x ++ Fir.SimdVertU8.block16 p rows ks (x + 16)
      = (List.range 32).map fun j => clip8 (2 ^ (p - 1) + Fir.SimdVertU8.dotV rows ks (x + j)) p :=
  Fir.Proofs.vert_u8_sse4_chunk32_eq p hp rows ks h x

theorem vert_u8_avx2_source_as_modelled : Fir.Gen.vert_u8_avx2_skeleton =
    "_mm_set1_epi32(1 << (PRECISION as u8 - 1)) ; _mm256_set1_epi32(1 << (PRECISION as u8 - 1)) ; chunks_exact_mut(32) ; chunks_exact(2) ; remainder() ; iter_2_rows(y_start, max_rows) ; simd_utils::mm256_load_and_clone_i16x2(two_coeffs) ; simd_utils::loadu_si256(components1, src_x) ; simd_utils::loadu_si256(components2, src_x) ; _mm256_unpacklo_epi8(source1, source2) ; _mm256_unpacklo_epi8(source, _mm256_setzero_si256()) ; _mm256_add_epi32(sss0, _mm256_madd_epi16(pix, mmk)) ; _mm256_unpackhi_epi8(source, _mm256_setzero_si256()) ; _mm256_add_epi32(sss1, _mm256_madd_epi16(pix, mmk)) ; _mm256_unpackhi_epi8(source1, source2) ; _mm256_unpacklo_epi8(source, _mm256_setzero_si256()) ; _mm256_add_epi32(sss2, _mm256_madd_epi16(pix, mmk)) ; _mm256_unpackhi_epi8(source, _mm256_setzero_si256()) ; _mm256_add_epi32(sss3, _mm256_madd_epi16(pix, mmk)) ; first() ; iter_rows(y_last) ; _mm256_set1_epi32(k as i32) ; simd_utils::loadu_si256(components, src_x) ; _mm256_setzero_si256() ; _mm256_unpacklo_epi8(source1, source2) ; _mm256_unpacklo_epi8(source, _mm256_setzero_si256()) ; _mm256_add_epi32(sss0, _mm256_madd_epi16(pix, mmk)) ; _mm256_unpackhi_epi8(source, _mm256_setzero_si256()) ; _mm256_add_epi32(sss1, _mm256_madd_epi16(pix, mmk)) ; _mm256_unpackhi_epi8(source1, _mm256_setzero_si256()) ; _mm256_unpacklo_epi8(source, _mm256_setzero_si256()) ; _mm256_add_epi32(sss2, _mm256_madd_epi16(pix, mmk)) ; _mm256_unpackhi_epi8(source, _mm256_setzero_si256()) ; _mm256_add_epi32(sss3, _mm256_madd_epi16(pix, mmk)) ; _mm256_srai_epi32::<PRECISION>(sss0) ; _mm256_srai_epi32::<PRECISION>(sss1) ; _mm256_srai_epi32::<PRECISION>(sss2) ; _mm256_srai_epi32::<PRECISION>(sss3) ; _mm256_packs_epi32(sss0, sss1) ; _mm256_packs_epi32(sss2, sss3) ; _mm256_packus_epi16(sss0, sss2) ; _mm256_storeu_si256(dst_ptr, sss0) ; into_remainder() ; chunks_exact_mut(8) ; chunks_exact(2) ; remainder() ; iter_2_rows(y_start, max_rows) ; simd_utils::mm_load_and_clone_i16x2(two_coeffs) ; simd_utils::loadl_epi64(components1, src_x) ; simd_utils::loadl_epi64(components2, src_x) ; _mm_unpacklo_epi8(source1, source2) ; _mm_unpacklo_epi8(source, _mm_setzero_si128()) ; _mm_add_epi32(sss0, _mm_madd_epi16(pix, mmk)) ; _mm_unpackhi_epi8(source, _mm_setzero_si128()) ; _mm_add_epi32(sss1, _mm_madd_epi16(pix, mmk)) ; first() ; iter_rows(y_last) ; _mm_set1_epi32(k as i32) ; simd_utils::loadl_epi64(components, src_x) ; _mm_setzero_si128() ; _mm_unpacklo_epi8(source1, source2) ; _mm_unpacklo_epi8(source, _mm_setzero_si128()) ; _mm_add_epi32(sss0, _mm_madd_epi16(pix, mmk)) ; _mm_unpackhi_epi8(source, _mm_setzero_si128()) ; _mm_add_epi32(sss1, _mm_madd_epi16(pix, mmk)) ; _mm_srai_epi32::<PRECISION>(sss0) ; _mm_srai_epi32::<PRECISION>(sss1) ; _mm_packs_epi32(sss0, sss1) ; _mm_packus_epi16(sss0, sss0) ; _mm_storel_epi64(dst_ptr, sss0) ; into_remainder() ; chunks_exact_mut(4) ; chunks_exact(2) ; remainder() ; iter_2_rows(y_start, max_rows) ; simd_utils::mm_load_and_clone_i16x2(two_coeffs) ; simd_utils::mm_cvtsi32_si128_from_u8(components1, src_x) ; simd_utils::mm_cvtsi32_si128_from_u8(components2, src_x) ; _mm_unpacklo_epi8(row1, row2) ; _mm_unpacklo_epi8(pixels_u8, _mm_setzero_si128()) ; _mm_add_epi32(sss, _mm_madd_epi16(pixels_i16, two_coeffs)) ; first() ; iter_rows(y_last) ; simd_utils::mm_cvtepu8_epi32_from_u8(components, src_x) ; _mm_set1_epi32(k as i32) ; _mm_add_epi32(sss, _mm_madd_epi16(pix, mmk)) ; _mm_srai_epi32::<PRECISION>(sss) ; _mm_packs_epi32(sss, sss) ; _mm_cvtsi128_si32(_mm_packus_epi16(sss, sss)) ; into_remainder() ; native::convolution_by_u8(src_view, normalizer, 1 << (PRECISION as u8 - 1), dst_u8, src_x, y_start, coeffs,)" := by rfl

/-! ### RGBA16: the SSE4.1 horizontal kernels of U16x4 (src/convolution/u16x4/sse4.rs)

    Two accumulators `[R, G]` and `[B, A]` of 64-bit lanes started at `1 << (precision - 1)`, two pixels per load, components
    shuffled into the low halves of the lanes (masks from the source), `_mm_mul_epi32` with `_mm_set1_epi64x(k as i64)`,
    `_mm_add_epi64`; a last single coefficient; each lane through the portable `Normalizer32::clip`. -/

theorem u16x4_sse4_eq_portable (p : Nat) (row : List Int) (start : Nat) (ks : List Int) :
    Fir.SimdU16x4.pixel p row start ks
      = [clip16 (2 ^ (p - 1) + Fir.SimdU16x4.dotC16 row 0 ks start) p, clip16 (2 ^ (p - 1) + Fir.SimdU16x4.dotC16 row 1 ks start) p,
         clip16 (2 ^ (p - 1) + Fir.SimdU16x4.dotC16 row 2 ks start) p, clip16 (2 ^ (p - 1) + Fir.SimdU16x4.dotC16 row 3 ks start) p] :=
  Fir.Proofs.U16x4.pixel_eq_portable p row start ks

theorem u16x4_sse4_four_rows_masks :
    Fir.Gen.u16x4_sse4_four_rg0 = Fir.Gen.u16x4_sse4_rg0 ∧ Fir.Gen.u16x4_sse4_four_rg1 = Fir.Gen.u16x4_sse4_rg1 ∧
    Fir.Gen.u16x4_sse4_four_ba0 = Fir.Gen.u16x4_sse4_ba0 ∧ Fir.Gen.u16x4_sse4_four_ba1 = Fir.Gen.u16x4_sse4_ba1 := by
  refine ⟨?_, ?_, ?_, ?_⟩ <;> decide

theorem u16x4_sse4_source_as_modelled :
    Fir.Gen.u16x4_sse4_one_row_skeleton = "normalizer.precision() ; _mm_set1_epi64x(half_error) ; _mm_set1_epi64x(half_error) ; chunks_exact(2) ; remainder() ; _mm_set1_epi64x(k[0] as i64) ; _mm_set1_epi64x(k[1] as i64) ; simd_utils::loadu_si128(src_row, x) ; _mm_shuffle_epi8(source, rg0_shuffle) ; _mm_add_epi64(rg_sum, _mm_mul_epi32(rg_i64x2, coeff0_i64x2)) ; _mm_shuffle_epi8(source, rg1_shuffle) ; _mm_add_epi64(rg_sum, _mm_mul_epi32(rg_i64x2, coeff1_i64x2)) ; _mm_shuffle_epi8(source, ba0_shuffle) ; _mm_add_epi64(ba_sum, _mm_mul_epi32(ba_i64x2, coeff0_i64x2)) ; _mm_shuffle_epi8(source, ba1_shuffle) ; _mm_add_epi64(ba_sum, _mm_mul_epi32(ba_i64x2, coeff1_i64x2)) ; first() ; _mm_set1_epi64x(k as i64) ; simd_utils::loadl_epi64(src_row, x) ; _mm_shuffle_epi8(source, rg0_shuffle) ; _mm_add_epi64(rg_sum, _mm_mul_epi32(rg_i64x2, coeff0_i64x2)) ; _mm_shuffle_epi8(source, ba0_shuffle) ; _mm_add_epi64(ba_sum, _mm_mul_epi32(ba_i64x2, coeff0_i64x2)) ; _mm_storeu_si128(rg_buf.as_mut_ptr() as *mut __m128i, rg_sum) ; _mm_storeu_si128(ba_buf.as_mut_ptr() as *mut __m128i, ba_sum) ; normalizer.clip(rg_buf[0]) ; normalizer.clip(rg_buf[1]) ; normalizer.clip(ba_buf[0]) ; normalizer.clip(ba_buf[1])" ∧
    Fir.Gen.u16x4_sse4_four_rows_skeleton = "normalizer.precision() ; _mm_set1_epi64x(half_error) ; _mm_set1_epi64x(half_error) ; chunks_exact(2) ; remainder() ; _mm_set1_epi64x(k[0] as i64) ; _mm_set1_epi64x(k[1] as i64) ; simd_utils::loadu_si128(src_rows[i], x) ; _mm_shuffle_epi8(source, rg0_shuffle) ; _mm_add_epi64(sum, _mm_mul_epi32(rg_i64x2, coeff0_i64x2)) ; _mm_shuffle_epi8(source, rg1_shuffle) ; _mm_add_epi64(sum, _mm_mul_epi32(rg_i64x2, coeff1_i64x2)) ; _mm_shuffle_epi8(source, ba0_shuffle) ; _mm_add_epi64(sum, _mm_mul_epi32(ba_i64x2, coeff0_i64x2)) ; _mm_shuffle_epi8(source, ba1_shuffle) ; _mm_add_epi64(sum, _mm_mul_epi32(ba_i64x2, coeff1_i64x2)) ; first() ; _mm_set1_epi64x(k as i64) ; simd_utils::loadl_epi64(src_rows[i], x) ; _mm_shuffle_epi8(source, rg0_shuffle) ; _mm_add_epi64(rg_sum[i], _mm_mul_epi32(rg_i64x2, coeff0_i64x2)) ; _mm_shuffle_epi8(source, ba0_shuffle) ; _mm_add_epi64(ba_sum[i], _mm_mul_epi32(ba_i64x2, coeff0_i64x2)) ; _mm_storeu_si128(rg_buf.as_mut_ptr() as *mut __m128i, rg_sum[i]) ; _mm_storeu_si128(ba_buf.as_mut_ptr() as *mut __m128i, ba_sum[i]) ; normalizer.clip(rg_buf[0]) ; normalizer.clip(rg_buf[1]) ; normalizer.clip(ba_buf[0]) ; normalizer.clip(ba_buf[1])" := by
  constructor <;> rfl

/-! ### RGBA16 on AVX2 (src/convolution/u16x4/avx2.rs)

    The four-row kernel keeps two rows per 256-bit register, one per 128-bit half, with the SSE4.1 kernel's instructions (every mask's
    halves are the SSE4.1 masks; call sequence pinned): each of its rows is `Fir.SimdU16x4.pixel`.  The one-row kernel puts pixels 0, 1 of
    a 4-step into the low half and 2, 3 into the high half, one pixel per half in its 2-step, the last coefficient into the low half,
    and joins the halves at the end (`rg_buf[0] + rg_buf[2] + half_error`); it is modelled as `Fir.SimdU16x4A.pixelA` and equals the
    portable kernel - hence the SSE4.1 kernel - for every precision, coefficient list and row. -/

theorem u16x4_avx2_one_row_eq_portable (p : Nat) (row : List Int) (start : Nat) (ks : List Int) :
    Fir.SimdU16x4A.pixelA p row start ks
      = [clip16 (2 ^ (p - 1) + Fir.SimdU16x4.dotC16 row 0 ks start) p, clip16 (2 ^ (p - 1) + Fir.SimdU16x4.dotC16 row 1 ks start) p,
         clip16 (2 ^ (p - 1) + Fir.SimdU16x4.dotC16 row 2 ks start) p, clip16 (2 ^ (p - 1) + Fir.SimdU16x4.dotC16 row 3 ks start) p] :=
  Fir.Proofs.U16x4A.pixelA_eq_portable p row start ks

theorem u16x4_one_row_avx2_eq_sse4 (p : Nat) (row : List Int) (start : Nat) (ks : List Int) :
    Fir.SimdU16x4A.pixelA p row start ks = Fir.SimdU16x4.pixel p row start ks := by
  rw [u16x4_avx2_one_row_eq_portable, u16x4_sse4_eq_portable]

theorem u16x4_avx2_four_rows_masks :
    Fir.Gen.u16x4_avx2_four_rg0_lo = Fir.Gen.u16x4_sse4_rg0 ∧ Fir.Gen.u16x4_avx2_four_rg0_hi = Fir.Gen.u16x4_sse4_rg0 ∧
    Fir.Gen.u16x4_avx2_four_rg1_lo = Fir.Gen.u16x4_sse4_rg1 ∧ Fir.Gen.u16x4_avx2_four_rg1_hi = Fir.Gen.u16x4_sse4_rg1 ∧
    Fir.Gen.u16x4_avx2_four_ba0_lo = Fir.Gen.u16x4_sse4_ba0 ∧ Fir.Gen.u16x4_avx2_four_ba0_hi = Fir.Gen.u16x4_sse4_ba0 ∧
    Fir.Gen.u16x4_avx2_four_ba1_lo = Fir.Gen.u16x4_sse4_ba1 ∧ Fir.Gen.u16x4_avx2_four_ba1_hi = Fir.Gen.u16x4_sse4_ba1 := by
  refine ⟨?_, ?_, ?_, ?_, ?_, ?_, ?_, ?_⟩ <;> decide

theorem u16x4_avx2_source_as_modelled :
    Fir.Gen.u16x4_avx2_one_row_skeleton = "normalizer.precision() ; _mm256_setzero_si256() ; _mm256_setzero_si256() ; chunks_exact(4) ; remainder() ; _mm256_set_epi64x(k[2] as i64, k[2] as i64, k[0] as i64, k[0] as i64) ; _mm256_set_epi64x(k[3] as i64, k[3] as i64, k[1] as i64, k[1] as i64) ; simd_utils::loadu_si256(src_row, x) ; _mm256_shuffle_epi8(source, rg02_shuffle) ; _mm256_add_epi64(rg_sum, _mm256_mul_epi32(rg_i64x4, coeff02_i64x4)) ; _mm256_shuffle_epi8(source, rg13_shuffle) ; _mm256_add_epi64(rg_sum, _mm256_mul_epi32(rg_i64x4, coeff13_i64x4)) ; _mm256_shuffle_epi8(source, ba02_shuffle) ; _mm256_add_epi64(ba_sum, _mm256_mul_epi32(ba_i64x4, coeff02_i64x4)) ; _mm256_shuffle_epi8(source, ba13_shuffle) ; _mm256_add_epi64(ba_sum, _mm256_mul_epi32(ba_i64x4, coeff13_i64x4)) ; chunks_exact(2) ; remainder() ; _mm256_set_epi64x(k[1] as i64, k[1] as i64, k[0] as i64, k[0] as i64) ; _mm256_set_m128i(simd_utils::loadl_epi64(src_row, x + 1), simd_utils::loadl_epi64(src_row, x),) ; _mm256_shuffle_epi8(source, rg02_shuffle) ; _mm256_add_epi64(rg_sum, _mm256_mul_epi32(rg_i64x4, coeff01_i64x4)) ; _mm256_shuffle_epi8(source, ba02_shuffle) ; _mm256_add_epi64(ba_sum, _mm256_mul_epi32(ba_i64x4, coeff01_i64x4)) ; first() ; _mm256_set_epi64x(0, 0, k as i64, k as i64) ; _mm256_set_m128i(_mm_setzero_si128(), simd_utils::loadl_epi64(src_row, x)) ; _mm256_shuffle_epi8(source, rg02_shuffle) ; _mm256_add_epi64(rg_sum, _mm256_mul_epi32(rg_i64x4, coeff_i64x4)) ; _mm256_shuffle_epi8(source, ba02_shuffle) ; _mm256_add_epi64(ba_sum, _mm256_mul_epi32(ba_i64x4, coeff_i64x4)) ; _mm256_storeu_si256(rg_buf.as_mut_ptr() as *mut __m256i, rg_sum) ; _mm256_storeu_si256(ba_buf.as_mut_ptr() as *mut __m256i, ba_sum) ; normalizer.clip(rg_buf[0] + rg_buf[2] + half_error) ; normalizer.clip(rg_buf[1] + rg_buf[3] + half_error) ; normalizer.clip(ba_buf[0] + ba_buf[2] + half_error) ; normalizer.clip(ba_buf[1] + ba_buf[3] + half_error)" ∧
    Fir.Gen.u16x4_avx2_four_rows_skeleton = "normalizer.precision() ; _mm256_set1_epi64x(half_error) ; _mm256_set1_epi64x(half_error) ; chunks_exact(2) ; remainder() ; _mm256_set1_epi64x(k[0] as i64) ; _mm256_set1_epi64x(k[1] as i64) ; _mm256_set_m128i(simd_utils::loadu_si128(src_rows[i * 2 + 1], x), simd_utils::loadu_si128(src_rows[i * 2], x),) ; _mm256_shuffle_epi8(source, rg0_shuffle) ; _mm256_add_epi64(sum, _mm256_mul_epi32(rg_i64x4, coeff0_i64x4)) ; _mm256_shuffle_epi8(source, rg1_shuffle) ; _mm256_add_epi64(sum, _mm256_mul_epi32(rg_i64x4, coeff1_i64x4)) ; _mm256_shuffle_epi8(source, ba0_shuffle) ; _mm256_add_epi64(sum, _mm256_mul_epi32(ba_i64x4, coeff0_i64x4)) ; _mm256_shuffle_epi8(source, ba1_shuffle) ; _mm256_add_epi64(sum, _mm256_mul_epi32(ba_i64x4, coeff1_i64x4)) ; first() ; _mm256_set1_epi64x(k as i64) ; _mm256_set_m128i(simd_utils::loadl_epi64(src_rows[i * 2 + 1], x), simd_utils::loadl_epi64(src_rows[i * 2], x),) ; _mm256_shuffle_epi8(source, rg0_shuffle) ; _mm256_add_epi64(sum, _mm256_mul_epi32(rg_i64x4, coeff0_i64x4)) ; _mm256_shuffle_epi8(source, ba0_shuffle) ; _mm256_add_epi64(sum, _mm256_mul_epi32(ba_i64x4, coeff0_i64x4)) ; _mm256_storeu_si256(rg_buf.as_mut_ptr() as *mut __m256i, rg_sum[i]) ; _mm256_storeu_si256(ba_buf.as_mut_ptr() as *mut __m256i, ba_sum[i]) ; normalizer.clip(rg_buf[0]) ; normalizer.clip(rg_buf[1]) ; normalizer.clip(ba_buf[0]) ; normalizer.clip(ba_buf[1]) ; normalizer.clip(rg_buf[2]) ; normalizer.clip(rg_buf[3]) ; normalizer.clip(ba_buf[2]) ; normalizer.clip(ba_buf[3])" := by
  constructor <;> rfl

/-! ### RGB16: the SSE4.1 horizontal kernels of U16x3 (src/convolution/u16x3/sse4.rs)

    Accumulators `rg = [R, G]` and `bb` (B of even / odd steps, summed at the end).  A 128-bit load covers two pixels and a third
    of the next, so the two-coefficient loop runs only when the window ends before the last pixel (`width - end_x >= 1`);
    otherwise, and for a last odd coefficient, pixels are read component by component.  The one-row kernel starts the lanes at
    `1 << (precision - 1)` / `1 << (precision - 2)`, the four-row kernel at zero (adding `half_error` at the end).  Both equal
    the portable kernel for every row width; the 128-bit loads stay inside the row (C03). -/

theorem u16x3_sse4_one_row_eq_portable (p w : Nat) (hp2 : 2 ≤ p) (row : List Int) (start : Nat) (ks : List Int) :
    Fir.SimdU16x3.pixel p w row start ks
      = [clip16 (2 ^ (p - 1) + Fir.SimdU16x3.dot3 row 0 ks start) p, clip16 (2 ^ (p - 1) + Fir.SimdU16x3.dot3 row 1 ks start) p,
         clip16 (2 ^ (p - 1) + Fir.SimdU16x3.dot3 row 2 ks start) p] :=
  Fir.Proofs.U16x3.pixel_eq_portable p w hp2 row start ks

theorem u16x3_sse4_four_rows_eq_portable (p w : Nat) (row : List Int) (start : Nat) (ks : List Int) :
    Fir.SimdU16x3.pixelR p w row start ks
      = [clip16 (2 ^ (p - 1) + Fir.SimdU16x3.dot3 row 0 ks start) p, clip16 (2 ^ (p - 1) + Fir.SimdU16x3.dot3 row 1 ks start) p,
         clip16 (2 ^ (p - 1) + Fir.SimdU16x3.dot3 row 2 ks start) p] :=
  Fir.Proofs.U16x3.pixelR_eq_portable p w row start ks

/-- every 128-bit load of the pair loop (16 bytes from pixel `x`, 6 bytes per pixel) lies inside the row of `w` pixels -/
theorem u16x3_sse4_loads_in_row (w start : Nat) (ks : List Int) :
    ∀ x ∈ Fir.SimdU16x3.loads w start ks, 6 * x + 16 ≤ 6 * w :=
  Fir.Proofs.U16x3.loads_in_row w start ks

/-- the load list is not empty in general: a window of 5 coefficients at pixel 2 of a row of 9 pixels loads at pixels 2 and 4 -/
example : Fir.SimdU16x3.loads 9 2 [1, 2, 3, 4, 5] = [2, 4] := by decide

theorem u16x3_sse4_four_rows_masks :
    Fir.Gen.u16x3_sse4_four_rg0 = Fir.Gen.u16x3_sse4_rg0 ∧ Fir.Gen.u16x3_sse4_four_rg1 = Fir.Gen.u16x3_sse4_rg1 ∧
    Fir.Gen.u16x3_sse4_four_bb = Fir.Gen.u16x3_sse4_bb := by
  refine ⟨?_, ?_, ?_⟩ <;> decide

theorem u16x3_sse4_source_as_modelled :
    Fir.Gen.u16x3_sse4_one_row_skeleton = "normalizer.precision() ; _mm_set1_epi64x(1 << (precision - 1)) ; _mm_set1_epi64x(1 << (precision - 2)) ; chunks_exact(2) ; remainder() ; _mm_set1_epi64x(k[0] as i64) ; _mm_set1_epi64x(k[1] as i64) ; _mm_set_epi64x(k[1] as i64, k[0] as i64) ; simd_utils::loadu_si128(src_row, x) ; _mm_shuffle_epi8(source, rg0_shuffle) ; _mm_add_epi64(rg_sum, _mm_mul_epi32(rg0_i64x2, coeff0_i64x2)) ; _mm_shuffle_epi8(source, rg1_shuffle) ; _mm_add_epi64(rg_sum, _mm_mul_epi32(rg1_i64x2, coeff1_i64x2)) ; _mm_shuffle_epi8(source, bb_shuffle) ; _mm_add_epi64(bb_sum, _mm_mul_epi32(bb_i64x2, coeff_i64x2)) ; _mm_set1_epi64x(k as i64) ; get_unchecked(x) ; _mm_set_epi64x(pixel.0[1] as i64, pixel.0[0] as i64) ; _mm_add_epi64(rg_sum, _mm_mul_epi32(rg_i64x2, coeff_i64x2)) ; _mm_set_epi64x(0, pixel.0[2] as i64) ; _mm_add_epi64(bb_sum, _mm_mul_epi32(bb_i64x2, coeff_i64x2)) ; _mm_storeu_si128(rg_buf.as_mut_ptr() as *mut __m128i, rg_sum) ; _mm_storeu_si128(bb_buf.as_mut_ptr() as *mut __m128i, bb_sum) ; normalizer.clip(rg_buf[0]) ; normalizer.clip(rg_buf[1]) ; normalizer.clip(bb_buf[0] + bb_buf[1]) | let width = src_row.len() ; let end_x = x + coeffs.len() ; if width - end_x >= 1 ; for &k in coeffs" ∧
    Fir.Gen.u16x3_sse4_four_rows_skeleton = "normalizer.precision() ; _mm_set1_epi8(0) ; _mm_set1_epi8(0) ; chunks_exact(2) ; remainder() ; _mm_set1_epi64x(k[0] as i64) ; _mm_set1_epi64x(k[1] as i64) ; _mm_set_epi64x(k[1] as i64, k[0] as i64) ; simd_utils::loadu_si128(src_rows[i], x) ; _mm_shuffle_epi8(source, rg0_shuffle) ; _mm_add_epi64(rg_sum[i], _mm_mul_epi32(rg0_i64x2, coeff0_i64x2)) ; _mm_shuffle_epi8(source, rg1_shuffle) ; _mm_add_epi64(rg_sum[i], _mm_mul_epi32(rg1_i64x2, coeff1_i64x2)) ; _mm_shuffle_epi8(source, bb_shuffle) ; _mm_add_epi64(bb_sum[i], _mm_mul_epi32(bb_i64x2, coeff_i64x2)) ; _mm_set1_epi64x(k as i64) ; get_unchecked(x) ; _mm_set_epi64x(pixel.0[1] as i64, pixel.0[0] as i64) ; _mm_add_epi64(rg_sum[i], _mm_mul_epi32(rg_i64x2, coeff_i64x2)) ; _mm_set_epi64x(0, pixel.0[2] as i64) ; _mm_add_epi64(bb_sum[i], _mm_mul_epi32(bb_i64x2, coeff_i64x2)) ; _mm_storeu_si128(rg_buf.as_mut_ptr() as *mut __m128i, rg_sum[i]) ; _mm_storeu_si128(bb_buf.as_mut_ptr() as *mut __m128i, bb_sum[i]) ; normalizer.clip(rg_buf[0] + half_error) ; normalizer.clip(rg_buf[1] + half_error) ; normalizer.clip(bb_buf[0] + bb_buf[1] + half_error) | let width = src_rows[0].len() ; let end_x = x + coeffs.len() ; if width - end_x >= 1 ; for &k in coeffs" := by
  constructor <;> rfl

/-! ### LA16: the SSE4.1 horizontal kernels of U16x2 (src/convolution/u16x2/sse4.rs)

    One accumulator `[L, A]` of 64-bit lanes started at `1 << (precision - 1)`; four pixels per load, each shuffled into the low
    halves of the lanes (masks `p0 .. p3` from the source), `_mm_mul_epi32` with `_mm_set1_epi64x(k as i64)`, `_mm_add_epi64`;
    at most one 2-coefficient step and one last coefficient; both lanes through the portable `Normalizer32::clip`. -/

theorem u16x2_sse4_eq_portable (p : Nat) (row : List Int) (start : Nat) (ks : List Int) :
    Fir.SimdU16x2.pixel p row start ks
      = [clip16 (2 ^ (p - 1) + Fir.SimdU16x2.dotLA row 0 ks start) p, clip16 (2 ^ (p - 1) + Fir.SimdU16x2.dotLA row 1 ks start) p] :=
  Fir.Proofs.U16x2.pixel_eq_portable p row start ks

theorem u16x2_sse4_four_rows_masks :
    Fir.Gen.u16x2_sse4_four_p0 = Fir.Gen.u16x2_sse4_p0 ∧ Fir.Gen.u16x2_sse4_four_p1 = Fir.Gen.u16x2_sse4_p1 ∧
    Fir.Gen.u16x2_sse4_four_p2 = Fir.Gen.u16x2_sse4_p2 ∧ Fir.Gen.u16x2_sse4_four_p3 = Fir.Gen.u16x2_sse4_p3 := by
  refine ⟨?_, ?_, ?_, ?_⟩ <;> decide

theorem u16x2_sse4_source_as_modelled :
    Fir.Gen.u16x2_sse4_one_row_skeleton = "normalizer.precision() ; _mm_set1_epi64x(half_error) ; chunks_exact(4) ; remainder() ; _mm_set1_epi64x(k[0] as i64) ; _mm_set1_epi64x(k[1] as i64) ; _mm_set1_epi64x(k[2] as i64) ; _mm_set1_epi64x(k[3] as i64) ; simd_utils::loadu_si128(src_row, x) ; _mm_shuffle_epi8(source, p0_shuffle) ; _mm_add_epi64(ll_sum, _mm_mul_epi32(p_i64x2, coeff0_i64x2)) ; _mm_shuffle_epi8(source, p1_shuffle) ; _mm_add_epi64(ll_sum, _mm_mul_epi32(p_i64x2, coeff1_i64x2)) ; _mm_shuffle_epi8(source, p2_shuffle) ; _mm_add_epi64(ll_sum, _mm_mul_epi32(p_i64x2, coeff2_i64x2)) ; _mm_shuffle_epi8(source, p3_shuffle) ; _mm_add_epi64(ll_sum, _mm_mul_epi32(p_i64x2, coeff3_i64x2)) ; chunks_exact(2) ; remainder() ; _mm_set1_epi64x(k[0] as i64) ; _mm_set1_epi64x(k[1] as i64) ; simd_utils::loadl_epi64(src_row, x) ; _mm_shuffle_epi8(source, p0_shuffle) ; _mm_add_epi64(ll_sum, _mm_mul_epi32(p_i64x2, coeff0_i64x2)) ; _mm_shuffle_epi8(source, p1_shuffle) ; _mm_add_epi64(ll_sum, _mm_mul_epi32(p_i64x2, coeff1_i64x2)) ; first() ; _mm_set1_epi64x(k as i64) ; simd_utils::loadl_epi32(src_row, x) ; _mm_shuffle_epi8(source, p0_shuffle) ; _mm_add_epi64(ll_sum, _mm_mul_epi32(p_i64x2, coeff0_i64x2)) ; _mm_storeu_si128(ll_buf.as_mut_ptr() as *mut __m128i, ll_sum) ; normalizer.clip(ll_buf[0]) ; normalizer.clip(ll_buf[1])" ∧
    Fir.Gen.u16x2_sse4_four_rows_skeleton = "normalizer.precision() ; _mm_set1_epi64x(half_error) ; chunks_exact(4) ; remainder() ; _mm_set1_epi64x(k[0] as i64) ; _mm_set1_epi64x(k[1] as i64) ; _mm_set1_epi64x(k[2] as i64) ; _mm_set1_epi64x(k[3] as i64) ; simd_utils::loadu_si128(src_rows[i], x) ; _mm_shuffle_epi8(source, p0_shuffle) ; _mm_add_epi64(sum, _mm_mul_epi32(p_i64x2, coeff0_i64x2)) ; _mm_shuffle_epi8(source, p1_shuffle) ; _mm_add_epi64(sum, _mm_mul_epi32(p_i64x2, coeff1_i64x2)) ; _mm_shuffle_epi8(source, p2_shuffle) ; _mm_add_epi64(sum, _mm_mul_epi32(p_i64x2, coeff2_i64x2)) ; _mm_shuffle_epi8(source, p3_shuffle) ; _mm_add_epi64(sum, _mm_mul_epi32(p_i64x2, coeff3_i64x2)) ; chunks_exact(2) ; remainder() ; _mm_set1_epi64x(k[0] as i64) ; _mm_set1_epi64x(k[1] as i64) ; simd_utils::loadl_epi64(src_rows[i], x) ; _mm_shuffle_epi8(source, p0_shuffle) ; _mm_add_epi64(sum, _mm_mul_epi32(p_i64x2, coeff0_i64x2)) ; _mm_shuffle_epi8(source, p1_shuffle) ; _mm_add_epi64(sum, _mm_mul_epi32(p_i64x2, coeff1_i64x2)) ; first() ; _mm_set1_epi64x(k as i64) ; simd_utils::loadl_epi32(src_rows[i], x) ; _mm_shuffle_epi8(source, p0_shuffle) ; _mm_add_epi64(ll_sum[i], _mm_mul_epi32(p_i64x2, coeff0_i64x2)) ; _mm_storeu_si128(ll_buf.as_mut_ptr() as *mut __m128i, ll_sum[i]) ; normalizer.clip(ll_buf[0]) ; normalizer.clip(ll_buf[1])" := by
  constructor <;> rfl

/-! ### LA16 on AVX2 (src/convolution/u16x2/avx2.rs)

    Four-row kernel: two rows per 256-bit register, the SSE4.1 instructions per half (mask halves proved equal, call sequence pinned).
    One-row kernel: an 8-step puts pixels 0..3 into the low half and 4..7 into the high half, a 4-step two pixels per half, a 2-step
    one pixel per half, the last coefficient the low half; the halves are joined at the end.  Modelled as `Fir.SimdU16x2A.pixelA`. -/

theorem u16x2_avx2_one_row_eq_portable (p : Nat) (row : List Int) (start : Nat) (ks : List Int) :
    Fir.SimdU16x2A.pixelA p row start ks
      = [clip16 (2 ^ (p - 1) + Fir.SimdU16x2.dotLA row 0 ks start) p, clip16 (2 ^ (p - 1) + Fir.SimdU16x2.dotLA row 1 ks start) p] :=
  Fir.Proofs.U16x2A.pixelA_eq_portable p row start ks

theorem u16x2_one_row_avx2_eq_sse4 (p : Nat) (row : List Int) (start : Nat) (ks : List Int) :
    Fir.SimdU16x2A.pixelA p row start ks = Fir.SimdU16x2.pixel p row start ks := by
  rw [u16x2_avx2_one_row_eq_portable, u16x2_sse4_eq_portable]

theorem u16x2_avx2_four_rows_masks :
    Fir.Gen.u16x2_avx2_four_p0_lo = Fir.Gen.u16x2_sse4_p0 ∧ Fir.Gen.u16x2_avx2_four_p0_hi = Fir.Gen.u16x2_sse4_p0 ∧
    Fir.Gen.u16x2_avx2_four_p1_lo = Fir.Gen.u16x2_sse4_p1 ∧ Fir.Gen.u16x2_avx2_four_p1_hi = Fir.Gen.u16x2_sse4_p1 ∧
    Fir.Gen.u16x2_avx2_four_p2_lo = Fir.Gen.u16x2_sse4_p2 ∧ Fir.Gen.u16x2_avx2_four_p2_hi = Fir.Gen.u16x2_sse4_p2 ∧
    Fir.Gen.u16x2_avx2_four_p3_lo = Fir.Gen.u16x2_sse4_p3 ∧ Fir.Gen.u16x2_avx2_four_p3_hi = Fir.Gen.u16x2_sse4_p3 := by
  refine ⟨?_, ?_, ?_, ?_, ?_, ?_, ?_, ?_⟩ <;> decide

theorem u16x2_avx2_source_as_modelled :
    Fir.Gen.u16x2_avx2_one_row_skeleton = "normalizer.precision() ; _mm256_setzero_si256() ; chunks_exact(8) ; remainder() ; _mm256_set_epi64x(k[4] as i64, k[4] as i64, k[0] as i64, k[0] as i64) ; _mm256_set_epi64x(k[5] as i64, k[5] as i64, k[1] as i64, k[1] as i64) ; _mm256_set_epi64x(k[6] as i64, k[6] as i64, k[2] as i64, k[2] as i64) ; _mm256_set_epi64x(k[7] as i64, k[7] as i64, k[3] as i64, k[3] as i64) ; simd_utils::loadu_si256(src_row, x) ; _mm256_shuffle_epi8(source, p0_shuffle) ; _mm256_add_epi64(ll_sum, _mm256_mul_epi32(pp_i64x4, coeff04_i64x4)) ; _mm256_shuffle_epi8(source, p1_shuffle) ; _mm256_add_epi64(ll_sum, _mm256_mul_epi32(pp_i64x4, coeff15_i64x4)) ; _mm256_shuffle_epi8(source, p2_shuffle) ; _mm256_add_epi64(ll_sum, _mm256_mul_epi32(pp_i64x4, coeff26_i64x4)) ; _mm256_shuffle_epi8(source, p3_shuffle) ; _mm256_add_epi64(ll_sum, _mm256_mul_epi32(pp_i64x4, coeff37_i64x4)) ; chunks_exact(4) ; remainder() ; _mm256_set_epi64x(k[2] as i64, k[2] as i64, k[0] as i64, k[0] as i64) ; _mm256_set_epi64x(k[3] as i64, k[3] as i64, k[1] as i64, k[1] as i64) ; _mm256_set_m128i(simd_utils::loadl_epi64(src_row, x + 2), simd_utils::loadl_epi64(src_row, x),) ; _mm256_shuffle_epi8(source, p0_shuffle) ; _mm256_add_epi64(ll_sum, _mm256_mul_epi32(pp_i64x4, coeff02_i64x4)) ; _mm256_shuffle_epi8(source, p1_shuffle) ; _mm256_add_epi64(ll_sum, _mm256_mul_epi32(pp_i64x4, coeff13_i64x4)) ; chunks_exact(2) ; remainder() ; _mm256_set_epi64x(k[1] as i64, k[1] as i64, k[0] as i64, k[0] as i64) ; _mm256_set_m128i(simd_utils::loadl_epi32(src_row, x + 1), simd_utils::loadl_epi32(src_row, x),) ; _mm256_shuffle_epi8(source, p0_shuffle) ; _mm256_add_epi64(ll_sum, _mm256_mul_epi32(pp_i64x4, coeff01_i64x4)) ; first() ; _mm256_set_epi64x(0, 0, k as i64, k as i64) ; _mm256_set_m128i(_mm_setzero_si128(), simd_utils::loadl_epi32(src_row, x)) ; _mm256_shuffle_epi8(source, p0_shuffle) ; _mm256_add_epi64(ll_sum, _mm256_mul_epi32(p_i64x4, coeff0_i64x4)) ; _mm256_storeu_si256(ll_buf.as_mut_ptr() as *mut __m256i, ll_sum) ; normalizer.clip(ll_buf[0] + ll_buf[2] + half_error) ; normalizer.clip(ll_buf[1] + ll_buf[3] + half_error)" ∧
    Fir.Gen.u16x2_avx2_four_rows_skeleton = "normalizer.precision() ; _mm256_set1_epi64x(half_error) ; chunks_exact(4) ; remainder() ; _mm256_set1_epi64x(k[0] as i64) ; _mm256_set1_epi64x(k[1] as i64) ; _mm256_set1_epi64x(k[2] as i64) ; _mm256_set1_epi64x(k[3] as i64) ; _mm256_set_m128i(simd_utils::loadu_si128(src_rows[i * 2 + 1], x), simd_utils::loadu_si128(src_rows[i * 2], x),) ; _mm256_shuffle_epi8(source, p0_shuffle) ; _mm256_add_epi64(*sum, _mm256_mul_epi32(pp_i64x4, coeff0_i64x4)) ; _mm256_shuffle_epi8(source, p1_shuffle) ; _mm256_add_epi64(*sum, _mm256_mul_epi32(pp_i64x4, coeff1_i64x4)) ; _mm256_shuffle_epi8(source, p2_shuffle) ; _mm256_add_epi64(*sum, _mm256_mul_epi32(pp_i64x4, coeff2_i64x4)) ; _mm256_shuffle_epi8(source, p3_shuffle) ; _mm256_add_epi64(*sum, _mm256_mul_epi32(pp_i64x4, coeff3_i64x4)) ; chunks_exact(2) ; remainder() ; _mm256_set1_epi64x(k[0] as i64) ; _mm256_set1_epi64x(k[1] as i64) ; _mm256_set_m128i(simd_utils::loadl_epi64(src_rows[i * 2 + 1], x), simd_utils::loadl_epi64(src_rows[i * 2], x),) ; _mm256_shuffle_epi8(source, p0_shuffle) ; _mm256_add_epi64(*sum, _mm256_mul_epi32(pp_i64x4, coeff0_i64x4)) ; _mm256_shuffle_epi8(source, p1_shuffle) ; _mm256_add_epi64(*sum, _mm256_mul_epi32(pp_i64x4, coeff1_i64x4)) ; first() ; _mm256_set1_epi64x(k as i64) ; _mm256_set_m128i(simd_utils::loadl_epi32(src_rows[i * 2 + 1], x), simd_utils::loadl_epi32(src_rows[i * 2], x),) ; _mm256_shuffle_epi8(source, p0_shuffle) ; _mm256_add_epi64(*sum, _mm256_mul_epi32(pp_i64x4, coeff0_i64x4)) ; _mm256_storeu_si256(ll_buf.as_mut_ptr() as *mut __m256i, ll) ; normalizer.clip(ll_buf[0]) ; normalizer.clip(ll_buf[1]) ; normalizer.clip(ll_buf[2]) ; normalizer.clip(ll_buf[3])" := by
  constructor <;> rfl

/-! ### single-channel 16-bit images: the SSE4.1 horizontal kernels of U16 (src/convolution/u16x1/sse4.rs)

    Two 64-bit accumulators; pairs of pixels moved into the low halves of the lanes by `_mm_shuffle_epi8` (masks from the source),
    multiplied with pairs of `i32` coefficients by `_mm_mul_epi32` and added by `_mm_add_epi64`; steps of 8 / 4 / 2 coefficients
    and a last single one; the two lanes and the rounding constant summed in wrapping `i64`, the portable `Normalizer32::clip`.
    All additions are 64-bit wrapping additions, as in the portable kernel, so equality needs no headroom premise.
    The four-row kernel uses masks of other names; they are proved to be the same masks, and its call sequence is pinned. -/

theorem u16x1_sse4_eq_portable (p : Nat) (row : List Int) (start : Nat) (ks : List Int) :
    Fir.SimdU16x1.pixel p row start ks = clip16 (2 ^ (p - 1) + Fir.SimdU16x1.dot16 row ks start) p :=
  Fir.Proofs.U16x1.pixel_eq_portable p row start ks

theorem u16x1_sse4_four_rows_masks :
    Fir.Gen.u16x1_sse4_four_l01 = Fir.Gen.u16x1_sse4_l01 ∧ Fir.Gen.u16x1_sse4_four_l23 = Fir.Gen.u16x1_sse4_l23 ∧
    Fir.Gen.u16x1_sse4_four_l45 = Fir.Gen.u16x1_sse4_l45 ∧ Fir.Gen.u16x1_sse4_four_l67 = Fir.Gen.u16x1_sse4_l67 := by
  refine ⟨?_, ?_, ?_, ?_⟩ <;> decide

theorem u16x1_sse4_source_as_modelled :
    Fir.Gen.u16x1_sse4_one_row_skeleton = "normalizer.precision() ; _mm_set1_epi64x(0) ; chunks_exact(8) ; remainder() ; _mm_set_epi64x(k[1] as i64, k[0] as i64) ; _mm_set_epi64x(k[3] as i64, k[2] as i64) ; _mm_set_epi64x(k[5] as i64, k[4] as i64) ; _mm_set_epi64x(k[7] as i64, k[6] as i64) ; simd_utils::loadu_si128(src_row, x) ; _mm_shuffle_epi8(source, l01_shuffle) ; _mm_add_epi64(ll_sum, _mm_mul_epi32(l_i64x2, coeff01_i64x2)) ; _mm_shuffle_epi8(source, l23_shuffle) ; _mm_add_epi64(ll_sum, _mm_mul_epi32(l_i64x2, coeff23_i64x2)) ; _mm_shuffle_epi8(source, l45_shuffle) ; _mm_add_epi64(ll_sum, _mm_mul_epi32(l_i64x2, coeff45_i64x2)) ; _mm_shuffle_epi8(source, l67_shuffle) ; _mm_add_epi64(ll_sum, _mm_mul_epi32(l_i64x2, coeff67_i64x2)) ; chunks_exact(4) ; remainder() ; _mm_set_epi64x(k[1] as i64, k[0] as i64) ; _mm_set_epi64x(k[3] as i64, k[2] as i64) ; simd_utils::loadl_epi64(src_row, x) ; _mm_shuffle_epi8(source, l01_shuffle) ; _mm_add_epi64(ll_sum, _mm_mul_epi32(l_i64x2, coeff01_i64x2)) ; _mm_shuffle_epi8(source, l23_shuffle) ; _mm_add_epi64(ll_sum, _mm_mul_epi32(l_i64x2, coeff23_i64x2)) ; chunks_exact(2) ; remainder() ; _mm_set_epi64x(k[1] as i64, k[0] as i64) ; simd_utils::loadl_epi32(src_row, x) ; _mm_shuffle_epi8(source, l01_shuffle) ; _mm_add_epi64(ll_sum, _mm_mul_epi32(l_i64x2, coeff01_i64x2)) ; first() ; _mm_set_epi64x(0, k as i64) ; get_unchecked(x) ; _mm_set_epi64x(0, pixel) ; _mm_add_epi64(ll_sum, _mm_mul_epi32(source, coeff01_i64x2)) ; _mm_storeu_si128(ll_buf.as_mut_ptr() as *mut __m128i, ll_sum) ; normalizer.clip(ll_buf[0] + ll_buf[1] + half_error)" ∧
    Fir.Gen.u16x1_sse4_four_rows_skeleton = "normalizer.precision() ; _mm_set1_epi64x(0) ; chunks_exact(8) ; remainder() ; _mm_set_epi64x(k[1] as i64, k[0] as i64) ; _mm_set_epi64x(k[3] as i64, k[2] as i64) ; _mm_set_epi64x(k[5] as i64, k[4] as i64) ; _mm_set_epi64x(k[7] as i64, k[6] as i64) ; simd_utils::loadu_si128(src_rows[i], x) ; _mm_shuffle_epi8(source, l0l1_shuffle) ; _mm_add_epi64(sum, _mm_mul_epi32(l0l1_i64x2, coeff01_i64x2)) ; _mm_shuffle_epi8(source, l2l3_shuffle) ; _mm_add_epi64(sum, _mm_mul_epi32(l2l3_i64x2, coeff23_i64x2)) ; _mm_shuffle_epi8(source, l4l5_shuffle) ; _mm_add_epi64(sum, _mm_mul_epi32(l4l5_i64x2, coeff45_i64x2)) ; _mm_shuffle_epi8(source, l6l7_shuffle) ; _mm_add_epi64(sum, _mm_mul_epi32(l6l7_i64x2, coeff67_i64x2)) ; chunks_exact(4) ; remainder() ; _mm_set_epi64x(k[1] as i64, k[0] as i64) ; _mm_set_epi64x(k[3] as i64, k[2] as i64) ; simd_utils::loadl_epi64(src_rows[i], x) ; _mm_shuffle_epi8(source, l0l1_shuffle) ; _mm_add_epi64(sum, _mm_mul_epi32(l0l1_i64x2, coeff01_i64x2)) ; _mm_shuffle_epi8(source, l2l3_shuffle) ; _mm_add_epi64(sum, _mm_mul_epi32(l2l3_i64x2, coeff23_i64x2)) ; chunks_exact(2) ; remainder() ; _mm_set_epi64x(k[1] as i64, k[0] as i64) ; simd_utils::loadl_epi32(src_rows[i], x) ; _mm_shuffle_epi8(source, l0l1_shuffle) ; _mm_add_epi64(ll_sum[i], _mm_mul_epi32(l_i64x2, coeff01_i64x2)) ; first() ; _mm_set_epi64x(0, k as i64) ; get_unchecked(x) ; _mm_set_epi64x(0, pixel) ; _mm_add_epi64(ll_sum[i], _mm_mul_epi32(source, coeff01_i64x2)) ; _mm_storeu_si128(ll_buf.as_mut_ptr() as *mut __m128i, ll_sum[i]) ; normalizer.clip(ll_buf.iter().sum::<i64>() + half_error)" := by
  constructor <;> rfl

/-! ### single-channel 16-bit images on AVX2 (src/convolution/u16x1/avx2.rs)

    Four-row kernel: two rows per 256-bit register, the SSE4.1 instructions per half (mask halves proved equal, call sequence pinned).
    One-row kernel: 16 / 8 / 4 coefficients split between the halves, a 2-step and the last coefficient in the low half only, the four
    lanes summed at the end.  Modelled as `Fir.SimdU16x1A.pixelA` (all 16 remainder lengths written out). -/

theorem u16x1_avx2_one_row_eq_portable (p : Nat) (row : List Int) (start : Nat) (ks : List Int) :
    Fir.SimdU16x1A.pixelA p row start ks = clip16 (2 ^ (p - 1) + Fir.SimdU16x1.dot16 row ks start) p :=
  Fir.Proofs.U16x1A.pixelA_eq_portable p row start ks

theorem u16x1_one_row_avx2_eq_sse4 (p : Nat) (row : List Int) (start : Nat) (ks : List Int) :
    Fir.SimdU16x1A.pixelA p row start ks = Fir.SimdU16x1.pixel p row start ks := by
  rw [u16x1_avx2_one_row_eq_portable, u16x1_sse4_eq_portable]

theorem u16x1_avx2_four_rows_masks :
    Fir.Gen.u16x1_avx2_four_l01_lo = Fir.Gen.u16x1_sse4_l01 ∧ Fir.Gen.u16x1_avx2_four_l01_hi = Fir.Gen.u16x1_sse4_l01 ∧
    Fir.Gen.u16x1_avx2_four_l23_lo = Fir.Gen.u16x1_sse4_l23 ∧ Fir.Gen.u16x1_avx2_four_l23_hi = Fir.Gen.u16x1_sse4_l23 ∧
    Fir.Gen.u16x1_avx2_four_l45_lo = Fir.Gen.u16x1_sse4_l45 ∧ Fir.Gen.u16x1_avx2_four_l45_hi = Fir.Gen.u16x1_sse4_l45 ∧
    Fir.Gen.u16x1_avx2_four_l67_lo = Fir.Gen.u16x1_sse4_l67 ∧ Fir.Gen.u16x1_avx2_four_l67_hi = Fir.Gen.u16x1_sse4_l67 := by
  refine ⟨?_, ?_, ?_, ?_, ?_, ?_, ?_, ?_⟩ <;> decide

theorem u16x1_avx2_source_as_modelled :
    Fir.Gen.u16x1_avx2_one_row_skeleton = "normalizer.precision() ; _mm256_set1_epi64x(0) ; chunks_exact(16) ; remainder() ; _mm256_set_epi64x(k[9] as i64, k[8] as i64, k[1] as i64, k[0] as i64) ; _mm256_set_epi64x(k[11] as i64, k[10] as i64, k[3] as i64, k[2] as i64) ; _mm256_set_epi64x(k[13] as i64, k[12] as i64, k[5] as i64, k[4] as i64) ; _mm256_set_epi64x(k[15] as i64, k[14] as i64, k[7] as i64, k[6] as i64) ; simd_utils::loadu_si256(src_row, x) ; _mm256_shuffle_epi8(source, l0l1_shuffle) ; _mm256_add_epi64(ll_sum, _mm256_mul_epi32(l0l1_i64x4, coeff0189_i64x4)) ; _mm256_shuffle_epi8(source, l2l3_shuffle) ; _mm256_add_epi64(ll_sum, _mm256_mul_epi32(l2l3_i64x4, coeff23ab_i64x4)) ; _mm256_shuffle_epi8(source, l4l5_shuffle) ; _mm256_add_epi64(ll_sum, _mm256_mul_epi32(l4l5_i64x4, coeff45cd_i64x4)) ; _mm256_shuffle_epi8(source, l6l7_shuffle) ; _mm256_add_epi64(ll_sum, _mm256_mul_epi32(l6l7_i64x4, coeff67ef_i64x4)) ; chunks_exact(8) ; remainder() ; _mm256_set_epi64x(k[5] as i64, k[4] as i64, k[1] as i64, k[0] as i64) ; _mm256_set_epi64x(k[7] as i64, k[6] as i64, k[3] as i64, k[2] as i64) ; _mm256_set_m128i(simd_utils::loadl_epi64(src_row, x + 4), simd_utils::loadl_epi64(src_row, x),) ; _mm256_shuffle_epi8(source, l0l1_shuffle) ; _mm256_add_epi64(ll_sum, _mm256_mul_epi32(l0l1_i64x4, coeff0145_i64x4)) ; _mm256_shuffle_epi8(source, l2l3_shuffle) ; _mm256_add_epi64(ll_sum, _mm256_mul_epi32(l2l3_i64x4, coeff2367_i64x4)) ; chunks_exact(4) ; remainder() ; _mm256_set_epi64x(k[3] as i64, k[2] as i64, k[1] as i64, k[0] as i64) ; _mm256_set_m128i(simd_utils::loadl_epi32(src_row, x + 2), simd_utils::loadl_epi32(src_row, x),) ; _mm256_shuffle_epi8(source, l0l1_shuffle) ; _mm256_add_epi64(ll_sum, _mm256_mul_epi32(l0l1_i64x4, coeff0123_i64x4)) ; chunks_exact(2) ; remainder() ; _mm256_set_epi64x(0, 0, k[1] as i64, k[0] as i64) ; _mm256_set_m128i(_mm_setzero_si128(), simd_utils::loadl_epi32(src_row, x)) ; _mm256_shuffle_epi8(source, l0l1_shuffle) ; _mm256_add_epi64(ll_sum, _mm256_mul_epi32(l0l1_i64x4, coeff01_i64x4)) ; _mm256_set1_epi64x(k as i64) ; _mm256_set_epi64x(0, 0, 0, src_row.get_unchecked(x).0 as i64) ; _mm256_add_epi64(ll_sum, _mm256_mul_epi32(source, coeff0_i64x4)) ; _mm256_storeu_si256(ll_buf.as_mut_ptr() as *mut __m256i, ll_sum) ; normalizer.clip(ll_buf.iter().sum::<i64>() + half_error)" ∧
    Fir.Gen.u16x1_avx2_four_rows_skeleton = "normalizer.precision() ; _mm256_set1_epi64x(0) ; chunks_exact(8) ; remainder() ; _mm256_set_epi64x(k[1] as i64, k[0] as i64, k[1] as i64, k[0] as i64) ; _mm256_set_epi64x(k[3] as i64, k[2] as i64, k[3] as i64, k[2] as i64) ; _mm256_set_epi64x(k[5] as i64, k[4] as i64, k[5] as i64, k[4] as i64) ; _mm256_set_epi64x(k[7] as i64, k[6] as i64, k[7] as i64, k[6] as i64) ; _mm256_set_m128i(simd_utils::loadu_si128(src_rows[i * 2 + 1], x), simd_utils::loadu_si128(src_rows[i * 2], x),) ; _mm256_shuffle_epi8(source, l0l1_shuffle) ; _mm256_add_epi64(*sum, _mm256_mul_epi32(l0l1_i64x4, coeff01_i64x4)) ; _mm256_shuffle_epi8(source, l2l3_shuffle) ; _mm256_add_epi64(*sum, _mm256_mul_epi32(l2l3_i64x4, coeff23_i64x4)) ; _mm256_shuffle_epi8(source, l4l5_shuffle) ; _mm256_add_epi64(*sum, _mm256_mul_epi32(l4l5_i64x4, coeff45_i64x4)) ; _mm256_shuffle_epi8(source, l6l7_shuffle) ; _mm256_add_epi64(*sum, _mm256_mul_epi32(l6l7_i64x4, coeff67_i64x4)) ; chunks_exact(4) ; remainder() ; _mm256_set_epi64x(k[1] as i64, k[0] as i64, k[1] as i64, k[0] as i64) ; _mm256_set_epi64x(k[3] as i64, k[2] as i64, k[3] as i64, k[2] as i64) ; _mm256_set_m128i(simd_utils::loadl_epi64(src_rows[i * 2 + 1], x), simd_utils::loadl_epi64(src_rows[i * 2], x),) ; _mm256_shuffle_epi8(source, l0l1_shuffle) ; _mm256_add_epi64(*sum, _mm256_mul_epi32(l0l1_i64x4, coeff01_i64x4)) ; _mm256_shuffle_epi8(source, l2l3_shuffle) ; _mm256_add_epi64(*sum, _mm256_mul_epi32(l2l3_i64x4, coeff23_i64x4)) ; chunks_exact(2) ; remainder() ; _mm256_set_epi64x(k[1] as i64, k[0] as i64, k[1] as i64, k[0] as i64) ; _mm256_set_m128i(simd_utils::loadl_epi32(src_rows[i * 2 + 1], x), simd_utils::loadl_epi32(src_rows[i * 2], x),) ; _mm256_shuffle_epi8(source, l0l1_shuffle) ; _mm256_add_epi64(*sum, _mm256_mul_epi32(l0l1_i64x4, coeff01_i64x4)) ; _mm256_set1_epi64x(k as i64) ; _mm256_set_epi64x(0, src_rows[i * 2 + 1].get_unchecked(x).0 as i64, 0, src_rows[i * 2].get_unchecked(x).0 as i64,) ; _mm256_add_epi64(*sum, _mm256_mul_epi32(source, coeff0_i64x4)) ; _mm256_storeu_si256(ll_buf.as_mut_ptr() as *mut __m256i, ll) ; normalizer.clip(ll_buf[0] + ll_buf[1] + half_error) ; normalizer.clip(ll_buf[2] + ll_buf[3] + half_error)" := by
  constructor <;> rfl

/-! ### 16-bit components: the SSE4.1 vertical pass (U16, U16x2, U16x3, U16x4), lane by lane

    `Fir.Model.SimdVertU16` follows `vert_convolution_into_one_row_u16` of src/convolution/vertical_u16/sse4.rs: `_mm_shuffle_epi8`
    with `c_shuffles[0..3]` (from the source) puts two components into the low halves of the 64-bit lanes,
    `_mm_mul_epi32` multiplies them with the `i32` coefficient, `_mm_add_epi64` accumulates in `i64`, and every lane goes
    through the portable `Normalizer32::clip`.  `dotV16 rows ks x` is what the portable kernel accumulates. -/

theorem vert_u16_sse4_chunk16_eq_portable (p : Nat) (rows : List (List Int)) (ks : List Int) (h : ks.length ≤ rows.length) (x : Nat) :
    Fir.SimdVertU16.chunk16 p rows ks x
      = (List.range 16).map fun j => clip16 (2 ^ (p - 1) + Fir.SimdVertU16.dotV16 rows ks (x + j)) p :=
  Fir.Proofs.vert_u16_sse4_chunk16_eq p rows ks h x

theorem vert_u16_sse4_chunk8_eq_portable (p : Nat) (rows : List (List Int)) (ks : List Int) (h : ks.length ≤ rows.length) (x : Nat) :
    Fir.SimdVertU16.block8 p rows ks x
      = (List.range 8).map fun j => clip16 (2 ^ (p - 1) + Fir.SimdVertU16.dotV16 rows ks (x + j)) p :=
  Fir.Proofs.block8u_eq p rows ks h x

theorem vert_u16_sse4_chunk4_eq_portable (p : Nat) (rows : List (List Int)) (ks : List Int) (h : ks.length ≤ rows.length) (x : Nat) :
    Fir.SimdVertU16.chunk4 p rows ks x
      = (List.range 4).map fun j => clip16 (2 ^ (p - 1) + Fir.SimdVertU16.dotV16 rows ks (x + j)) p :=
  Fir.Proofs.vert_u16_sse4_chunk4_eq p rows ks h x

theorem vert_u16_sse4_source_as_modelled : Fir.Gen.vert_u16_sse4_skeleton =
    "_mm_set1_epi64x(1 << (precision - 1)) ; chunks_exact_mut(16) ; chunks_exact(2) ; remainder() ; iter_2_rows(y_start, max_rows) ; _mm_set1_epi64x(two_coeffs[r] as i64) ; simd_utils::loadu_si128(src_rows[r], src_x + x * 8) ; _mm_shuffle_epi8(source, c_shuffles[i]) ; _mm_add_epi64(sums[i][x], _mm_mul_epi32(c_i64x2, coeff_i64x2)) ; first() ; iter_rows(y_start + y) ; _mm_set1_epi64x(k as i64) ; simd_utils::loadu_si128(components, src_x + x * 8) ; _mm_shuffle_epi8(source, c_shuffles[i]) ; _mm_add_epi64(sums[i][x], _mm_mul_epi32(c_i64x2, coeff_i64x2)) ; _mm_storeu_si128(c_buf.as_mut_ptr() as *mut __m128i, sum[x]) ; normalizer.clip(c_buf[0]) ; normalizer.clip(c_buf[1]) ; into_remainder() ; chunks_exact_mut(8) ; chunks_exact(2) ; remainder() ; iter_2_rows(y_start, max_rows) ; _mm_set1_epi64x(two_coeffs[0] as i64) ; _mm_set1_epi64x(two_coeffs[1] as i64) ; simd_utils::loadu_si128(src_rows[r], src_x) ; _mm_shuffle_epi8(source, c_shuffles[i]) ; _mm_add_epi64(sums[i], _mm_mul_epi32(c_i64x2, coeffs_i64[r])) ; first() ; iter_rows(y_start + y) ; _mm_set1_epi64x(k as i64) ; simd_utils::loadu_si128(components, src_x) ; _mm_shuffle_epi8(source, c_shuffles[i]) ; _mm_add_epi64(sums[i], _mm_mul_epi32(c_i64x2, coeff_i64x2)) ; _mm_storeu_si128(c_buf.as_mut_ptr() as *mut __m128i, sum) ; normalizer.clip(c_buf[0]) ; normalizer.clip(c_buf[1]) ; into_remainder() ; chunks_exact_mut(4) ; chunks_exact(2) ; remainder() ; iter_2_rows(y_start, max_rows) ; _mm_set1_epi64x(two_coeffs[0] as i64) ; _mm_set1_epi64x(two_coeffs[1] as i64) ; _mm_set_epi64x(comp_x4[1] as i64, comp_x4[0] as i64) ; _mm_add_epi64(c01, _mm_mul_epi32(c_i64x2, coeffs_i64[r])) ; _mm_set_epi64x(comp_x4[3] as i64, comp_x4[2] as i64) ; _mm_add_epi64(c23, _mm_mul_epi32(c_i64x2, coeffs_i64[r])) ; first() ; iter_rows(y_start + y) ; _mm_set1_epi64x(k as i64) ; _mm_set_epi64x(comp_x4[1] as i64, comp_x4[0] as i64) ; _mm_add_epi64(c01, _mm_mul_epi32(c_i64x2, coeff_i64x2)) ; _mm_set_epi64x(comp_x4[3] as i64, comp_x4[2] as i64) ; _mm_add_epi64(c23, _mm_mul_epi32(c_i64x2, coeff_i64x2)) ; _mm_storeu_si128(c_buf.as_mut_ptr() as *mut __m128i, c01) ; normalizer.clip(c_buf[0]) ; normalizer.clip(c_buf[1]) ; _mm_storeu_si128(c_buf.as_mut_ptr() as *mut __m128i, c23) ; normalizer.clip(c_buf[0]) ; normalizer.clip(c_buf[1]) ; into_remainder() ; convolution_by_u16(src_view, normalizer, initial, dst_u16, src_x, y_start, coeffs,)" := by rfl

/-! ### the AVX2 vertical pass for 16-bit components

    src/convolution/vertical_u16/avx2.rs keeps 16 components in a 256-bit register: every instruction it uses
    (`_mm256_shuffle_epi8`, `_mm256_mul_epi32`, `_mm256_add_epi64`) acts on the two 128-bit halves independently, each half
    of every mask is the SSE4.1 mask (below), rows are taken one by one, and the four lanes of `sum[i]` are stored to
    components `2i, 2i+1` (low half) and `2i+8, 2i+9` (high half): the 16-component step is `block8 x ++ block8 (x + 8)`
    = `Fir.SimdVertU16.chunk16`.  The tail (< 16 components) copies the components into a zeroed 16-element buffer and
    runs the same code; each lane depends only on its own component, so its first components are those of
    `chunk16` as well. -/

theorem vert_u16_avx2_masks :
    Fir.Gen.vert_u16_avx2_shuffles =
      [(Fir.Gen.vert_u16_sse4_sh0, Fir.Gen.vert_u16_sse4_sh0), (Fir.Gen.vert_u16_sse4_sh1, Fir.Gen.vert_u16_sse4_sh1),
       (Fir.Gen.vert_u16_sse4_sh2, Fir.Gen.vert_u16_sse4_sh2), (Fir.Gen.vert_u16_sse4_sh3, Fir.Gen.vert_u16_sse4_sh3)] := by decide

theorem vert_u16_avx2_source_as_modelled : Fir.Gen.vert_u16_avx2_skeleton =
    "_mm256_set1_epi64x(1 << (precision - 1)) ; chunks_exact_mut(16) ; iter_rows(y_start) ; _mm256_set1_epi64x(coeff as i64) ; simd_utils::loadu_si256(components, src_x) ; _mm256_shuffle_epi8(source, shuffles[i]) ; _mm256_add_epi64(sum[i], _mm256_mul_epi32(comp_i64x4, coeff_i64x4)) ; _mm256_storeu_si256(comp_buf.as_mut_ptr() as *mut __m256i, sum[i]) ; get_unchecked_mut(i * 2) ; normalizer.clip(comp_buf[0]) ; get_unchecked_mut(i * 2 + 1) ; normalizer.clip(comp_buf[1]) ; get_unchecked_mut(i * 2 + 8) ; normalizer.clip(comp_buf[2]) ; get_unchecked_mut(i * 2 + 9) ; normalizer.clip(comp_buf[3]) ; into_remainder() ; iter_rows(y_start) ; get_unchecked(src_x..) ; _mm256_set1_epi64x(coeff as i64) ; simd_utils::loadu_si256(&buf, 0) ; _mm256_shuffle_epi8(source, shuffles[i]) ; _mm256_add_epi64(sum[i], _mm256_mul_epi32(comp_i64x4, coeff_i64x4)) ; _mm256_storeu_si256(comp_buf.as_mut_ptr() as *mut __m256i, sum[i]) ; get_unchecked_mut(i * 2) ; normalizer.clip(comp_buf[0]) ; get_unchecked_mut(i * 2 + 1) ; normalizer.clip(comp_buf[1]) ; get_unchecked_mut(i * 2 + 8) ; normalizer.clip(comp_buf[2]) ; get_unchecked_mut(i * 2 + 9) ; normalizer.clip(comp_buf[3])" := by rfl

/-! ### the SIMD kernels in the vocabulary of the portable model

    Every channel of the pixel one of these kernels stores is `Fir.passInt` - the arithmetic every C01 / C10 / C18 theorem is
    about - of the same coefficients and the same window of source samples (coefficients in the range of their integer type,
    samples in the range of the component type), so those theorems hold of what the SSE4.1 kernels store. -/

theorem u16x1_sse4_eq_passInt (p : Nat) (row : List Int) (start : Nat) (ks : List Int)
    (hk : ∀ k ∈ ks, -2147483648 ≤ k ∧ k ≤ 2147483647) (hb : ∀ i, 0 ≤ row.getD i 0 ∧ row.getD i 0 ≤ 65535) :
    Fir.SimdU16x1.pixel p row start ks = passInt .u16 ks ((List.range ks.length).map fun i => row.getD (start + i) 0) p := by
  simpa using Fir.Proofs.PassInt.u16x1 p row start ks hk hb

theorem u16x2_sse4_eq_passInt (p : Nat) (row : List Int) (start : Nat) (ks : List Int) (c : Nat) (hc : c < 2)
    (hk : ∀ k ∈ ks, -2147483648 ≤ k ∧ k ≤ 2147483647) (hb : ∀ i, 0 ≤ row.getD i 0 ∧ row.getD i 0 ≤ 65535) :
    (Fir.SimdU16x2.pixel p row start ks).getD c 0
      = passInt .u16 ks ((List.range ks.length).map fun i => row.getD (2 * (start + i) + c) 0) p := by
  rw [Fir.Proofs.U16x2.pixel_eq_portable, ← Fir.Proofs.PassInt.clip16_dot (d := SimdU16x2.dotLA row c) (fun _ => rfl) (fun _ _ _ => rfl) p ks start hk hb]
  match c, hc with
  | 0, _ => rfl
  | 1, _ => rfl

theorem u16x3_sse4_eq_passInt (p w : Nat) (hp2 : 2 ≤ p) (row : List Int) (start : Nat) (ks : List Int) (c : Nat) (hc : c < 3)
    (hk : ∀ k ∈ ks, -2147483648 ≤ k ∧ k ≤ 2147483647) (hb : ∀ i, 0 ≤ row.getD i 0 ∧ row.getD i 0 ≤ 65535) :
    (Fir.SimdU16x3.pixel p w row start ks).getD c 0
      = passInt .u16 ks ((List.range ks.length).map fun i => row.getD (3 * (start + i) + c) 0) p ∧
    (Fir.SimdU16x3.pixelR p w row start ks).getD c 0
      = passInt .u16 ks ((List.range ks.length).map fun i => row.getD (3 * (start + i) + c) 0) p :=
  Fir.Proofs.PassInt.u16x3 p w hp2 row start ks c hc hk hb

theorem u16x4_sse4_eq_passInt (p : Nat) (row : List Int) (start : Nat) (ks : List Int) (c : Nat) (hc : c < 4)
    (hk : ∀ k ∈ ks, -2147483648 ≤ k ∧ k ≤ 2147483647) (hb : ∀ i, 0 ≤ row.getD i 0 ∧ row.getD i 0 ≤ 65535) :
    (Fir.SimdU16x4.pixel p row start ks).getD c 0
      = passInt .u16 ks ((List.range ks.length).map fun i => row.getD (4 * (start + i) + c) 0) p :=
  Fir.Proofs.PassInt.u16x4 p row start ks c hc hk hb

theorem u8x2_sse4_eq_passInt (p : Nat) (hp2 : 2 ≤ p) (row : List Int) (start : Nat) (ks : List Int) (c : Nat) (hc : c < 2)
    (hB : 255 * Fir.SimdU8x2.absSum ks + 2 ^ (p - 1) < (2 : Int) ^ 31)
    (hk : ∀ k ∈ ks, -32768 ≤ k ∧ k ≤ 32767) (hb : ∀ i, 0 ≤ row.getD i 0 ∧ row.getD i 0 ≤ 255) :
    (Fir.SimdU8x2.pixel p row start ks).getD c 0
      = passInt .u8 ks ((List.range ks.length).map fun i => row.getD (2 * (start + i) + c) 0) p ∧
    (Fir.SimdU8x2.pixelR p row start ks).getD c 0
      = passInt .u8 ks ((List.range ks.length).map fun i => row.getD (2 * (start + i) + c) 0) p :=
  Fir.Proofs.PassInt.u8x2 p hp2 row start ks c hc hB hk hb

/-- hence, for instance, C10's exactness carries over: a uniform RGBA16 row through the SSE4.1 kernel (any channel, any window)
    gives that value whenever the quantised coefficients meet `uniform_exact_u16`'s premise -/
theorem u16x4_sse4_uniform (p : Nat) (row : List Int) (start : Nat) (ks : List Int) (c : Nat) (hc : c < 4) (v : Int)
    (hk : ∀ k ∈ ks, -2147483648 ≤ k ∧ k ≤ 2147483647) (hv0 : 0 ≤ v) (hv : v ≤ 65535) (hrow : ∀ i, row.getD i 0 = v) :
    (Fir.SimdU16x4.pixel p row start ks).getD c 0 = passInt .u16 ks (List.replicate ks.length v) p := by
  rw [u16x4_sse4_eq_passInt p row start ks c hc hk (fun i => by rw [hrow i]; exact ⟨hv0, hv⟩)]
  congr 1
  apply List.ext_getElem
  · simp
  · intro i h1 h2
    simp only [List.getElem_map, List.getElem_range, List.getElem_replicate]
    exact hrow _

end Fir.C02
