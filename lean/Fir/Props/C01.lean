/-
  C01 - Convolution resizing equals the ideal separable filter within rounding error.

  Proved here (all window lengths, all contents, all precisions in range), about `Fir.passInt`, the
  arithmetic of one destination component of an 8/16-bit pass:
    * the result is the exact fixed-point sum rounded to nearest and clamped (`pass_round_nearest_u8/u16`),
    * against ideal real weights `wᵢ` the unclamped result is within 1/2 + n·m·2^-(p+1) of Σwᵢxᵢ (n taps, |xᵢ| ≤ m)
      when every integer coefficient is the ideal one rounded to nearest (`pass_err`),
    * clamping is 1-Lipschitz, so a second pass adds its own error to Σ|w₂|·(error of pass 1) (`two_pass_err`).
  The same bounds for every component of `Fir.horizPass` / `Fir.vertPass` and of their composition
  (`twoPass_err_u8/u16`); I32 / F32 under the standard model of rounding (`pass_err_i32/f32`).
  The structure "SuperSampling = Convolution applied to the nearest-neighbour intermediate" and the pass
  order / bound shifting are the model's control flow (`Fir.resampleSuperSampling`, `Fir.doConvolution`),
  tied to the code by correspondence.  Not proved: accuracy of the f64 evaluation of the kernels and of
  their normalisation (libm); the implementation's coefficients are compared bit for bit with the
  model's Float mirror on every run.
-/
import Fir.Proofs.TwoPassLemmas
import Fir.Proofs.IdealFilterLemmas
import Fir.Proofs.IeeeLemmas

namespace Fir.C01

/-- rounding is to nearest: with `a = Σkᵢxᵢ` the unclamped result `y = ⌊(2^(p−1) + a) / 2^p⌋` satisfies
    `|2^p·y − a| ≤ 2^(p−1)` - half a unit of the fixed-point sum - and the returned component is `y`
    clamped to the component range -/
theorem pass_round_nearest_u8 (ks xs : List Int) (p : Nat) (hp1 : 1 ≤ p) (hp : p < 32)
    (h : -(2 ^ 31 : Int) ≤ 2 ^ (p - 1) + dotL ks xs ∧ 2 ^ (p - 1) + dotL ks xs < 2 ^ 31) :
    let y := (2 ^ (p - 1) + dotL ks xs) / 2 ^ p
    passInt .u8 ks xs p = max 0 (min 255 y) ∧
    2 ^ p * y - dotL ks xs ≤ 2 ^ (p - 1) ∧ dotL ks xs - 2 ^ p * y < 2 ^ (p - 1) :=
  Fir.Proofs.pass_round_nearest_u8 ks xs p hp1 hp h

theorem pass_round_nearest_u16 (ks xs : List Int) (p : Nat) (hp1 : 1 ≤ p) (hp : p < 64)
    (h : -(2 ^ 63 : Int) ≤ 2 ^ (p - 1) + dotL ks xs ∧ 2 ^ (p - 1) + dotL ks xs < 2 ^ 63) :
    let y := (2 ^ (p - 1) + dotL ks xs) / 2 ^ p
    passInt .u16 ks xs p = max 0 (min 65535 y) ∧
    2 ^ p * y - dotL ks xs ≤ 2 ^ (p - 1) ∧ dotL ks xs - 2 ^ p * y < 2 ^ (p - 1) :=
  ⟨Fir.Proofs.passInt_eq_clamp (.inr rfl) h, Fir.Proofs.round_nearest (dotL ks xs) p hp1⟩

def idealDot (ws : List ℚ) (xs : List Int) : ℚ := (List.zipWith (fun (w : ℚ) (x : Int) => w * (x : ℚ)) ws xs).sum

/-- error of one pass against the ideal weights: half a unit of rounding plus the coefficient
    quantisation, for every window whose integer coefficients are within 1/2 of `wᵢ·2^p` -/
theorem pass_err (ws : List ℚ) (ks xs : List Int) (p : Nat) (hp1 : 1 ≤ p) (m : ℚ)
    (hlen : ks.length = ws.length) (hlen2 : xs.length = ws.length)
    (hq : ∀ i, i < ws.length → |(ks.getD i 0 : ℚ) - ws.getD i 0 * 2 ^ p| ≤ 1 / 2)
    (hx : ∀ x ∈ xs, |(x : ℚ)| ≤ m) :
    |(((2 ^ (p - 1) + dotL ks xs) / 2 ^ p : Int) : ℚ) - idealDot ws xs| ≤ 1 / 2 + (ws.length : ℚ) * m / 2 ^ (p + 1) :=
  Fir.Proofs.pass_err ws ks xs p hp1 m hlen hlen2 hq hx

theorem clamp_lipschitz (lo hi : ℚ) (hlh : lo ≤ hi) (a b : ℚ) :
    |max lo (min hi a) - max lo (min hi b)| ≤ |a - b| :=
  Fir.Proofs.clamp_lipschitz lo hi hlh a b

/-- two passes: the error of the second pass plus `Σ|w₂|` times the error of the first -/
theorem two_pass_err (ws : List ℚ) (xs ys : List ℚ) (e : ℚ) (hlen : xs.length = ws.length) (hlen2 : ys.length = ws.length)
    (hxy : ∀ i, i < ws.length → |xs.getD i 0 - ys.getD i 0| ≤ e) :
    |(List.zipWith (· * ·) ws xs).sum - (List.zipWith (· * ·) ws ys).sum| ≤ (ws.map (|·|)).sum * e :=
  Fir.Proofs.two_pass_err ws xs ys e hlen hlen2 hxy

/-! ### whole images (`Fir.horizPass` / `Fir.vertPass` of the executable model) -/

/-- one 8-bit component against the *clamped* ideal value: half a unit of rounding plus the coefficient
    quantisation `n·255/2^(p+1)` -/
theorem passInt_err_u8 (ws : List ℚ) (ks xs : List Int) (p : Nat) (hp1 : 1 ≤ p) (hp : p < 32)
    (hlen : ks.length = ws.length) (hlen2 : xs.length = ws.length)
    (hq : ∀ i, i < ws.length → |(ks.getD i 0 : ℚ) - ws.getD i 0 * 2 ^ p| ≤ 1 / 2)
    (hx : ∀ x ∈ xs, 0 ≤ x ∧ x ≤ 255) (hacc : Fir.Proofs.AccOK8 ks xs p) :
    |((passInt .u8 ks xs p : Int) : ℚ) - max 0 (min 255 (idealDot ws xs))| ≤ 1 / 2 + (ws.length : ℚ) * 255 / 2 ^ (p + 1) :=
  Fir.Proofs.passInt_err_u8 ws ks xs p hp1 hp hlen hlen2 hq hx hacc

theorem passInt_err_u16 (ws : List ℚ) (ks xs : List Int) (p : Nat) (hp1 : 1 ≤ p) (hp : p < 64)
    (hlen : ks.length = ws.length) (hlen2 : xs.length = ws.length)
    (hq : ∀ i, i < ws.length → |(ks.getD i 0 : ℚ) - ws.getD i 0 * 2 ^ p| ≤ 1 / 2)
    (hx : ∀ x ∈ xs, 0 ≤ x ∧ x ≤ 65535) (hacc : Fir.Proofs.AccOK16 ks xs p) :
    |((passInt .u16 ks xs p : Int) : ℚ) - max 0 (min 65535 (idealDot ws xs))| ≤ 1 / 2 + (ws.length : ℚ) * 65535 / 2 ^ (p + 1) :=
  Fir.Proofs.passInt_err_u16 ws ks xs p hp1 hlen hlen2 hq hx hacc

open Fir.Proofs in
/-- every component of the model's horizontal 8-bit pass is within the bound of the clamped ideal filter
    `Σ wᵢ·xᵢ` (weights `ws x` of which the integer coefficients are roundings) applied to the samples read -/
theorem horizPass_err_u8 (src : Img) (dstW dstH offset : Nat) (c : Coeffs) (ws : Nat → List ℚ)
    (hp1 : 1 ≤ (qOf .u8 c).precision) (hp : (qOf .u8 c).precision < 32)
    (hlen : ∀ x, x < dstW → (chunkAt .u8 c x).2.toList.length = (ws x).length)
    (hq : ∀ x, x < dstW → ∀ i, i < (ws x).length →
      |(((chunkAt .u8 c x).2.toList.getD i 0 : Int) : ℚ) - (ws x).getD i 0 * 2 ^ (qOf .u8 c).precision| ≤ 1 / 2)
    (hsamp : ∀ x y ch, x < dstW → y < dstH → ch < src.n → ∀ s ∈ hWindow .u8 src offset c x y ch, 0 ≤ s ∧ s ≤ 255)
    (hacc : ∀ x y ch, x < dstW → y < dstH → ch < src.n →
      AccOK8 (chunkAt .u8 c x).2.toList (hWindow .u8 src offset c x y ch) (qOf .u8 c).precision)
    (x y ch : Nat) (hx : x < dstW) (hy : y < dstH) (hc : ch < src.n) :
    |(((horizPass .u8 src dstW dstH offset c).get x y ch : Int) : ℚ)
        - max 0 (min 255 (idealDot (ws x) (hWindow .u8 src offset c x y ch)))|
      ≤ 1 / 2 + ((ws x).length : ℚ) * 255 / 2 ^ ((qOf .u8 c).precision + 1) :=
  Fir.Proofs.horizPass_err_u8 src dstW dstH offset c ws hp1 hp hlen hq hsamp hacc x y ch hx hy hc

open Fir.Proofs in
theorem vertPass_err_u8 (src : Img) (dstW dstH offset : Nat) (c : Coeffs) (ws : Nat → List ℚ)
    (hp1 : 1 ≤ (qOf .u8 c).precision) (hp : (qOf .u8 c).precision < 32)
    (hlen : ∀ y, y < dstH → (chunkAt .u8 c y).2.toList.length = (ws y).length)
    (hq : ∀ y, y < dstH → ∀ i, i < (ws y).length →
      |(((chunkAt .u8 c y).2.toList.getD i 0 : Int) : ℚ) - (ws y).getD i 0 * 2 ^ (qOf .u8 c).precision| ≤ 1 / 2)
    (hsamp : ∀ x y ch, x < dstW → y < dstH → ch < src.n → ∀ s ∈ vWindow .u8 src offset c x y ch, 0 ≤ s ∧ s ≤ 255)
    (hacc : ∀ x y ch, x < dstW → y < dstH → ch < src.n →
      AccOK8 (chunkAt .u8 c y).2.toList (vWindow .u8 src offset c x y ch) (qOf .u8 c).precision)
    (x y ch : Nat) (hx : x < dstW) (hy : y < dstH) (hc : ch < src.n) :
    |(((vertPass .u8 src dstW dstH offset c).get x y ch : Int) : ℚ)
        - max 0 (min 255 (idealDot (ws y) (vWindow .u8 src offset c x y ch)))|
      ≤ 1 / 2 + ((ws y).length : ℚ) * 255 / 2 ^ ((qOf .u8 c).precision + 1) :=
  Fir.Proofs.vertPass_err_u8 src dstW dstH offset c ws hp1 hp hlen hq hsamp hacc x y ch hx hy hc

/-! ### both passes of `do_convolution` composed (8-bit order): the accumulated error against the ideal separable filter
    `Fir.Proofs.idealTwoPass8` (exact rationals, clamped to the component range after each pass like the pipeline) -/

open Fir.Proofs in
/-- every component of the model's two-pass 8-bit result is within
    `(1/2 + n_H·255/2^(p_H+1)) + Σ|w^H|·(1/2 + n_V·255/2^(p_V+1))` of the ideal separable filter -/
theorem twoPass_err_u8 (src : Img) (dstW dstH tempW xFirst : Nat) (vc hc : Coeffs) (wsV wsH : Nat → List ℚ)
    (hpV1 : 1 ≤ (qOf .u8 vc).precision) (hpV : (qOf .u8 vc).precision < 32)
    (hpH1 : 1 ≤ (qOf .u8 hc).precision) (hpH : (qOf .u8 hc).precision < 32)
    (hlenV : ∀ y, y < dstH → (chunkAt .u8 vc y).2.toList.length = (wsV y).length)
    (hqV : ∀ y, y < dstH → ∀ i, i < (wsV y).length →
      |(((chunkAt .u8 vc y).2.toList.getD i 0 : Int) : ℚ) - (wsV y).getD i 0 * 2 ^ (qOf .u8 vc).precision| ≤ 1 / 2)
    (hsamp : ∀ x y ch, x < tempW → y < dstH → ch < src.n → ∀ s ∈ vWindow .u8 src xFirst vc x y ch, 0 ≤ s ∧ s ≤ 255)
    (haccV : ∀ x y ch, x < tempW → y < dstH → ch < src.n →
      AccOK8 (chunkAt .u8 vc y).2.toList (vWindow .u8 src xFirst vc x y ch) (qOf .u8 vc).precision)
    (hlenH : ∀ x, x < dstW → (chunkAt .u8 hc x).2.toList.length = (wsH x).length)
    (hqH : ∀ x, x < dstW → ∀ i, i < (wsH x).length →
      |(((chunkAt .u8 hc x).2.toList.getD i 0 : Int) : ℚ) - (wsH x).getD i 0 * 2 ^ (qOf .u8 hc).precision| ≤ 1 / 2)
    (hfit : ∀ x, x < dstW → (chunkAt .u8 hc x).1 + (chunkAt .u8 hc x).2.size ≤ tempW)
    (haccH : ∀ x y ch, x < dstW → y < dstH → ch < src.n →
      AccOK8 (chunkAt .u8 hc x).2.toList (hWindow .u8 (vertPass .u8 src tempW dstH xFirst vc) 0 hc x y ch) (qOf .u8 hc).precision)
    (x y ch : Nat) (hx : x < dstW) (hy : y < dstH) (hc' : ch < src.n) :
    |(((horizPass .u8 (vertPass .u8 src tempW dstH xFirst vc) dstW dstH 0 hc).get x y ch : Int) : ℚ)
        - idealTwoPass8 src xFirst vc hc wsV wsH x y ch|
      ≤ (1 / 2 + ((wsH x).length : ℚ) * 255 / 2 ^ ((qOf .u8 hc).precision + 1))
        + ((wsH x).map (|·|)).sum * (1 / 2 + ((wsV y).length : ℚ) * 255 / 2 ^ ((qOf .u8 vc).precision + 1)) :=
  Fir.Proofs.twoPass_err_u8 src dstW dstH tempW xFirst vc hc wsV wsH hpV1 hpV hpH1 hpH hlenV hqV hsamp haccV hlenH hqH hfit haccH x y ch hx hy hc'

open Fir.Proofs in
/-- when both passes are needed and the pixel type is 8-bit, `doConvolution` IS the composition the
    theorems above speak about (temporary image = columns `[boundsFirst, boundsLast)` of the vertical pass,
    horizontal windows shifted by `boundsFirst`) -/
theorem doConvolution_two_pass_u8 (p : PixT) (hk : p.kind = .u8) (src prev : Img) (cl ct cw ch : Float) (f : FilterSpec) (adaptive : Bool)
    (hw : prev.w ≠ 0) (hh : prev.h ≠ 0) (hcw : (cw ≤ 0.0) = false) (hch : (ch ≤ 0.0) = false)
    (hneedH : (Float.ofNat prev.w != cw || cl != cl.round) = true)
    (hneedV : (Float.ofNat prev.h != ch || ct != ct.round) = true)
    (htemp : boundsLast (precomputeCoefficients src.w cl (cl + cw) prev.w f adaptive)
              - boundsFirst (precomputeCoefficients src.w cl (cl + cw) prev.w f adaptive) ≠ 0) :
    let hc := precomputeCoefficients src.w cl (cl + cw) prev.w f adaptive
    let vc := precomputeCoefficients src.h ct (ct + ch) prev.h f adaptive
    doConvolution p src cl ct cw ch prev f adaptive =
      horizPass .u8 (vertPass .u8 src (boundsLast hc - boundsFirst hc) prev.h (boundsFirst hc) vc) prev.w prev.h 0
        { hc with bounds := hc.bounds.map fun b => (b.1 - boundsFirst hc, b.2) } :=
  Fir.Proofs.doConvolution_two_pass_u8 p hk src prev cl ct cw ch f adaptive hw hh hcw hch hneedH hneedV htemp

/-! ### from the implementation's f64 weights to the ideal kernel (`Fir.Spec.IdealFilter`): the per-geometry comparison
    `|w_f64 − w_ideal| ≤ δ = 1e-9` of the correspondence check costs at most `n·δ·m` -/

open Fir.Spec in
theorem weights_perturbation (ws ws' : List ℚ) (xs : List ℚ) (δ m : ℚ) (hlen : ws'.length = ws.length) (hlen2 : xs.length = ws.length)
    (hδ : ∀ i, i < ws.length → |ws.getD i 0 - ws'.getD i 0| ≤ δ) (hm : ∀ x ∈ xs, |x| ≤ m) (hm0 : 0 ≤ m) :
    |(List.zipWith (· * ·) ws xs).sum - (List.zipWith (· * ·) ws' xs).sum| ≤ (ws.length : ℚ) * δ * m :=
  Fir.Proofs.weights_perturbation ws ws' xs δ m hlen hlen2 hδ hm hm0

open Fir.Spec in
theorem qBilinear_support (x : ℚ) (h : 1 ≤ |x|) : qBilinear x = 0 :=
  Fir.Proofs.qBilinear_support x h

open Fir.Spec in
theorem qCatmull_support (x : ℚ) (h : 2 ≤ |x|) : qCatmull x = 0 :=
  Fir.Proofs.qCatmull_support x h

open Fir.Spec in
theorem qMitchell_support (x : ℚ) (h : 2 ≤ |x|) : qMitchell x = 0 :=
  Fir.Proofs.qMitchell_support x h

open Fir.Spec in
theorem qBilinear_even (x : ℚ) : qBilinear (-x) = qBilinear x :=
  Fir.Proofs.qBilinear_even x

open Fir.Spec in
theorem qCatmull_even (x : ℚ) : qCatmull (-x) = qCatmull x :=
  Fir.Proofs.qCatmull_even x

open Fir.Spec in
theorem qMitchell_even (x : ℚ) : qMitchell (-x) = qMitchell x :=
  Fir.Proofs.qMitchell_even x

/-! ### 16-bit components (pass order: horizontal, then vertical) -/

open Fir.Proofs in
theorem horizPass_err_u16 (src : Img) (dstW dstH offset : Nat) (c : Coeffs) (ws : Nat → List ℚ)
    (hp1 : 1 ≤ (qOf .u16 c).precision) (hp : (qOf .u16 c).precision < 64)
    (hlen : ∀ x, x < dstW → (chunkAt .u16 c x).2.toList.length = (ws x).length)
    (hq : ∀ x, x < dstW → ∀ i, i < (ws x).length →
      |(((chunkAt .u16 c x).2.toList.getD i 0 : Int) : ℚ) - (ws x).getD i 0 * 2 ^ (qOf .u16 c).precision| ≤ 1 / 2)
    (hsamp : ∀ x y ch, x < dstW → y < dstH → ch < src.n → ∀ s ∈ hWindow .u16 src offset c x y ch, 0 ≤ s ∧ s ≤ 65535)
    (hacc : ∀ x y ch, x < dstW → y < dstH → ch < src.n →
      AccOK16 (chunkAt .u16 c x).2.toList (hWindow .u16 src offset c x y ch) (qOf .u16 c).precision)
    (x y ch : Nat) (hx : x < dstW) (hy : y < dstH) (hc : ch < src.n) :
    |(((horizPass .u16 src dstW dstH offset c).get x y ch : Int) : ℚ)
        - max 0 (min 65535 (idealDotQ (ws x) (hWindow .u16 src offset c x y ch)))|
      ≤ 1 / 2 + ((ws x).length : ℚ) * 65535 / 2 ^ ((qOf .u16 c).precision + 1) :=
  Fir.Proofs.horizPass_err_u16 src dstW dstH offset c ws hp1 hp hlen hq hsamp hacc x y ch hx hy hc

open Fir.Proofs in
theorem vertPass_err_u16 (src : Img) (dstW dstH offset : Nat) (c : Coeffs) (ws : Nat → List ℚ)
    (hp1 : 1 ≤ (qOf .u16 c).precision) (hp : (qOf .u16 c).precision < 64)
    (hlen : ∀ y, y < dstH → (chunkAt .u16 c y).2.toList.length = (ws y).length)
    (hq : ∀ y, y < dstH → ∀ i, i < (ws y).length →
      |(((chunkAt .u16 c y).2.toList.getD i 0 : Int) : ℚ) - (ws y).getD i 0 * 2 ^ (qOf .u16 c).precision| ≤ 1 / 2)
    (hsamp : ∀ x y ch, x < dstW → y < dstH → ch < src.n → ∀ s ∈ vWindow .u16 src offset c x y ch, 0 ≤ s ∧ s ≤ 65535)
    (hacc : ∀ x y ch, x < dstW → y < dstH → ch < src.n →
      AccOK16 (chunkAt .u16 c y).2.toList (vWindow .u16 src offset c x y ch) (qOf .u16 c).precision)
    (x y ch : Nat) (hx : x < dstW) (hy : y < dstH) (hc : ch < src.n) :
    |(((vertPass .u16 src dstW dstH offset c).get x y ch : Int) : ℚ)
        - max 0 (min 65535 (idealDotQ (ws y) (vWindow .u16 src offset c x y ch)))|
      ≤ 1 / 2 + ((ws y).length : ℚ) * 65535 / 2 ^ ((qOf .u16 c).precision + 1) :=
  Fir.Proofs.vertPass_err_u16 src dstW dstH offset c ws hp1 hp hlen hq hsamp hacc x y ch hx hy hc

open Fir.Proofs in
theorem twoPass_err_u16 (src : Img) (dstW dstH tempH yFirst : Nat) (hc vc : Coeffs) (wsH wsV : Nat → List ℚ)
    (hpH1 : 1 ≤ (qOf .u16 hc).precision) (hpH : (qOf .u16 hc).precision < 64)
    (hpV1 : 1 ≤ (qOf .u16 vc).precision) (hpV : (qOf .u16 vc).precision < 64)
    (hlenH : ∀ x, x < dstW → (chunkAt .u16 hc x).2.toList.length = (wsH x).length)
    (hqH : ∀ x, x < dstW → ∀ i, i < (wsH x).length →
      |(((chunkAt .u16 hc x).2.toList.getD i 0 : Int) : ℚ) - (wsH x).getD i 0 * 2 ^ (qOf .u16 hc).precision| ≤ 1 / 2)
    (hsamp : ∀ x y ch, x < dstW → y < tempH → ch < src.n → ∀ s ∈ hWindow .u16 src yFirst hc x y ch, 0 ≤ s ∧ s ≤ 65535)
    (haccH : ∀ x y ch, x < dstW → y < tempH → ch < src.n →
      AccOK16 (chunkAt .u16 hc x).2.toList (hWindow .u16 src yFirst hc x y ch) (qOf .u16 hc).precision)
    (hlenV : ∀ y, y < dstH → (chunkAt .u16 vc y).2.toList.length = (wsV y).length)
    (hqV : ∀ y, y < dstH → ∀ i, i < (wsV y).length →
      |(((chunkAt .u16 vc y).2.toList.getD i 0 : Int) : ℚ) - (wsV y).getD i 0 * 2 ^ (qOf .u16 vc).precision| ≤ 1 / 2)
    (hfit : ∀ y, y < dstH → (chunkAt .u16 vc y).1 + (chunkAt .u16 vc y).2.size ≤ tempH)
    (haccV : ∀ x y ch, x < dstW → y < dstH → ch < src.n →
      AccOK16 (chunkAt .u16 vc y).2.toList (vWindow .u16 (horizPass .u16 src dstW tempH yFirst hc) 0 vc x y ch) (qOf .u16 vc).precision)
    (x y ch : Nat) (hx : x < dstW) (hy : y < dstH) (hc' : ch < src.n) :
    |(((vertPass .u16 (horizPass .u16 src dstW tempH yFirst hc) dstW dstH 0 vc).get x y ch : Int) : ℚ)
        - idealTwoPass16 src yFirst hc vc wsH wsV x y ch|
      ≤ (1 / 2 + ((wsV y).length : ℚ) * 65535 / 2 ^ ((qOf .u16 vc).precision + 1))
        + ((wsV y).map (|·|)).sum * (1 / 2 + ((wsH x).length : ℚ) * 65535 / 2 ^ ((qOf .u16 hc).precision + 1)) :=
  Fir.Proofs.twoPass_err_u16 src dstW dstH tempH yFirst hc vc wsH wsV hpH1 hpH hpV1 hpV hlenH hqH hsamp haccH hlenV hqV hfit haccV x y ch hx hy hc'

open Fir.Proofs in
theorem doConvolution_two_pass_not_u8 (p : PixT) (hk : (p.kind == CKind.u8) = false) (src prev : Img) (cl ct cw ch : Float) (f : FilterSpec) (adaptive : Bool)
    (hw : prev.w ≠ 0) (hh : prev.h ≠ 0) (hcw : (cw ≤ 0.0) = false) (hch : (ch ≤ 0.0) = false)
    (hneedH : (Float.ofNat prev.w != cw || cl != cl.round) = true)
    (hneedV : (Float.ofNat prev.h != ch || ct != ct.round) = true) :
    let hc := precomputeCoefficients src.w cl (cl + cw) prev.w f adaptive
    let vc := precomputeCoefficients src.h ct (ct + ch) prev.h f adaptive
    doConvolution p src cl ct cw ch prev f adaptive =
      vertPass p.kind (horizPass p.kind src prev.w (boundsLast vc - boundsFirst vc) (boundsFirst vc) hc) prev.w prev.h 0
        { vc with bounds := vc.bounds.map fun b => (b.1 - boundsFirst vc, b.2) } :=
  Fir.Proofs.doConvolution_two_pass_not_u8 p hk src prev cl ct cw ch f adaptive hw hh hcw hch hneedH hneedV

/-- SuperSampling is the convolution of the nearest-neighbour intermediate image it documents
    (factor > 1.2), or the plain convolution (otherwise) - by the model's control flow -/
theorem supersampling_is_conv_of_nearest (p : PixT) (src prev : Img) (cl ct cw ch : Float) (f : FilterSpec) (m : Nat) (useAlpha : Bool)
    (hne : ¬ (prev.w = 0 ∨ prev.h = 0 ∨ cw ≤ 0.0 ∨ ch ≤ 0.0)) :
    resampleSuperSampling p src cl ct cw ch prev f m useAlpha =
      if ssFactor cw ch prev.w prev.h m > 1.2 then
        let tmpW := ssTmpDim cw (ssFactor cw ch prev.w prev.h m)
        let tmpH := ssTmpDim ch (ssFactor cw ch prev.w prev.h m)
        let tmp := nearestPass src cl ct cw ch (Img.fill tmpW tmpH src.n 0)
        match copyImage tmp 0.0 0.0 (Float.ofNat tmpW) (Float.ofNat tmpH) prev with
        | some r => r
        | none => resampleConvolution p tmp 0.0 0.0 (Float.ofNat tmpW) (Float.ofNat tmpH) prev f true useAlpha
      else resampleConvolution p src cl ct cw ch prev f true useAlpha := by
  unfold resampleSuperSampling
  rw [if_neg hne]
  rfl

/-- the super-sampling threshold and the supports of the built-in filters are the documented ones
    (translated from src/resizer.rs and src/convolution/filters.rs) -/
theorem documented_constants :
    Fir.Gen.ssThresholdNum = 12 ∧ Fir.Gen.ssThresholdDen = 10 ∧
    Fir.Gen.filterSupports = [("Box", "box_filter", 5, 10), ("Bilinear", "bilinear_filter", 10, 10),
      ("Hamming", "hamming_filter", 10, 10), ("CatmullRom", "catmul_filter", 20, 10), ("Mitchell", "mitchell_filter", 20, 10),
      ("Gaussian", "gaussian_filter", 30, 10), ("Lanczos3", "lanczos_filter", 30, 10)] := by
  decide

/-! ### I32 and the float formats: `ss += px as f64 * k`, then `round() as i32` / `as f32`

    stated for every rounding function `fl` with relative error `u` (binary64: u = 2^-53), see
    Fir.Proofs.FloatLemmas; the loop `accF` is the portable kernel's accumulation, every product and
    every addition rounded once -/

open Fir.Flt in
/-- accumulated f64 error of one pass of `n` taps: `|ŝ − Σxᵢkᵢ| ≤ ((1+u)^(n+1) − 1)·Σ|xᵢkᵢ|` -/
theorem pass_err_f64 (fl : ℚ → ℚ) (u : ℚ) (hu : 0 ≤ u) (hfl : RelErr fl u) (ks xs : List ℚ) (hlen : ks.length = xs.length) :
    |accF fl ks xs 0 - dotQ ks xs| ≤ gam u ks.length * dotAbs ks xs :=
  accF_err fl u hu hfl ks xs hlen

open Fir.Flt in
/-- I32: the stored value `r = ss.round() as i32` (no saturation) is within half a unit plus the
    accumulated f64 error of the exact weighted sum -/
theorem pass_err_i32 (fl : ℚ → ℚ) (u : ℚ) (hu : 0 ≤ u) (hfl : RelErr fl u) (ks xs : List ℚ) (hlen : ks.length = xs.length)
    (r : ℤ) (hr : |(r : ℚ) - accF fl ks xs 0| ≤ 1 / 2) :
    |(r : ℚ) - dotQ ks xs| ≤ 1 / 2 + gam u ks.length * dotAbs ks xs :=
  (abs_sub_le _ _ _).trans (add_le_add hr (accF_err fl u hu hfl ks xs hlen))

open Fir.Flt in
/-- F32: the stored value `ss as f32` is one binary32 rounding (u32 = 2^-24) of the accumulated sum:
    "a few f32 ulps" = `u32·(|s| + E) + E` with `E` the f64 accumulation error -/
theorem pass_err_f32 (fl fl32 : ℚ → ℚ) (u u32 : ℚ) (hu : 0 ≤ u) (hu32 : 0 ≤ u32) (hfl : RelErr fl u) (hfl32 : RelErr fl32 u32)
    (ks xs : List ℚ) (hlen : ks.length = xs.length) :
    |fl32 (accF fl ks xs 0) - dotQ ks xs|
      ≤ u32 * (|dotQ ks xs| + gam u ks.length * dotAbs ks xs) + gam u ks.length * dotAbs ks xs :=
  round_step hu32 (accF_err fl u hu hfl ks xs hlen) le_rfl (hfl32 _)

open Fir.Flt in
/-- the same bound for every summation order (SIMD lanes + horizontal add), by depth of the tree -/
theorem pass_err_f64_any_order (fl : ℚ → ℚ) (u : ℚ) (hu : 0 ≤ u) (hfl : RelErr fl u) (x k : ℕ → ℚ) (t : Shape) :
    |t.eval fl x k - t.exact x k| ≤ gam u t.depth * t.absSum x k :=
  tree_err fl u hu hfl x k t

/-- non-vacuity: the identity is a rounding with error 0, and then the loop is exact -/
example : Fir.Flt.accF id [1 / 2, 1 / 2] [10, 21] 0 = 31 / 2 := by norm_num [Fir.Flt.accF]
example : Fir.Flt.RelErr id 0 := by intro y; simp

/-! ### non-vacuity -/
example : passInt .u8 [8192, 8192] [10, 21] 14 = 16 := by decide

/-! ### the premises about rounding discharged for IEEE-754 round-to-nearest-even (`Fir.Ieee.flP`) -/

section IeeeInstances
open Fir.Ieee Fir.Flt
/-- `pass_err_f64` for binary64 arithmetic as IEEE-754 defines it (`flP 53`: round-to-nearest-even, proved
    to have relative error 2^-53): no premise about the rounding function is left -/
theorem pass_err_f64_ieee (ks xs : List ℚ) (hlen : ks.length = xs.length) :
    |accF (flP 53) ks xs 0 - dotQ ks xs| ≤ gam (1 / 2 ^ 53) ks.length * dotAbs ks xs :=
  pass_err_f64 (flP 53) (1 / 2 ^ 53) (by positivity) (flP_relErr 53 (by norm_num)) ks xs hlen

/-- `pass_err_f32` with IEEE binary64 accumulation and the IEEE binary32 final rounding -/
theorem pass_err_f32_ieee (ks xs : List ℚ) (hlen : ks.length = xs.length) :
    |flP 24 (accF (flP 53) ks xs 0) - dotQ ks xs|
      ≤ 1 / 2 ^ 24 * (|dotQ ks xs| + gam (1 / 2 ^ 53) ks.length * dotAbs ks xs) + gam (1 / 2 ^ 53) ks.length * dotAbs ks xs :=
  pass_err_f32 (flP 53) (flP 24) (1 / 2 ^ 53) (1 / 2 ^ 24) (by positivity) (by positivity)
    (flP_relErr 53 (by norm_num)) (flP_relErr 24 (by norm_num)) ks xs hlen
end IeeeInstances

end Fir.C01
