/-
  C10 - A uniform image stays uniform: weights form a partition of unity.

  The theorems are about `Fir.passInt`, the very function the executable model evaluates for every
  destination component of an 8/16-bit pass (fixed-point dot product, rounding constant, arithmetic
  shift, translated clip).  `QuantOK` is a decidable predicate on the *integer* coefficients of one
  window; the correspondence check evaluates it on the implementation's own quantised coefficients
  (through the hook) for every enumerated geometry, and the theorem turns each discharged window into
  "every component value, every position".
-/
import Fir.Proofs.TwoPassLemmas
import Fir.Proofs.IdealFilterLemmas
import Fir.Proofs.IeeeLemmas
import Fir.Proofs.SimdPassIntLemmas

namespace Fir.C10

/-- the quantised coefficients of a window reproduce the constant `v` exactly:
    `|v·(Σk − 2^p)| < 2^(p−1)` (with the half-open convention of round-half-up) -/
def QuantOK (ks : List Int) (p : Nat) (v : Int) : Prop :=
  -(2 ^ (p - 1) : Int) ≤ v * (ks.sum - 2 ^ p) ∧ v * (ks.sum - 2 ^ p) < 2 ^ (p - 1)

instance (ks : List Int) (p : Nat) (v : Int) : Decidable (QuantOK ks p v) := by
  unfold QuantOK; infer_instance

theorem dot_uniform (ks : List Int) (v : Int) : dotL ks (List.replicate ks.length v) = v * ks.sum :=
  Fir.Proofs.dotL_replicate ks v

/-- 8-bit pass: a constant row of value `v` (any of the 256 values) is mapped to exactly `v`, for every
    window length, every coefficient set with `QuantOK`, every reachable precision -/
theorem uniform_exact_u8 (ks : List Int) (p : Nat) (v : Int) (hp1 : 1 ≤ p) (hp : p ≤ 22)
    (hv0 : 0 ≤ v) (hv : v ≤ 255) (hq : QuantOK ks p v) :
    passInt .u8 ks (List.replicate ks.length v) p = v :=
  Fir.Proofs.uniform_exact_u8 ks p v hp1 hp hv0 hv hq.1 hq.2

/-- 16-bit pass: the same for all 65,536 values -/
theorem uniform_exact_u16 (ks : List Int) (p : Nat) (v : Int) (hp1 : 1 ≤ p) (hp : p ≤ 46)
    (hv0 : 0 ≤ v) (hv : v ≤ 65535) (hq : QuantOK ks p v) :
    passInt .u16 ks (List.replicate ks.length v) p = v :=
  Fir.Proofs.passInt_uniform (.inr rfl) hp1 hp hv0 hv (List.length_replicate ..) (fun _ => List.eq_of_mem_replicate) hq

/-- `QuantOK` holds for every value up to `m` as soon as the coefficient sum is within
    `2^(p−1)/m` of `2^p` - in particular whenever the sum is exact -/
theorem quantOK_of_sum_close (ks : List Int) (p : Nat) (m v : Int) (hv0 : 0 ≤ v) (hv : v ≤ m)
    (hs : m * |ks.sum - 2 ^ p| < 2 ^ (p - 1)) : QuantOK ks p v :=
  Fir.Proofs.quantOK_of_sum_close ks p m v hv0 hv hs

/-- two passes: a constant image stays constant through vertical-then-horizontal (u8) or
    horizontal-then-vertical (u16) processing, because the intermediate image is again constant -/
theorem uniform_two_pass (k : CKind) (ks1 ks2 : List Int) (p1 p2 : Nat) (v : Int)
    (h1 : passInt k ks1 (List.replicate ks1.length v) p1 = v)
    (h2 : passInt k ks2 (List.replicate ks2.length v) p2 = v) :
    passInt k ks2 (List.replicate ks2.length (passInt k ks1 (List.replicate ks1.length v) p1)) p2 = v := by
  rw [h1, h2]

/-- KNOWN FINDING F17: beyond several thousand taps `QuantOK` can fail. The Box window of a 13678 -> 1
    down-scale quantises (at precision 21) to 13,678 coefficients 153 = round(2^21 / 13678) whose sum is
    2,092,734; the constant 255 is then mapped to 254 (replayed on the implementation by the check) -/
theorem quantOK_fails_at_13678_taps :
    ¬ QuantOK (List.replicate 13678 153) 21 255 ∧
    passInt .u8 (List.replicate 13678 153) (List.replicate 13678 255) 21 = 254 := by
  constructor
  · unfold QuantOK
    rw [List.sum_replicate, nsmul_eq_mul]
    decide
  · have h := Fir.Proofs.dotL_replicate (List.replicate 13678 153) 255
    rw [List.length_replicate, List.sum_replicate, nsmul_eq_mul] at h
    unfold passInt
    simp only [h]
    decide

/-- where `QuantOK` comes from: if every integer coefficient is a rounding (either convention) of
    `wᵢ·2^p` for ideal weights that sum to one up to `ε` (the float normalisation error), then `QuantOK`
    holds for every component value up to `m` as soon as `m·(n/2 + ε·2^p) < 2^(p−1)`, `n` the number of
    taps.  For 8-bit data and ε = 0 that is `255·n < 2^p`: at the largest precision 21 every window up to
    8224 taps is exact whatever the kernel - and F17's 13,678 taps lie beyond it. -/
theorem quantOK_of_rounded_weights (ws : List ℚ) (ks : List Int) (p : Nat) (m v : Int) (ε : ℚ)
    (hlen : ks.length = ws.length)
    (hq : ∀ i, i < ws.length → |(ks.getD i 0 : ℚ) - ws.getD i 0 * 2 ^ p| ≤ 1 / 2)
    (hsum : |ws.sum - 1| ≤ ε) (hv0 : 0 ≤ v) (hv : v ≤ m)
    (hn : (m : ℚ) * ((ws.length : ℚ) / 2 + ε * 2 ^ p) < 2 ^ (p - 1)) : QuantOK ks p v :=
  quantOK_of_sum_close ks p m v hv0 hv
    (Fir.Proofs.quant_sum_close_int ws ks p m ε (le_trans hv0 hv) hlen hq hsum hn)

/-- 8-bit, exact weights: every uniform row is reproduced exactly by any window of fewer than `2^p/255` taps -/
theorem uniform_exact_u8_of_rounded_weights (ws : List ℚ) (ks : List Int) (p : Nat) (v : Int)
    (hp1 : 1 ≤ p) (hp : p ≤ 22) (hlen : ks.length = ws.length)
    (hq : ∀ i, i < ws.length → |(ks.getD i 0 : ℚ) - ws.getD i 0 * 2 ^ p| ≤ 1 / 2)
    (hsum : ws.sum = 1) (hv0 : 0 ≤ v) (hv : v ≤ 255)
    (hn : 255 * (ws.length : ℚ) < 2 ^ p) :
    passInt .u8 ks (List.replicate ks.length v) p = v := by
  refine uniform_exact_u8 ks p v hp1 hp hv0 hv
    (quantOK_of_rounded_weights ws ks p 255 v 0 hlen hq (by simp [hsum]) hv0 hv ?_)
  have h2 : (2 : ℚ) ^ p = 2 * 2 ^ (p - 1) := by exact_mod_cast Fir.Proofs.pow2_pred p hp1
  linarith

/-! ### whole images: the statements above lifted to `Fir.horizPass` / `Fir.vertPass`, the functions the
    executable model (and through the correspondence check the implementation) evaluates.
    `Fir.Proofs.chunkAt k c i` is window `i` (first source index, integer coefficients) of the quantised
    coefficients `Fir.Proofs.qOf k c`; `hWindow` / `vWindow` are the samples that window reads. -/
open Fir.Proofs in
/-- 8-bit horizontal pass: if every sample read is `v` and every window satisfies `QuantOK`, every
    component of the result is `v` -/
theorem horizPass_uniform_u8 (src : Img) (dstW dstH offset : Nat) (c : Coeffs) (v : Int)
    (hv0 : 0 ≤ v) (hv : v ≤ 255) (hp1 : 1 ≤ (qOf .u8 c).precision) (hp : (qOf .u8 c).precision ≤ 22)
    (hread : ∀ x y ch, x < dstW → y < dstH → ch < src.n → ∀ s ∈ hWindow .u8 src offset c x y ch, s = v)
    (hq : ∀ x, x < dstW → QuantOK (chunkAt .u8 c x).2.toList (qOf .u8 c).precision v)
    (x y ch : Nat) (hx : x < dstW) (hy : y < dstH) (hc : ch < src.n) :
    (horizPass .u8 src dstW dstH offset c).get x y ch = v :=
  Fir.Proofs.horizPass_uniform_u8 src dstW dstH offset c v hv0 hv hp1 hp hread hq x y ch hx hy hc

open Fir.Proofs in
theorem vertPass_uniform_u8 (src : Img) (dstW dstH offset : Nat) (c : Coeffs) (v : Int)
    (hv0 : 0 ≤ v) (hv : v ≤ 255) (hp1 : 1 ≤ (qOf .u8 c).precision) (hp : (qOf .u8 c).precision ≤ 22)
    (hread : ∀ x y ch, x < dstW → y < dstH → ch < src.n → ∀ s ∈ vWindow .u8 src offset c x y ch, s = v)
    (hq : ∀ y, y < dstH → QuantOK (chunkAt .u8 c y).2.toList (qOf .u8 c).precision v)
    (x y ch : Nat) (hx : x < dstW) (hy : y < dstH) (hc : ch < src.n) :
    (vertPass .u8 src dstW dstH offset c).get x y ch = v :=
  Fir.Proofs.vertPass_uniform_u8 src dstW dstH offset c v hv0 hv hp1 hp hread hq x y ch hx hy hc

open Fir.Proofs in
theorem horizPass_uniform_u16 (src : Img) (dstW dstH offset : Nat) (c : Coeffs) (v : Int)
    (hv0 : 0 ≤ v) (hv : v ≤ 65535) (hp1 : 1 ≤ (qOf .u16 c).precision) (hp : (qOf .u16 c).precision ≤ 46)
    (hread : ∀ x y ch, x < dstW → y < dstH → ch < src.n → ∀ s ∈ hWindow .u16 src offset c x y ch, s = v)
    (hq : ∀ x, x < dstW → QuantOK (chunkAt .u16 c x).2.toList (qOf .u16 c).precision v)
    (x y ch : Nat) (hx : x < dstW) (hy : y < dstH) (hc : ch < src.n) :
    (horizPass .u16 src dstW dstH offset c).get x y ch = v := by
  rw [horizPass_get (.inr rfl) hx hy hc]
  exact passInt_uniform (.inr rfl) hp1 hp hv0 hv (hWindow_length ..) (hread x y ch hx hy hc) (hq x hx)

open Fir.Proofs in
theorem vertPass_uniform_u16 (src : Img) (dstW dstH offset : Nat) (c : Coeffs) (v : Int)
    (hv0 : 0 ≤ v) (hv : v ≤ 65535) (hp1 : 1 ≤ (qOf .u16 c).precision) (hp : (qOf .u16 c).precision ≤ 46)
    (hread : ∀ x y ch, x < dstW → y < dstH → ch < src.n → ∀ s ∈ vWindow .u16 src offset c x y ch, s = v)
    (hq : ∀ y, y < dstH → QuantOK (chunkAt .u16 c y).2.toList (qOf .u16 c).precision v)
    (x y ch : Nat) (hx : x < dstW) (hy : y < dstH) (hc : ch < src.n) :
    (vertPass .u16 src dstW dstH offset c).get x y ch = v := by
  rw [vertPass_get (.inr rfl) hx hy hc]
  exact passInt_uniform (.inr rfl) hp1 hp hv0 hv (vWindow_length ..) (hread x y ch hx hy hc) (hq y hy)

/-! ### both passes of `do_convolution` composed -/

open Fir.Proofs in
/-- 8-bit order (vertical, then horizontal over the temporary image of width `tempW` that starts at source
    column `xFirst`): if every source sample read is `v`, every window of both passes satisfies the
    `QuantOK` inequalities and every horizontal window lies inside the temporary image, the result is `v` -/
theorem twoPass_uniform_u8 (src : Img) (dstW dstH tempW xFirst : Nat) (vc hc : Coeffs) (v : Int)
    (hv0 : 0 ≤ v) (hv : v ≤ 255)
    (hpV1 : 1 ≤ (qOf .u8 vc).precision) (hpV : (qOf .u8 vc).precision ≤ 22)
    (hpH1 : 1 ≤ (qOf .u8 hc).precision) (hpH : (qOf .u8 hc).precision ≤ 22)
    (hreadV : ∀ x y ch, x < tempW → y < dstH → ch < src.n → ∀ s ∈ vWindow .u8 src xFirst vc x y ch, s = v)
    (hqV : ∀ y, y < dstH →
      -(2 ^ ((qOf .u8 vc).precision - 1) : Int) ≤ v * ((chunkAt .u8 vc y).2.toList.sum - 2 ^ (qOf .u8 vc).precision) ∧
      v * ((chunkAt .u8 vc y).2.toList.sum - 2 ^ (qOf .u8 vc).precision) < 2 ^ ((qOf .u8 vc).precision - 1))
    (hfit : ∀ x, x < dstW → (chunkAt .u8 hc x).1 + (chunkAt .u8 hc x).2.size ≤ tempW)
    (hqH : ∀ x, x < dstW →
      -(2 ^ ((qOf .u8 hc).precision - 1) : Int) ≤ v * ((chunkAt .u8 hc x).2.toList.sum - 2 ^ (qOf .u8 hc).precision) ∧
      v * ((chunkAt .u8 hc x).2.toList.sum - 2 ^ (qOf .u8 hc).precision) < 2 ^ ((qOf .u8 hc).precision - 1))
    (x y ch : Nat) (hx : x < dstW) (hy : y < dstH) (hc' : ch < src.n) :
    (horizPass .u8 (vertPass .u8 src tempW dstH xFirst vc) dstW dstH 0 hc).get x y ch = v :=
  Fir.Proofs.twoPass_uniform_u8 src dstW dstH tempW xFirst vc hc v hv0 hv hpV1 hpV hpH1 hpH hreadV hqV hfit hqH x y ch hx hy hc'

open Fir.Proofs in
/-- 16-bit order (horizontal into a temporary image of height `tempH` that starts at source row `yFirst`,
    then vertical) -/
theorem twoPass_uniform_u16 (src : Img) (dstW dstH tempH yFirst : Nat) (hc vc : Coeffs) (v : Int)
    (hv0 : 0 ≤ v) (hv : v ≤ 65535)
    (hpH1 : 1 ≤ (qOf .u16 hc).precision) (hpH : (qOf .u16 hc).precision ≤ 46)
    (hpV1 : 1 ≤ (qOf .u16 vc).precision) (hpV : (qOf .u16 vc).precision ≤ 46)
    (hreadH : ∀ x y ch, x < dstW → y < tempH → ch < src.n → ∀ s ∈ hWindow .u16 src yFirst hc x y ch, s = v)
    (hqH : ∀ x, x < dstW →
      -(2 ^ ((qOf .u16 hc).precision - 1) : Int) ≤ v * ((chunkAt .u16 hc x).2.toList.sum - 2 ^ (qOf .u16 hc).precision) ∧
      v * ((chunkAt .u16 hc x).2.toList.sum - 2 ^ (qOf .u16 hc).precision) < 2 ^ ((qOf .u16 hc).precision - 1))
    (hfit : ∀ y, y < dstH → (chunkAt .u16 vc y).1 + (chunkAt .u16 vc y).2.size ≤ tempH)
    (hqV : ∀ y, y < dstH →
      -(2 ^ ((qOf .u16 vc).precision - 1) : Int) ≤ v * ((chunkAt .u16 vc y).2.toList.sum - 2 ^ (qOf .u16 vc).precision) ∧
      v * ((chunkAt .u16 vc y).2.toList.sum - 2 ^ (qOf .u16 vc).precision) < 2 ^ ((qOf .u16 vc).precision - 1))
    (x y ch : Nat) (hx : x < dstW) (hy : y < dstH) (hc' : ch < src.n) :
    (vertPass .u16 (horizPass .u16 src dstW tempH yFirst hc) dstW dstH 0 vc).get x y ch = v := by
  refine vertPass_uniform_u16 _ dstW dstH 0 vc v hv0 hv hpV1 hpV
    (fun x' y' ch' hx' hy' hch' => forall_mem_window fun j hj => ?_) hqV x y ch hx hy hc'
  have := hfit y' hy'
  exact horizPass_uniform_u16 src dstW tempH yFirst hc v hv0 hv hpH1 hpH hreadH hqH _ _ _ (by omega) (by omega) hch'

/-! ### the ideal weights (`Fir.Spec.IdealFilter`, exact rationals): a partition of unity.
    The correspondence check compares the implementation's f64 weights with `Fir.Spec.idealWeights` (within 1e-9, every
    window of every generated geometry, polynomial kernels) and checks that they are the numbers the integer
    coefficients are roundings of (hypothesis `hq` above, exactly, all kernels). -/

open Fir.Spec in
theorem normalise_sum_one (ws : List ℚ) (h : ws.sum ≠ 0) : (normalise ws).sum = 1 :=
  Fir.Proofs.normalise_sum_one ws h

open Fir.Spec in
/-- C10 (ideal): the ideal weights of a window whose kernel values do not cancel sum to exactly one -/
theorem idealWeights_sum_one (inSize : Nat) (in0 in1 : ℚ) (outSize : Nat) (flt : QFilter) (adaptive : Bool) (o : Nat)
    (h : (idealRaw inSize in0 in1 outSize flt adaptive o).2.sum ≠ 0) :
    (idealWeights inSize in0 in1 outSize flt adaptive o).2.sum = 1 :=
  Fir.Proofs.idealWeights_sum_one inSize in0 in1 outSize flt adaptive o h

open Fir.Spec in
/-- partition of unity of the kernels themselves on one period: for 0 ≤ t ≤ 1 the integer translates sum to one -/
theorem qBilinear_partition (t : ℚ) (h0 : 0 ≤ t) (h1 : t ≤ 1) : qBilinear t + qBilinear (t - 1) = 1 :=
  Fir.Proofs.qBilinear_partition t h0 h1

open Fir.Spec in
theorem qCatmull_partition (t : ℚ) (h0 : 0 ≤ t) (h1 : t ≤ 1) :
    qCatmull (t + 1) + qCatmull t + qCatmull (t - 1) + qCatmull (t - 2) = 1 :=
  Fir.Proofs.qCatmull_partition t h0 h1

open Fir.Spec in
theorem qMitchell_partition (t : ℚ) (h0 : 0 ≤ t) (h1 : t ≤ 1) :
    qMitchell (t + 1) + qMitchell t + qMitchell (t - 1) + qMitchell (t - 2) = 1 :=
  Fir.Proofs.qMitchell_partition t h0 h1

open Fir.Spec in
/-- the interpolating kernels take the value 1 at 0 and 0 at the other integers of their support;
    Mitchell is smoothing: 8/9 at 0 and 1/18 at ±1 (so integer samples still sum to one) -/
theorem qCatmull_at_integers : qCatmull 0 = 1 ∧ qCatmull 1 = 0 ∧ qCatmull 2 = 0 :=
  Fir.Proofs.qCatmull_at_integers 

open Fir.Spec in
theorem qMitchell_at_integers : qMitchell 0 = 8 / 9 ∧ qMitchell 1 = 1 / 18 ∧ qMitchell 2 = 0 :=
  Fir.Proofs.qMitchell_at_integers 

open Fir.Flt in
/-- a constant row `v` through the f64 accumulation (any summation order) comes out as `v` up to the
    accumulated rounding `γ(depth)·|v|·Σ|kᵢ|` and the defect `|v|·|Σkᵢ − 1|` of the f64 weights from a
    partition of unity (checked per geometry on the implementation's weights: ≤ 1e-9, in fact ≤ n·2^-53).
    For I32 the final `round()` absorbs it whenever the total is below 1/2; for F32 it is below one ulp
    of `v` (2^-24·|v|) as soon as `γ·Σ|k| + |Σk − 1| < 2^-25` -/
theorem uniform_float (fl : ℚ → ℚ) (u : ℚ) (hu : 0 ≤ u) (hfl : RelErr fl u) (v : ℚ) (k : ℕ → ℚ) (t : Shape) :
    |t.eval fl (fun _ => v) k - v| ≤ gam u t.depth * (|v| * t.kAbs k) + |v| * |t.kSum k - 1| :=
  Fir.Flt.uniform_float fl u hu hfl v k t

/-- I32: if the accumulated value is within less than 1/2 of the integer `v`, every integer nearest to it is `v` -/
theorem uniform_i32 (v r : ℤ) (s : ℚ) (hs : |s - v| < 1 / 2) (hr : |(r : ℚ) - s| ≤ 1 / 2) : r = v := by
  have h : |((r - v : ℤ) : ℚ)| < 1 := by
    rw [Int.cast_sub]
    exact (abs_sub_le _ s _).trans_lt (by linarith)
  exact sub_eq_zero.mp (Int.abs_lt_one_iff.mp (by exact_mod_cast h))

/-! ### non-vacuity -/
example : QuantOK [4096, 8192, 4096] 14 255 := by decide
example : passInt .u8 [4096, 8192, 4096] (List.replicate 3 200) 14 = 200 := by decide
example : QuantOK [5461, 5462, 5461] 14 255 := by decide

/-! ### the premises about rounding discharged for IEEE-754 round-to-nearest-even (`Fir.Ieee.flP`) -/

section IeeeInstances
open Fir.Ieee Fir.Flt
theorem uniform_float_ieee (v : ℚ) (k : ℕ → ℚ) (t : Shape) :
    |t.eval (flP 53) (fun _ => v) k - v| ≤ gam (1 / 2 ^ 53) t.depth * (|v| * t.kAbs k) + |v| * |t.kSum k - 1| :=
  uniform_float (flP 53) (1 / 2 ^ 53) (by positivity) (flP_relErr 53 (by norm_num)) v k t
end IeeeInstances

/-! ### the exactness theorems reach the SIMD back-ends

    The lane-accurate models of the SSE4.1 horizontal kernels (`Fir.SimdU16x4.pixel` for RGBA16, `Fir.SimdU8x4.pixel` for RGBA8; proved
    equal to `passInt` in Fir.C02, executed against the real kernels on every run) give the very value of a uniform row, under the same
    premise on the quantised coefficients as the portable kernel. -/

theorem uniform_exact_u16x4_sse4 (ks : List Int) (p : Nat) (v : Int) (row : List Int) (start c : Nat) (hc : c < 4)
    (hp1 : 1 ≤ p) (hp : p ≤ 46) (hv0 : 0 ≤ v) (hv : v ≤ 65535)
    (hk : ∀ k ∈ ks, -2147483648 ≤ k ∧ k ≤ 2147483647) (hrow : ∀ i, row.getD i 0 = v) (hq : QuantOK ks p v) :
    (Fir.SimdU16x4.pixel p row start ks).getD c 0 = v := by
  rw [Fir.Proofs.PassInt.u16x4 p row start ks c hc hk (fun i => by rw [hrow i]; exact ⟨hv0, hv⟩)]
  exact Fir.Proofs.passInt_uniform (.inr rfl) hp1 hp hv0 hv (Fir.Proofs.window_length ..)
    (Fir.Proofs.forall_mem_window fun _ _ => hrow _) hq

theorem uniform_exact_u8x4_sse4 (ks : List Int) (p : Nat) (v : Int) (row : List Int) (start c : Nat) (hc : c < 4)
    (hp1 : 1 ≤ p) (hp : p ≤ 22) (hv0 : 0 ≤ v) (hv : v ≤ 255)
    (hk : ∀ k ∈ ks, -32768 ≤ k ∧ k ≤ 32767) (hrow : ∀ i, row.getD i 0 = v) (hq : QuantOK ks p v) :
    (Fir.SimdU8x4.pixel p row start ks).getD c 0 = v := by
  rw [Fir.Proofs.u8x4_sse4_pixel_eq_passInt p (by omega) row start ks c hc hk (fun i => by rw [hrow i]; exact ⟨hv0, hv⟩)]
  exact Fir.Proofs.passInt_uniform (.inl rfl) hp1 hp hv0 hv (Fir.Proofs.window_length ..)
    (Fir.Proofs.forall_mem_window fun _ _ => hrow _) hq

end Fir.C10
