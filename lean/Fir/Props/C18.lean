/-
  C18 - Non-negative filters never overshoot and preserve the order of inputs.

  Theorems about `Fir.passInt` (the arithmetic of one destination component of an 8/16-bit pass):
  with non-negative integer coefficients the pass is monotone in every source sample, and - together
  with C10's `QuantOK` at the two range ends - its result stays inside the range of its inputs.
  That the coefficients of Box / Bilinear / Hamming / Gaussian windows are non-negative is checked
  on the implementation's own quantised coefficients for every generated geometry (sign of the f64
  kernel values is not a kernel-checked fact; that a non-negative kernel value yields a non-negative
  coefficient under every monotone rounding is: `nonneg_weights`).  Float formats: `float_pass_monotone`, `float_tree_monotone`,
  `float_range` (monotone under any monotone rounding and any summation order); the correspondence oracle
  allows them one ulp of slack.
-/
import Fir.Props.C10
import Fir.Proofs.GeomLemmas

namespace Fir.C18

def RowLe (xs ys : List Int) : Prop := xs.length = ys.length ∧ ∀ i, i < xs.length → xs.getD i 0 ≤ ys.getD i 0

instance (xs ys : List Int) : Decidable (RowLe xs ys) := by
  unfold RowLe; infer_instance

theorem dot_monotone (ks xs ys : List Int) (hk : ∀ k ∈ ks, 0 ≤ k) (h : RowLe xs ys) : dotL ks xs ≤ dotL ks ys :=
  Fir.Proofs.dotL_monotone ks xs ys hk h.1 h.2

/-- 8-bit pass: order preserving (the sums are assumed to fit the i32 accumulator, as they do whenever
    the window's coefficient sum is within the two head-room bits; see C03) -/
theorem pass_monotone_u8 (ks xs ys : List Int) (p : Nat) (hp : p < 32) (hk : ∀ k ∈ ks, 0 ≤ k) (h : RowLe xs ys)
    (hx : -(2 ^ 31 : Int) ≤ 2 ^ (p - 1) + dotL ks xs ∧ 2 ^ (p - 1) + dotL ks xs < 2 ^ 31)
    (hy : -(2 ^ 31 : Int) ≤ 2 ^ (p - 1) + dotL ks ys ∧ 2 ^ (p - 1) + dotL ks ys < 2 ^ 31) :
    passInt .u8 ks xs p ≤ passInt .u8 ks ys p :=
  Fir.Proofs.pass_monotone_u8 ks xs ys p hp hk h.1 h.2 hx hy

theorem pass_monotone_u16 (ks xs ys : List Int) (p : Nat) (hp : p < 64) (hk : ∀ k ∈ ks, 0 ≤ k) (h : RowLe xs ys)
    (hx : -(2 ^ 63 : Int) ≤ 2 ^ (p - 1) + dotL ks xs ∧ 2 ^ (p - 1) + dotL ks xs < 2 ^ 63)
    (hy : -(2 ^ 63 : Int) ≤ 2 ^ (p - 1) + dotL ks ys ∧ 2 ^ (p - 1) + dotL ks ys < 2 ^ 63) :
    passInt .u16 ks xs p ≤ passInt .u16 ks ys p :=
  Fir.Proofs.passInt_mono (.inr rfl) hk h hx hy

/-- range preservation (8 bit): if every sample of the window lies in `[lo, hi]`, coefficients are
    non-negative and the window reproduces the constants `lo` and `hi` (C10), the result lies in `[lo, hi]` -/
theorem range_from_uniform_u8 (ks xs : List Int) (p : Nat) (lo hi : Int) (hp1 : 1 ≤ p) (hp : p ≤ 22)
    (hk : ∀ k ∈ ks, 0 ≤ k) (hlen : xs.length = ks.length)
    (hlo0 : 0 ≤ lo) (hhi : hi ≤ 255) (hx : ∀ x ∈ xs, lo ≤ x ∧ x ≤ hi)
    (hqlo : C10.QuantOK ks p lo) (hqhi : C10.QuantOK ks p hi) :
    lo ≤ passInt .u8 ks xs p ∧ passInt .u8 ks xs p ≤ hi :=
  Fir.Proofs.range_from_uniform_u8 ks xs p lo hi hp1 hp hk hlen hlo0 hhi hx hqlo.1 hqlo.2 hqhi.1 hqhi.2

/-- zero-extended 8-bit samples are non-negative 16-bit lanes and a pair product of `madd_epi16`
    cannot overflow: |a·k + a'·k'| < 2^31 for 0 ≤ a, a' ≤ 255, |k|, |k'| ≤ 2^15 -/
theorem madd_epi16_exact (a a' k k' : Int) (ha : 0 ≤ a ∧ a ≤ 255) (ha' : 0 ≤ a' ∧ a' ≤ 255)
    (hk : -32768 ≤ k ∧ k ≤ 32767) (hk' : -32768 ≤ k' ∧ k' ≤ 32767) :
    -(2 ^ 31 : Int) < a * k + a' * k' ∧ a * k + a' * k' < 2 ^ 31 :=
  Fir.Proofs.madd_epi16_exact a a' k k' ha ha' hk hk'

/-! ### whole images (`Fir.horizPass` / `Fir.vertPass` of the executable model) -/

/-- the i32 accumulator of an 8-bit window cannot overflow inside the documented head-room:
    `255·Σ|kᵢ| + 2^(p−1) < 2^31` -/
theorem accOK8_of_abs_sum (ks xs : List Int) (p : Nat) (hx : ∀ x ∈ xs, 0 ≤ x ∧ x ≤ 255)
    (h : 255 * (ks.map (|·|)).sum + 2 ^ (p - 1) < 2 ^ 31) : Fir.Proofs.AccOK8 ks xs p :=
  Fir.Proofs.accOK_of_abs_sum (.inl rfl) hx h

theorem accOK16_of_abs_sum (ks xs : List Int) (p : Nat) (hx : ∀ x ∈ xs, 0 ≤ x ∧ x ≤ 65535)
    (h : 65535 * (ks.map (|·|)).sum + 2 ^ (p - 1) < 2 ^ 63) : Fir.Proofs.AccOK16 ks xs p :=
  Fir.Proofs.accOK_of_abs_sum (.inr rfl) hx h

open Fir.Proofs in
/-- order preservation of a whole horizontal 8-bit pass with non-negative coefficients: if `src ≤ src'`
    wherever the pass reads, the result of `src` is ≤ the result of `src'` at every component -/
theorem horizPass_monotone_u8 (src src' : Img) (dstW dstH offset : Nat) (c : Coeffs) (hn : src.n = src'.n)
    (hp : (qOf .u8 c).precision < 32)
    (hk : ∀ x, x < dstW → ∀ k ∈ (chunkAt .u8 c x).2.toList, 0 ≤ k)
    (hle : ∀ x y ch j, src.get ((chunkAt .u8 c x).1 + j) (offset + y) ch ≤ src'.get ((chunkAt .u8 c x).1 + j) (offset + y) ch)
    (hacc : ∀ x y ch, x < dstW → y < dstH → ch < src.n →
      AccOK8 (chunkAt .u8 c x).2.toList (hWindow .u8 src offset c x y ch) (qOf .u8 c).precision ∧
      AccOK8 (chunkAt .u8 c x).2.toList (hWindow .u8 src' offset c x y ch) (qOf .u8 c).precision)
    (x y ch : Nat) (hx : x < dstW) (hy : y < dstH) (hc : ch < src.n) :
    (horizPass .u8 src dstW dstH offset c).get x y ch ≤ (horizPass .u8 src' dstW dstH offset c).get x y ch :=
  Fir.Proofs.horizPass_monotone_u8 src src' dstW dstH offset c hn hp hk hle hacc x y ch hx hy hc

open Fir.Proofs in
theorem vertPass_monotone_u8 (src src' : Img) (dstW dstH offset : Nat) (c : Coeffs) (hn : src.n = src'.n)
    (hp : (qOf .u8 c).precision < 32)
    (hk : ∀ y, y < dstH → ∀ k ∈ (chunkAt .u8 c y).2.toList, 0 ≤ k)
    (hle : ∀ x y ch j, src.get (offset + x) ((chunkAt .u8 c y).1 + j) ch ≤ src'.get (offset + x) ((chunkAt .u8 c y).1 + j) ch)
    (hacc : ∀ x y ch, x < dstW → y < dstH → ch < src.n →
      AccOK8 (chunkAt .u8 c y).2.toList (vWindow .u8 src offset c x y ch) (qOf .u8 c).precision ∧
      AccOK8 (chunkAt .u8 c y).2.toList (vWindow .u8 src' offset c x y ch) (qOf .u8 c).precision)
    (x y ch : Nat) (hx : x < dstW) (hy : y < dstH) (hc : ch < src.n) :
    (vertPass .u8 src dstW dstH offset c).get x y ch ≤ (vertPass .u8 src' dstW dstH offset c).get x y ch :=
  Fir.Proofs.vertPass_monotone_u8 src src' dstW dstH offset c hn hp hk hle hacc x y ch hx hy hc

open Fir.Proofs in
theorem horizPass_monotone_u16 (src src' : Img) (dstW dstH offset : Nat) (c : Coeffs) (hn : src.n = src'.n)
    (hp : (qOf .u16 c).precision < 64)
    (hk : ∀ x, x < dstW → ∀ k ∈ (chunkAt .u16 c x).2.toList, 0 ≤ k)
    (hle : ∀ x y ch j, src.get ((chunkAt .u16 c x).1 + j) (offset + y) ch ≤ src'.get ((chunkAt .u16 c x).1 + j) (offset + y) ch)
    (hacc : ∀ x y ch, x < dstW → y < dstH → ch < src.n →
      AccOK16 (chunkAt .u16 c x).2.toList (hWindow .u16 src offset c x y ch) (qOf .u16 c).precision ∧
      AccOK16 (chunkAt .u16 c x).2.toList (hWindow .u16 src' offset c x y ch) (qOf .u16 c).precision)
    (x y ch : Nat) (hx : x < dstW) (hy : y < dstH) (hc : ch < src.n) :
    (horizPass .u16 src dstW dstH offset c).get x y ch ≤ (horizPass .u16 src' dstW dstH offset c).get x y ch := by
  rw [horizPass_get (.inr rfl) hx hy hc, horizPass_get (.inr rfl) hx hy (hn ▸ hc)]
  exact passInt_mono (.inr rfl) (hk x hx) (window_le fun j _ => hle x y ch j)
    (hacc x y ch hx hy hc).1 (hacc x y ch hx hy hc).2

open Fir.Proofs in
theorem vertPass_monotone_u16 (src src' : Img) (dstW dstH offset : Nat) (c : Coeffs) (hn : src.n = src'.n)
    (hp : (qOf .u16 c).precision < 64)
    (hk : ∀ y, y < dstH → ∀ k ∈ (chunkAt .u16 c y).2.toList, 0 ≤ k)
    (hle : ∀ x y ch j, src.get (offset + x) ((chunkAt .u16 c y).1 + j) ch ≤ src'.get (offset + x) ((chunkAt .u16 c y).1 + j) ch)
    (hacc : ∀ x y ch, x < dstW → y < dstH → ch < src.n →
      AccOK16 (chunkAt .u16 c y).2.toList (vWindow .u16 src offset c x y ch) (qOf .u16 c).precision ∧
      AccOK16 (chunkAt .u16 c y).2.toList (vWindow .u16 src' offset c x y ch) (qOf .u16 c).precision)
    (x y ch : Nat) (hx : x < dstW) (hy : y < dstH) (hc : ch < src.n) :
    (vertPass .u16 src dstW dstH offset c).get x y ch ≤ (vertPass .u16 src' dstW dstH offset c).get x y ch := by
  rw [vertPass_get (.inr rfl) hx hy hc, vertPass_get (.inr rfl) hx hy (hn ▸ hc)]
  exact passInt_mono (.inr rfl) (hk y hy) (window_le fun j _ => hle x y ch j)
    (hacc x y ch hx hy hc).1 (hacc x y ch hx hy hc).2

/-! ### both passes of `do_convolution` composed (8-bit order) -/

open Fir.Proofs in
theorem twoPass_monotone_u8 (src src' : Img) (dstW dstH tempW xFirst : Nat) (vc hc : Coeffs) (hn : src.n = src'.n)
    (hpV : (qOf .u8 vc).precision < 32) (hpH : (qOf .u8 hc).precision < 32)
    (hkV : ∀ y, y < dstH → ∀ k ∈ (chunkAt .u8 vc y).2.toList, 0 ≤ k)
    (hkH : ∀ x, x < dstW → ∀ k ∈ (chunkAt .u8 hc x).2.toList, 0 ≤ k)
    (hle : ∀ x y ch j, src.get (xFirst + x) ((chunkAt .u8 vc y).1 + j) ch ≤ src'.get (xFirst + x) ((chunkAt .u8 vc y).1 + j) ch)
    (haccV : ∀ x y ch, x < tempW → y < dstH → ch < src.n →
      AccOK8 (chunkAt .u8 vc y).2.toList (vWindow .u8 src xFirst vc x y ch) (qOf .u8 vc).precision ∧
      AccOK8 (chunkAt .u8 vc y).2.toList (vWindow .u8 src' xFirst vc x y ch) (qOf .u8 vc).precision)
    (hfit : ∀ x, x < dstW → (chunkAt .u8 hc x).1 + (chunkAt .u8 hc x).2.size ≤ tempW)
    (haccH : ∀ x y ch, x < dstW → y < dstH → ch < src.n →
      AccOK8 (chunkAt .u8 hc x).2.toList (hWindow .u8 (vertPass .u8 src tempW dstH xFirst vc) 0 hc x y ch) (qOf .u8 hc).precision ∧
      AccOK8 (chunkAt .u8 hc x).2.toList (hWindow .u8 (vertPass .u8 src' tempW dstH xFirst vc) 0 hc x y ch) (qOf .u8 hc).precision)
    (x y ch : Nat) (hx : x < dstW) (hy : y < dstH) (hc' : ch < src.n) :
    (horizPass .u8 (vertPass .u8 src tempW dstH xFirst vc) dstW dstH 0 hc).get x y ch
      ≤ (horizPass .u8 (vertPass .u8 src' tempW dstH xFirst vc) dstW dstH 0 hc).get x y ch :=
  Fir.Proofs.twoPass_monotone_u8 src src' dstW dstH tempW xFirst vc hc hn hpV hpH hkV hkH hle haccV hfit haccH x y ch hx hy hc'

/-! ### the ideal statement (`Fir.Spec.IdealFilter`): box and triangle windows are convex combinations -/

open Fir.Spec in
theorem qBox_nonneg (x : ℚ) : 0 ≤ qBox x :=
  Fir.Proofs.qBox_nonneg x

open Fir.Spec in
theorem qBilinear_nonneg (x : ℚ) : 0 ≤ qBilinear x :=
  Fir.Proofs.qBilinear_nonneg x

open Fir.Spec in
theorem idealWeights_nonneg_box (inSize : Nat) (in0 in1 : ℚ) (outSize : Nat) (adaptive : Bool) (o : Nat) :
    ∀ w ∈ (idealWeights inSize in0 in1 outSize ⟨qBox, 1 / 2⟩ adaptive o).2, 0 ≤ w :=
  Fir.Proofs.idealWeights_nonneg_box inSize in0 in1 outSize adaptive o

open Fir.Spec in
theorem idealWeights_nonneg_bilinear (inSize : Nat) (in0 in1 : ℚ) (outSize : Nat) (adaptive : Bool) (o : Nat) :
    ∀ w ∈ (idealWeights inSize in0 in1 outSize ⟨qBilinear, 1⟩ adaptive o).2, 0 ≤ w :=
  Fir.Proofs.idealWeights_nonneg_bilinear inSize in0 in1 outSize adaptive o

open Fir.Spec in
/-- a convex combination stays inside the range of its inputs (the ideal statement behind C18) -/
theorem convex_combination_range (ws xs : List ℚ) (lo hi : ℚ) (hlen : xs.length = ws.length)
    (hw : ∀ w ∈ ws, 0 ≤ w) (hsum : ws.sum = 1) (hx : ∀ x ∈ xs, lo ≤ x ∧ x ≤ hi) :
    lo ≤ (List.zipWith (· * ·) ws xs).sum ∧ (List.zipWith (· * ·) ws xs).sum ≤ hi :=
  Fir.Proofs.convex_combination_range ws xs lo hi hlen hw hsum hx

open Fir.Proofs in
/-- no overshoot, one 8-bit horizontal pass on a whole image: if every sample read lies in `[lo, hi]`, the
    coefficients are non-negative and every window reproduces the constants `lo` and `hi` (the `QuantOK`
    inequalities of C10 at `lo` and at `hi`), every component of the result lies in `[lo, hi]` -/
theorem horizPass_range_u8 (src : Img) (dstW dstH offset : Nat) (c : Coeffs) (lo hi : Int)
    (hlo0 : 0 ≤ lo) (hlh : lo ≤ hi) (hhi : hi ≤ 255)
    (hp1 : 1 ≤ (qOf .u8 c).precision) (hp : (qOf .u8 c).precision ≤ 22)
    (hk : ∀ x, x < dstW → ∀ k ∈ (chunkAt .u8 c x).2.toList, 0 ≤ k)
    (hread : ∀ x y ch, x < dstW → y < dstH → ch < src.n → ∀ s ∈ hWindow .u8 src offset c x y ch, lo ≤ s ∧ s ≤ hi)
    (hqlo : ∀ x, x < dstW →
      -(2 ^ ((qOf .u8 c).precision - 1) : Int) ≤ lo * ((chunkAt .u8 c x).2.toList.sum - 2 ^ (qOf .u8 c).precision) ∧
      lo * ((chunkAt .u8 c x).2.toList.sum - 2 ^ (qOf .u8 c).precision) < 2 ^ ((qOf .u8 c).precision - 1))
    (hqhi : ∀ x, x < dstW →
      -(2 ^ ((qOf .u8 c).precision - 1) : Int) ≤ hi * ((chunkAt .u8 c x).2.toList.sum - 2 ^ (qOf .u8 c).precision) ∧
      hi * ((chunkAt .u8 c x).2.toList.sum - 2 ^ (qOf .u8 c).precision) < 2 ^ ((qOf .u8 c).precision - 1))
    (x y ch : Nat) (hx : x < dstW) (hy : y < dstH) (hc : ch < src.n) :
    lo ≤ (horizPass .u8 src dstW dstH offset c).get x y ch ∧ (horizPass .u8 src dstW dstH offset c).get x y ch ≤ hi :=
  Fir.Proofs.horizPass_range_u8 src dstW dstH offset c lo hi hlo0 hlh hhi hp1 hp hk hread hqlo hqhi x y ch hx hy hc

open Fir.Proofs in
theorem vertPass_range_u8 (src : Img) (dstW dstH offset : Nat) (c : Coeffs) (lo hi : Int)
    (hlo0 : 0 ≤ lo) (hlh : lo ≤ hi) (hhi : hi ≤ 255)
    (hp1 : 1 ≤ (qOf .u8 c).precision) (hp : (qOf .u8 c).precision ≤ 22)
    (hk : ∀ y, y < dstH → ∀ k ∈ (chunkAt .u8 c y).2.toList, 0 ≤ k)
    (hread : ∀ x y ch, x < dstW → y < dstH → ch < src.n → ∀ s ∈ vWindow .u8 src offset c x y ch, lo ≤ s ∧ s ≤ hi)
    (hqlo : ∀ y, y < dstH →
      -(2 ^ ((qOf .u8 c).precision - 1) : Int) ≤ lo * ((chunkAt .u8 c y).2.toList.sum - 2 ^ (qOf .u8 c).precision) ∧
      lo * ((chunkAt .u8 c y).2.toList.sum - 2 ^ (qOf .u8 c).precision) < 2 ^ ((qOf .u8 c).precision - 1))
    (hqhi : ∀ y, y < dstH →
      -(2 ^ ((qOf .u8 c).precision - 1) : Int) ≤ hi * ((chunkAt .u8 c y).2.toList.sum - 2 ^ (qOf .u8 c).precision) ∧
      hi * ((chunkAt .u8 c y).2.toList.sum - 2 ^ (qOf .u8 c).precision) < 2 ^ ((qOf .u8 c).precision - 1))
    (x y ch : Nat) (hx : x < dstW) (hy : y < dstH) (hc : ch < src.n) :
    lo ≤ (vertPass .u8 src dstW dstH offset c).get x y ch ∧ (vertPass .u8 src dstW dstH offset c).get x y ch ≤ hi :=
  Fir.Proofs.vertPass_range_u8 src dstW dstH offset c lo hi hlo0 hlh hhi hp1 hp hk hread hqlo hqhi x y ch hx hy hc

open Fir.Proofs in
/-- no overshoot through both passes (8-bit order) -/
theorem twoPass_range_u8 (src : Img) (dstW dstH tempW xFirst : Nat) (vc hc : Coeffs) (lo hi : Int)
    (hlo0 : 0 ≤ lo) (hlh : lo ≤ hi) (hhi : hi ≤ 255)
    (hpV1 : 1 ≤ (qOf .u8 vc).precision) (hpV : (qOf .u8 vc).precision ≤ 22)
    (hpH1 : 1 ≤ (qOf .u8 hc).precision) (hpH : (qOf .u8 hc).precision ≤ 22)
    (hkV : ∀ y, y < dstH → ∀ k ∈ (chunkAt .u8 vc y).2.toList, 0 ≤ k)
    (hkH : ∀ x, x < dstW → ∀ k ∈ (chunkAt .u8 hc x).2.toList, 0 ≤ k)
    (hread : ∀ x y ch, x < tempW → y < dstH → ch < src.n → ∀ s ∈ vWindow .u8 src xFirst vc x y ch, lo ≤ s ∧ s ≤ hi)
    (hqVlo : ∀ y, y < dstH →
      -(2 ^ ((qOf .u8 vc).precision - 1) : Int) ≤ lo * ((chunkAt .u8 vc y).2.toList.sum - 2 ^ (qOf .u8 vc).precision) ∧
      lo * ((chunkAt .u8 vc y).2.toList.sum - 2 ^ (qOf .u8 vc).precision) < 2 ^ ((qOf .u8 vc).precision - 1))
    (hqVhi : ∀ y, y < dstH →
      -(2 ^ ((qOf .u8 vc).precision - 1) : Int) ≤ hi * ((chunkAt .u8 vc y).2.toList.sum - 2 ^ (qOf .u8 vc).precision) ∧
      hi * ((chunkAt .u8 vc y).2.toList.sum - 2 ^ (qOf .u8 vc).precision) < 2 ^ ((qOf .u8 vc).precision - 1))
    (hfit : ∀ x, x < dstW → (chunkAt .u8 hc x).1 + (chunkAt .u8 hc x).2.size ≤ tempW)
    (hqHlo : ∀ x, x < dstW →
      -(2 ^ ((qOf .u8 hc).precision - 1) : Int) ≤ lo * ((chunkAt .u8 hc x).2.toList.sum - 2 ^ (qOf .u8 hc).precision) ∧
      lo * ((chunkAt .u8 hc x).2.toList.sum - 2 ^ (qOf .u8 hc).precision) < 2 ^ ((qOf .u8 hc).precision - 1))
    (hqHhi : ∀ x, x < dstW →
      -(2 ^ ((qOf .u8 hc).precision - 1) : Int) ≤ hi * ((chunkAt .u8 hc x).2.toList.sum - 2 ^ (qOf .u8 hc).precision) ∧
      hi * ((chunkAt .u8 hc x).2.toList.sum - 2 ^ (qOf .u8 hc).precision) < 2 ^ ((qOf .u8 hc).precision - 1))
    (x y ch : Nat) (hx : x < dstW) (hy : y < dstH) (hc' : ch < src.n) :
    lo ≤ (horizPass .u8 (vertPass .u8 src tempW dstH xFirst vc) dstW dstH 0 hc).get x y ch ∧
    (horizPass .u8 (vertPass .u8 src tempW dstH xFirst vc) dstW dstH 0 hc).get x y ch ≤ hi :=
  Fir.Proofs.twoPass_range_u8 src dstW dstH tempW xFirst vc hc lo hi hlo0 hlh hhi hpV1 hpV hpH1 hpH hkV hkH hread hqVlo hqVhi hfit hqHlo hqHhi x y ch hx hy hc'

open Fir.Proofs in
theorem twoPass_monotone_u16 (src src' : Img) (dstW dstH tempH yFirst : Nat) (hc vc : Coeffs) (hn : src.n = src'.n)
    (hpH : (qOf .u16 hc).precision < 64) (hpV : (qOf .u16 vc).precision < 64)
    (hkH : ∀ x, x < dstW → ∀ k ∈ (chunkAt .u16 hc x).2.toList, 0 ≤ k)
    (hkV : ∀ y, y < dstH → ∀ k ∈ (chunkAt .u16 vc y).2.toList, 0 ≤ k)
    (hle : ∀ x y ch j, src.get ((chunkAt .u16 hc x).1 + j) (yFirst + y) ch ≤ src'.get ((chunkAt .u16 hc x).1 + j) (yFirst + y) ch)
    (haccH : ∀ x y ch, x < dstW → y < tempH → ch < src.n →
      AccOK16 (chunkAt .u16 hc x).2.toList (hWindow .u16 src yFirst hc x y ch) (qOf .u16 hc).precision ∧
      AccOK16 (chunkAt .u16 hc x).2.toList (hWindow .u16 src' yFirst hc x y ch) (qOf .u16 hc).precision)
    (hfit : ∀ y, y < dstH → (chunkAt .u16 vc y).1 + (chunkAt .u16 vc y).2.size ≤ tempH)
    (haccV : ∀ x y ch, x < dstW → y < dstH → ch < src.n →
      AccOK16 (chunkAt .u16 vc y).2.toList (vWindow .u16 (horizPass .u16 src dstW tempH yFirst hc) 0 vc x y ch) (qOf .u16 vc).precision ∧
      AccOK16 (chunkAt .u16 vc y).2.toList (vWindow .u16 (horizPass .u16 src' dstW tempH yFirst hc) 0 vc x y ch) (qOf .u16 vc).precision)
    (x y ch : Nat) (hx : x < dstW) (hy : y < dstH) (hc' : ch < src.n) :
    (vertPass .u16 (horizPass .u16 src dstW tempH yFirst hc) dstW dstH 0 vc).get x y ch
      ≤ (vertPass .u16 (horizPass .u16 src' dstW tempH yFirst hc) dstW dstH 0 vc).get x y ch :=
  Fir.Proofs.twoPass_monotone_u16 src src' dstW dstH tempH yFirst hc vc hn hpH hpV hkH hkV hle haccH hfit haccV x y ch hx hy hc'

/-! ### I32 and the float formats: order preservation is exact for every monotone rounding -/

open Fir.Flt in
/-- raising any sample never lowers the rounded f64 sum when all coefficients are non-negative - for the
    portable loop ... -/
theorem float_pass_monotone (fl : ℚ → ℚ) (hfl : Monotone fl) (ks xs ys : List ℚ) (hk : ∀ k ∈ ks, 0 ≤ k)
    (hxy : List.Forall₂ (· ≤ ·) xs ys) : accF fl ks xs 0 ≤ accF fl ks ys 0 :=
  accF_mono fl hfl ks xs ys hk hxy 0 0 (le_refl 0)

open Fir.Flt in
/-- ... and for every summation order (SIMD lanes, horizontal adds); the final `round() as i32` and
    `as f32` are monotone too (C17.roundHalfAway_mono, `Monotone fl32`), so I32 / F32 results are ordered
    exactly, per back-end -/
theorem float_tree_monotone (fl : ℚ → ℚ) (hfl : Monotone fl) (k : ℕ → ℚ) (hk : ∀ i, 0 ≤ k i) (x y : ℕ → ℚ)
    (hxy : ∀ i, x i ≤ y i) (t : Shape) : t.eval fl x k ≤ t.eval fl y k :=
  eval_mono fl hfl k hk x y hxy t

open Fir.Flt in
/-- no overshoot for floats: the rounded sum of samples in `[lo, hi]` lies between the rounded sums of
    the constant rows `lo` and `hi` (which C10.uniform_float places within rounding error of `lo`, `hi`) -/
theorem float_range (fl : ℚ → ℚ) (hfl : Monotone fl) (k : ℕ → ℚ) (hk : ∀ i, 0 ≤ k i) (x : ℕ → ℚ) (lo hi : ℚ)
    (hx : ∀ i, lo ≤ x i ∧ x i ≤ hi) (t : Shape) :
    t.eval fl (fun _ => lo) k ≤ t.eval fl x k ∧ t.eval fl x k ≤ t.eval fl (fun _ => hi) k :=
  ⟨eval_mono fl hfl k hk _ _ (fun i => (hx i).1) t, eval_mono fl hfl k hk _ _ (fun i => (hx i).2) t⟩

/-! ### signs survive every rounding: non-negative kernel ⇒ non-negative weights and coefficients -/

/-- the running sum `ww += w` of non-negative kernel values is non-negative for every monotone rounding
    with `fl 0 = 0` (so `ww != 0.` means `ww > 0`) -/
theorem weight_sum_nonneg (fl : ℚ → ℚ) (hfl : Monotone fl) (h0 : fl 0 = 0) (ws : List ℚ) (hw : ∀ w ∈ ws, 0 ≤ w) :
    0 ≤ ws.foldl (fun s w => fl (s + w)) 0 :=
  Fir.Proofs.sum_weights_nonneg fl hfl h0 ws hw 0 (le_refl 0)

/-- `w /= ww` and `(w * 2^p).round() as i16 / i32`: a non-negative kernel value gives a non-negative
    normalised weight and a non-negative integer coefficient, whatever the magnitudes and roundings -
    the hypothesis `hk` of the monotonicity / range theorems above, for Box, Bilinear (proved non-negative)
    and for Hamming, Gaussian (sign of the f64 evaluation checked on the real coefficients) -/
theorem nonneg_weights (fl : ℚ → ℚ) (hfl : Monotone fl) (h0 : fl 0 = 0) (w ww P : ℚ) (hw : 0 ≤ w) (hww : 0 < ww) (hP : 0 ≤ P) :
    0 ≤ fl (w / ww) ∧ 0 ≤ Fir.Proofs.roundHalfAway (fl (fl (w / ww) * P)) :=
  Fir.Proofs.nonneg_weights fl hfl h0 w ww P hw hww hP

/-! ### non-vacuity -/
example : passInt .u8 [8192, 8192] [10, 20] 14 ≤ passInt .u8 [8192, 8192] [10, 21] 14 := by decide
example : RowLe [1, 2] [1, 3] := by decide

/-! ### the premises about rounding discharged for IEEE-754 round-to-nearest-even (`Fir.Ieee.flP`) -/

section IeeeInstances
open Fir.Ieee Fir.Flt
/-- order preservation of the f64 accumulation for IEEE binary64, every summation order -/
theorem float_tree_monotone_ieee (k : ℕ → ℚ) (hk : ∀ i, 0 ≤ k i) (x y : ℕ → ℚ) (hxy : ∀ i, x i ≤ y i) (t : Shape) :
    t.eval (flP 53) x k ≤ t.eval (flP 53) y k :=
  float_tree_monotone (flP 53) (flP_monotone 53 (by norm_num)) k hk x y hxy t

/-- ... including the final narrowing to binary32 of the F32 formats -/
theorem float_result_monotone_ieee (k : ℕ → ℚ) (hk : ∀ i, 0 ≤ k i) (x y : ℕ → ℚ) (hxy : ∀ i, x i ≤ y i) (t : Shape) :
    flP 24 (t.eval (flP 53) x k) ≤ flP 24 (t.eval (flP 53) y k) :=
  flP_monotone 24 (by norm_num) (float_tree_monotone_ieee k hk x y hxy t)
end IeeeInstances

/-- order preservation reaches the SIMD back-end: with non-negative coefficients, a pointwise smaller RGBA16 row gives a pointwise
    smaller-or-equal result through the lane-accurate model of the SSE4.1 horizontal kernels (`Fir.SimdU16x4.pixel`, equal to
    `passInt` by Fir.C02), provided the `i64` accumulator does not overflow (`Fir.C03.headroom_u16`) -/
theorem monotone_u16x4_sse4 (ks : List Int) (p : Nat) (r1 r2 : List Int) (start c : Nat) (hc : c < 4) (hp : p < 64)
    (hk0 : ∀ k ∈ ks, 0 ≤ k) (hk : ∀ k ∈ ks, -2147483648 ≤ k ∧ k ≤ 2147483647)
    (hb1 : ∀ i, 0 ≤ r1.getD i 0 ∧ r1.getD i 0 ≤ 65535) (hb2 : ∀ i, 0 ≤ r2.getD i 0 ∧ r2.getD i 0 ≤ 65535)
    (hle : ∀ i, r1.getD i 0 ≤ r2.getD i 0)
    (hx : -(2 ^ 63 : Int) ≤ 2 ^ (p - 1) + dotL ks ((List.range ks.length).map fun i => r1.getD (4 * (start + i) + c) 0) ∧
          2 ^ (p - 1) + dotL ks ((List.range ks.length).map fun i => r1.getD (4 * (start + i) + c) 0) < 2 ^ 63)
    (hy : -(2 ^ 63 : Int) ≤ 2 ^ (p - 1) + dotL ks ((List.range ks.length).map fun i => r2.getD (4 * (start + i) + c) 0) ∧
          2 ^ (p - 1) + dotL ks ((List.range ks.length).map fun i => r2.getD (4 * (start + i) + c) 0) < 2 ^ 63) :
    (Fir.SimdU16x4.pixel p r1 start ks).getD c 0 ≤ (Fir.SimdU16x4.pixel p r2 start ks).getD c 0 := by
  rw [Fir.Proofs.PassInt.u16x4 p r1 start ks c hc hk hb1, Fir.Proofs.PassInt.u16x4 p r2 start ks c hc hk hb2]
  exact Fir.Proofs.passInt_mono (.inr rfl) hk0 (Fir.Proofs.window_le fun _ _ => hle _) hx hy

end Fir.C18
