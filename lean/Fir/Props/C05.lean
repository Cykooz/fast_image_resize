/-
  C05 - A resize writes every destination pixel and nothing else.

  Two layers.
  (1) Index level: results reach memory only through `injectImg`, which writes through the view's row
      index lists - exactly the destination rectangle, every pixel of it, nothing else (oversized
      buffers, surroundings of a cropped view).
  (2) Value level: on success with at least one required pass (or Nearest, or the copy path) the
      logical result of `resizeModel` does not depend on the previous destination content (nothing
      stale survives); on a crop error or a zero dimension the previous content is returned unchanged.
  The source buffer is never an output of the model; the harness checks it byte for byte.
-/
import Fir.Proofs.StructLemmas
import Fir.Proofs.LayoutLemmas

namespace Fir.C05

/-- writing an image through a view leaves every buffer component outside the view's pixels unchanged -/
theorem inject_outside_unchanged (v : View) (n : Nat) (im : Img) (buf : Array Int) (j : Nat)
    (hout : ∀ q ∈ (v.rows 0).flatten, j / n ≠ q) (hn : 0 < n) :
    (injectImg v n im buf).getD j 0 = buf.getD j 0 :=
  Fir.Proofs.inject_outside_unchanged v n im buf j hout hn

theorem inject_size (v : View) (n : Nat) (im : Img) (buf : Array Int) : (injectImg v n im buf).size = buf.size :=
  Fir.Proofs.inject_size v n im buf

/-- ... and assigns every pixel of the view: the `k`-th exposed buffer pixel receives logical pixel `k` -/
theorem inject_inside_assigned (v : View) (hwf : v.wf = true) (n : Nat) (im : Img) (buf : Array Int) (k c : Nat)
    (hk : k < ((v.rows 0).flatten).length) (hc : c < n)
    (hfit : ∀ q ∈ (v.rows 0).flatten, (q + 1) * n ≤ buf.size) :
    (injectImg v n im buf).getD (((v.rows 0).flatten).getD k 0 * n + c) 0 = im.data.getD (k * n + c) 0 :=
  Fir.Proofs.inject_inside_assigned v hwf n im buf k c hk hc hfit

/-- on a crop error the destination is returned untouched -/
theorem error_leaves_destination (p : PixT) (src prev : Img) (alg : Alg) (useAlpha : Bool) (cl ct cw ch : Float)
    (hne : (cw == 0.0 || ch == 0.0 || prev.w == 0 || prev.h == 0) = false)
    (hcrop : cropCheck floatOps src.w src.h cl ct cw ch ≠ 0) :
    resizeModel p src prev ⟨alg, .box cl ct cw ch, useAlpha⟩ = (cropCheck floatOps src.w src.h cl ct cw ch, prev) :=
  Fir.Proofs.error_leaves_destination p src prev alg useAlpha cl ct cw ch hne hcrop

/-- when a dimension is zero the call is a no-op that returns Ok -/
theorem zero_size_leaves_destination (p : PixT) (src prev : Img) (alg : Alg) (useAlpha : Bool) (cl ct cw ch : Float)
    (hz : (cw == 0.0 || ch == 0.0 || prev.w == 0 || prev.h == 0) = true) :
    resizeModel p src prev ⟨alg, .box cl ct cw ch, useAlpha⟩ = (0, prev) :=
  Fir.Proofs.zero_size_leaves_destination p src prev alg useAlpha cl ct cw ch hz

/-- convolution with at least one required pass, and horizontal windows that are not all empty (always
    so for the built-in filters; the exception is known finding F18): the result is independent of what the
    destination held before (two destinations of the same size give the same result) -/
theorem convolution_overwrites_everything (p : PixT) (src prev prev' : Img) (cl ct cw ch : Float) (f : FilterSpec) (adaptive : Bool)
    (hw : prev'.w = prev.w) (hh : prev'.h = prev.h)
    (hne : ¬ (prev.w = 0 ∨ prev.h = 0 ∨ cw ≤ 0.0 ∨ ch ≤ 0.0))
    (hpass : (Float.ofNat prev.w != cw || cl != cl.round) = true ∨ (Float.ofNat prev.h != ch || ct != ct.round) = true)
    (htemp : boundsLast (precomputeCoefficients src.w cl (cl + cw) prev.w f adaptive)
               - boundsFirst (precomputeCoefficients src.w cl (cl + cw) prev.w f adaptive) ≠ 0) :
    doConvolution p src cl ct cw ch prev f adaptive = doConvolution p src cl ct cw ch prev' f adaptive :=
  Fir.Proofs.convolution_overwrites_everything p src prev prev' cl ct cw ch f adaptive hw hh hne hpass htemp

/-- Nearest: likewise -/
theorem nearest_overwrites_everything (src prev prev' : Img) (cl ct cw ch : Float)
    (hw : prev'.w = prev.w) (hh : prev'.h = prev.h)
    (hne : ¬ (prev.w = 0 ∨ prev.h = 0 ∨ cw ≤ 0.0 ∨ ch ≤ 0.0 ∨ src.h = 0)) :
    nearestPass src cl ct cw ch prev = nearestPass src cl ct cw ch prev' :=
  Fir.Proofs.nearest_overwrites_everything src prev prev' cl ct cw ch hw hh hne

/-- every pass produces an image of exactly the requested size with every component defined -/
theorem pass_sizes (k : CKind) (src : Img) (dstW dstH offset : Nat) (c : Coeffs) :
    (horizPass k src dstW dstH offset c).data.size = dstW * dstH * src.n ∧
    (vertPass k src dstW dstH offset c).data.size = dstW * dstH * src.n :=
  Fir.Proofs.pass_sizes k src dstW dstH offset c

end Fir.C05
