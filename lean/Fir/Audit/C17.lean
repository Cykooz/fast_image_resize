import Fir.Props.C17
#print axioms Fir.C17.u8_u16_is_bit_replication
#print axioms Fir.C17.u8_u16_monotone
#print axioms Fir.C17.u8_u16_endpoints
#print axioms Fir.C17.u16_u8_monotone
#print axioms Fir.C17.u16_u8_endpoints
#print axioms Fir.C17.u8_u16_u8_roundtrip
#print axioms Fir.C17.u8_i32_value
#print axioms Fir.C17.u16_i32_value
#print axioms Fir.C17.u8_i32_monotone
#print axioms Fir.C17.u16_i32_monotone
#print axioms Fir.C17.u8_i32_min
#print axioms Fir.C17.u16_i32_min
#print axioms Fir.C17.u8_i32_max_not_reached
#print axioms Fir.C17.u16_i32_max_not_reached
#print axioms Fir.C17.i32_u8_monotone
#print axioms Fir.C17.i32_u16_monotone
#print axioms Fir.C17.i32_u8_endpoints
#print axioms Fir.C17.i32_u16_endpoints
#print axioms Fir.C17.u8_i32_u8_roundtrip
#print axioms Fir.C17.u16_i32_u16_roundtrip
#print axioms Fir.C17.f32_roundtrip_u8
#print axioms Fir.C17.f32_roundtrip_u16
#print axioms Fir.C17.unsigned_to_f32_monotone_dyVal
#print axioms Fir.C17.u16_f32_monotone
#print axioms Fir.C17.u8_f32_monotone
#print axioms Fir.C17.unsigned_f32_endpoints
#print axioms Fir.C17.f32_unsigned_saturates
#print axioms Fir.C17.roundHalfAway_mono
#print axioms Fir.C17.float_to_int_monotone
#print axioms Fir.C17.int_to_float_monotone
#print axioms Fir.C17.float_sources_as_modelled
#print axioms Fir.C17.supported_pairs
#print axioms Fir.C17.float_to_int_monotone_ieee
#print axioms Fir.C17.soft_rounding_is_ieee
#print axioms Fir.C17.unsigned_to_f32_correctly_rounded
#print axioms Fir.C17.unsigned_to_f32_monotone
