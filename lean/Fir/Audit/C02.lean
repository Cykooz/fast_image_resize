import Fir.Props.C02
#print axioms Fir.C02.dot_append
#print axioms Fir.C02.dotChunked_eq_dot
#print axioms Fir.C02.partial_sums_perm
#print axioms Fir.C02.wrap_add
#print axioms Fir.C02.clip_table_eq_packs
#print axioms Fir.C02.clip16_eq_clamp
#print axioms Fir.C02.simd_div8_eq
#print axioms Fir.C02.simd_div8_all
#print axioms Fir.C02.simd_div16_faithful
#print axioms Fir.C02.simd_div16_within_one
#print axioms Fir.C02.simd_div16_all
#print axioms Fir.C02.simd_div16_all_within_one
#print axioms Fir.C02.soft_rounding_relerr
#print axioms Fir.C02.simd_div16_zero_alpha
#print axioms Fir.C02.simd_div16_source_as_modelled
#print axioms Fir.C02.reassoc_err
#print axioms Fir.C02.native_loop_is_comb
#print axioms Fir.C02.simd_div8_source_as_modelled
#print axioms Fir.C02.reassoc_err_ieee
#print axioms Fir.C02.u8x4_sse4_one_row_eq_portable
#print axioms Fir.C02.u8x4_sse4_one_row_eq_passInt
#print axioms Fir.C02.u8x4_sse4_one_row_source_as_modelled
#print axioms Fir.C02.u8x4_sse4_four_rows_eq_portable
#print axioms Fir.C02.u8x4_sse4_four_rows_eq_one_row
#print axioms Fir.C02.u8x4_sse4_four_rows_source_as_modelled
#print axioms Fir.C02.u8x4_avx2_four_rows_masks
#print axioms Fir.C02.u8x4_avx2_four_rows_source_as_modelled
#print axioms Fir.C02.u8x4_avx2_one_row_eq_portable
#print axioms Fir.C02.u8x4_one_row_avx2_eq_sse4
#print axioms Fir.C02.u8x4_avx2_one_row_source_as_modelled
#print axioms Fir.C02.u8x3_sse4_one_row_eq_portable
#print axioms Fir.C02.u8x3_sse4_one_row_source_as_modelled
#print axioms Fir.C02.u8x3_sse4_four_rows_eq_portable
#print axioms Fir.C02.u8x3_sse4_four_rows_source_as_modelled
#print axioms Fir.C02.u8x2_sse4_four_rows_eq_portable
#print axioms Fir.C02.u8x2_sse4_one_row_eq_portable
#print axioms Fir.C02.u8x2_sse4_kernels_agree_normalized
#print axioms Fir.C02.u8x2_sse4_source_as_modelled
#print axioms Fir.C02.u8x2_avx2_four_rows_masks
#print axioms Fir.C02.u8x2_avx2_four_rows_source_as_modelled
#print axioms Fir.C02.u8x2_avx2_one_row_eq_portable
#print axioms Fir.C02.u8x2_one_row_avx2_eq_sse4
#print axioms Fir.C02.u8x2_avx2_one_row_source_as_modelled
#print axioms Fir.C02.u8x1_sse4_eq_portable
#print axioms Fir.C02.u8x1_sse4_source_as_modelled
#print axioms Fir.C02.u8x1_avx2_eq_portable
#print axioms Fir.C02.u8x1_avx2_eq_sse4
#print axioms Fir.C02.u8x1_avx2_source_as_modelled
#print axioms Fir.C02.vert_u8_sse4_chunk32_eq_portable
#print axioms Fir.C02.vert_u8_sse4_chunk8_eq_portable
#print axioms Fir.C02.vert_u8_sse4_chunk4_eq_portable
#print axioms Fir.C02.vert_u8_sse4_source_as_modelled
#print axioms Fir.C02.vert_u8_avx2_chunk32_eq_portable
#print axioms Fir.C02.vert_u8_avx2_source_as_modelled
#print axioms Fir.C02.u16x4_sse4_eq_portable
#print axioms Fir.C02.u16x4_sse4_four_rows_masks
#print axioms Fir.C02.u16x4_sse4_source_as_modelled
#print axioms Fir.C02.u16x4_avx2_one_row_eq_portable
#print axioms Fir.C02.u16x4_one_row_avx2_eq_sse4
#print axioms Fir.C02.u16x4_avx2_four_rows_masks
#print axioms Fir.C02.u16x4_avx2_source_as_modelled
#print axioms Fir.C02.u16x3_sse4_one_row_eq_portable
#print axioms Fir.C02.u16x3_sse4_four_rows_eq_portable
#print axioms Fir.C02.u16x3_sse4_loads_in_row
#print axioms Fir.C02.u16x3_sse4_four_rows_masks
#print axioms Fir.C02.u16x3_sse4_source_as_modelled
#print axioms Fir.C02.u16x2_sse4_eq_portable
#print axioms Fir.C02.u16x2_sse4_four_rows_masks
#print axioms Fir.C02.u16x2_sse4_source_as_modelled
#print axioms Fir.C02.u16x2_avx2_one_row_eq_portable
#print axioms Fir.C02.u16x2_one_row_avx2_eq_sse4
#print axioms Fir.C02.u16x2_avx2_four_rows_masks
#print axioms Fir.C02.u16x2_avx2_source_as_modelled
#print axioms Fir.C02.u16x1_sse4_eq_portable
#print axioms Fir.C02.u16x1_sse4_four_rows_masks
#print axioms Fir.C02.u16x1_sse4_source_as_modelled
#print axioms Fir.C02.u16x1_avx2_one_row_eq_portable
#print axioms Fir.C02.u16x1_one_row_avx2_eq_sse4
#print axioms Fir.C02.u16x1_avx2_four_rows_masks
#print axioms Fir.C02.u16x1_avx2_source_as_modelled
#print axioms Fir.C02.vert_u16_sse4_chunk16_eq_portable
#print axioms Fir.C02.vert_u16_sse4_chunk8_eq_portable
#print axioms Fir.C02.vert_u16_sse4_chunk4_eq_portable
#print axioms Fir.C02.vert_u16_sse4_source_as_modelled
#print axioms Fir.C02.vert_u16_avx2_masks
#print axioms Fir.C02.vert_u16_avx2_source_as_modelled
#print axioms Fir.C02.u16x1_sse4_eq_passInt
#print axioms Fir.C02.u16x2_sse4_eq_passInt
#print axioms Fir.C02.u16x3_sse4_eq_passInt
#print axioms Fir.C02.u16x4_sse4_eq_passInt
#print axioms Fir.C02.u8x2_sse4_eq_passInt
#print axioms Fir.C02.u16x4_sse4_uniform
