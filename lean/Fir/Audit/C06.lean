import Fir.Props.C06
#print axioms Fir.C06.mul_div_255_exact
#print axioms Fir.C06.mul_div_65535_exact
#print axioms Fir.C06.recip_alpha_is_round
#print axioms Fir.C06.recip_alpha16_is_round
#print axioms Fir.C06.div8_faithful
#print axioms Fir.C06.sat_transparent
#print axioms Fir.C06.div16_faithful
#print axioms Fir.C06.div16_no_overflow
#print axioms Fir.C06.unsupported_rejected
#print axioms Fir.C06.alpha_unchanged
#print axioms Fir.C06.mulPixels_u8_exact
#print axioms Fir.C06.divPixels_u16_faithful
